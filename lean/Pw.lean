import Pw.C01.Driver
import Pw.C01.Examples
import Pw.C01.Full
import Pw.C01.Guard
import Pw.C01.Model
import Pw.C01.Spec
import Pw.C01.Symm
import Pw.C01.Walk
import Pw.C01.WalkPath
import Pw.C02.Assoc
import Pw.C02.Capstone
import Pw.C02.Copy
import Pw.C02.Count
import Pw.C02.Driver
import Pw.C02.Examples
import Pw.C02.Final
import Pw.C02.Frame
import Pw.C02.Inv
import Pw.C02.LayerLemmas
import Pw.C02.Model
import Pw.C02.Obs
import Pw.C02.ObsEq
import Pw.C02.ObsFull
import Pw.C02.Refine
import Pw.C02.Runs
import Pw.C02.Spec
import Pw.C02.Step
import Pw.C02.StoreRefine
import Pw.C02.Subgraph
import Pw.C03.Bits
import Pw.C03.Driver
import Pw.C03.Find
import Pw.C03.Full
import Pw.C03.Guards
import Pw.C03.Lift
import Pw.C03.Model
import Pw.C03.PairMap
import Pw.C03.Reach
import Pw.C03.Spec
import Pw.C03.Stationary
import Pw.C03.Table
import Pw.C03.TimeSeries
import Pw.C04.Cond
import Pw.C04.Decider
import Pw.C04.Driver
import Pw.C04.Model
import Pw.C04.Order
import Pw.C04.Spec
import Pw.C04.Struct
import Pw.C04.VStruct
import Pw.C05.Complete
import Pw.C05.Decider
import Pw.C05.Driver
import Pw.C05.Examples
import Pw.C05.Model
import Pw.C05.Orient
import Pw.C05.RoundTrip
import Pw.C05.Sound
import Pw.C05.Spec
import Pw.C06.Basic
import Pw.C06.Bridge
import Pw.C06.Dec
import Pw.C06.DecFull
import Pw.C06.DecProofs
import Pw.C06.Driver
import Pw.C06.Full
import Pw.C06.Mag
import Pw.C06.Model
import Pw.C06.Proofs
import Pw.C06.Search
import Pw.C06.Spec
import Pw.C07.Dec
import Pw.C07.DecProofs
import Pw.C07.Driver
import Pw.C07.Full
import Pw.C07.Model
import Pw.C07.ModelEqDec
import Pw.C07.Proofs
import Pw.C07.Spec
import Pw.C08.Complete
import Pw.C08.Dec
import Pw.C08.DecCorrect
import Pw.C08.Driver
import Pw.C08.Examples
import Pw.C08.Full
import Pw.C08.Loop
import Pw.C08.Model
import Pw.C08.Sound
import Pw.C08.Spec
import Pw.C09.Cond
import Pw.C09.Dec
import Pw.C09.DecCorrect
import Pw.C09.Driver
import Pw.C09.Examples
import Pw.C09.Full
import Pw.C09.Marks
import Pw.C09.Model
import Pw.C09.PagClass
import Pw.C09.PagOracle
import Pw.C09.SameEdges
import Pw.C09.Spec
import Pw.C09.Struct
import Pw.C09.ValidExamples
import Pw.C09.ValidOk
import Pw.C09.ValidSep
import Pw.C09.ValidStruct
import Pw.C10.Bridge
import Pw.C10.Driver
import Pw.C10.Encode
import Pw.C10.Examples
import Pw.C10.Full
import Pw.C10.Model
import Pw.C10.Sep
import Pw.C10.SepAll
import Pw.C10.SepAllProofs
import Pw.C10.Spec
import Pw.C10.Struct
import Pw.C10.Valid
import Pw.C11.Complete
import Pw.C11.Decider
import Pw.C11.Driver
import Pw.C11.Model
import Pw.C11.Sound
import Pw.C11.Spec
import Pw.C11.TestMin
import Pw.C12.Cut
import Pw.C12.District
import Pw.C12.Driver
import Pw.C12.Enum
import Pw.C12.Main
import Pw.C12.Model
import Pw.C12.Paths
import Pw.C12.Spec
import Pw.C13.Copy
import Pw.C13.Cpdag
import Pw.C13.CpdagInv
import Pw.C13.Driver
import Pw.C13.Examples
import Pw.C13.History
import Pw.C13.Lemmas
import Pw.C13.Model
import Pw.C13.Orient
import Pw.C13.OrientModel
import Pw.C13.Proofs
import Pw.C13.Rejected
import Pw.C13.Spec
import Pw.C14.Decode
import Pw.C14.Driver
import Pw.C14.Encode
import Pw.C14.Examples
import Pw.C14.Lift
import Pw.C14.Model
import Pw.C14.Pair
import Pw.C14.RoundTrip
import Pw.C14.Spec
import Pw.C14.Tetrad
import Pw.C14.Ts
import Pw.C14.TsProofs
import Pw.C15.Iso
import Pw.C16.Base
import Pw.C16.Corollaries
import Pw.C16.Driver
import Pw.C16.Examples
import Pw.C16.LevelBfs
import Pw.C16.Machine
import Pw.C16.Model
import Pw.C16.Perm
import Pw.C16.Possible
import Pw.C16.Proofs
import Pw.C16.Spec
import Pw.C17.Bfs
import Pw.C17.Corollaries
import Pw.C17.Driver
import Pw.C17.Findings
import Pw.C17.Model
import Pw.C17.Proofs
import Pw.C17.Spec
import Pw.C18.Bfs
import Pw.C18.Complete
import Pw.C18.Corollaries
import Pw.C18.Decider
import Pw.C18.DiscComplete
import Pw.C18.DiscSound
import Pw.C18.Driver
import Pw.C18.Findings
import Pw.C18.Marks
import Pw.C18.Model
import Pw.C18.Spec
import Pw.C18.UncovComplete
import Pw.C18.UncovSound
import Pw.C19.Acy
import Pw.C19.Char
import Pw.C19.Dec
import Pw.C19.Driver
import Pw.C19.Full
import Pw.C19.Loop
import Pw.C19.Model
import Pw.C19.Oracle
import Pw.C19.Scc
import Pw.C19.Sigma
import Pw.C19.Spec
import Pw.C20.Basic
import Pw.C20.Corollaries
import Pw.C20.Counter
import Pw.C20.Dict
import Pw.C20.Driver
import Pw.C20.FrameGen
import Pw.C20.Heap
import Pw.C20.Local
import Pw.C20.Model
import Pw.C20.Proofs
import Pw.C20.Spec
import Pw.C20.Trace
import Pw.Core.Closure
import Pw.Core.Graph
import Pw.Core.Proto
import Pw.T2.Basic
import Pw.T2.InA
import Pw.T2.Main
import Pw.T2.Moral
import Pw.T3.Basic
import Pw.T3.Bucket
import Pw.T3.C04
import Pw.T3.Chain
import Pw.T3.Corollaries
import Pw.T3.Elim
import Pw.T3.Ext
import Pw.T3.Label
import Pw.T3.LabelComplete
import Pw.T3.LabelSound
import Pw.T3.Lift
import Pw.T3.Main
import Pw.T5.Inducing
import Pw.T5.Main
import Pw.T5b.Basic
import Pw.T5b.Chain
import Pw.T5b.Descend
import Pw.T5b.FromD
import Pw.T5b.IndWalk
import Pw.T5b.Main
import Pw.T5b.Reduce
import Pw.T5b.ToD
import Pw.T8.FromAcy
import Pw.T8.Main
import Pw.T8.SigPath
import Pw.T8.ToAcy
import Pw.Driver
