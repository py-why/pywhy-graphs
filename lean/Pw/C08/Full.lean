import Pw.C08.Complete

/-! # C08: the full statement, the conditional theorem and the unconditional part -/
namespace C08
open MG

/-- second sentence of C08 for one input -/
def SoundOn (P : MG) (inner : List Nat) : Prop :=
  (meek P inner).nodes = P.nodes ∧
  (∀ a b, Skel (meek P inner) a b ↔ Skel P a b) ∧
  (∀ e ∈ P.dir, e ∈ (meek P inner).dir) ∧
  (∀ e ∈ (meek P inner).un, e ∈ P.un) ∧
  (∀ e ∈ (meek P inner).dir, e ∈ P.dir ∨ (HasUn P e.1 e.2 ∧ Compelled P e.1 e.2)) ∧
  (∀ D, ConsistentExt P D → ConsistentExt (meek P inner) D) ∧
  Simple (meek P inner) ∧
  pass (meek P inner) inner = (meek P inner, false)

/-- **C08, full statement**: on the pattern of every DAG the closure returns the essential graph; on
    every PDAG of the CPDAG class it is sound, monotone and terminates in a fixpoint – for every
    node order (`P.nodes`) and every set-iteration order (`inner`). -/
def C08_full : Prop :=
  (∀ (D Pt : MG) (inner : List Nat), IsDAG D → IsPattern D Pt → Pt.WF → inner.Nodup →
      (∀ v ∈ Pt.nodes, v ∈ inner) → IsEssential D Pt (meek Pt inner)) ∧
  (∀ (P : MG) (inner : List Nat), Simple P → inner.Nodup → SoundOn P inner)

/-- the unconditional part (everything except completeness on patterns) -/
theorem C08_sound_partial : ∀ (P : MG) (inner : List Nat), Simple P → inner.Nodup → SoundOn P inner :=
  fun P inner hs hin => meek_sound P inner hs hin

/-- C08 in full, conditional on Meek's theorem (`T3.c08_full` is the statement without the hypothesis) -/
theorem C08_full_of_T3 (hT3 : MeekT3) : C08_full :=
  ⟨fun D Pt inner hd hp hwf hin hcov => meek_pattern_essential_of_T3 hT3 D Pt inner hd hp hwf hin hcov,
   C08_sound_partial⟩

end C08
