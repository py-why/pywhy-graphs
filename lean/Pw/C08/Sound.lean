import Pw.C08.Spec
import Pw.C05.Orient
open Closure

/-! # C08: the Boolean tests of the model and orienting an edge in terms of the specification; the textbook Meek rules
are sound, and the conditions the code tests imply them -/
namespace C08
open MG

theorem hasDir_iff {G : MG} {a b : Nat} : hasDir G a b = true ↔ (a, b) ∈ G.dir := by
  simp [hasDir]

theorem hasUn_iff {G : MG} {a b : Nat} : hasUn G a b = true ↔ HasUn G a b := by
  simp [hasUn, HasUn]

theorem adj_iff {G : MG} {a b : Nat} : adj G a b = true ↔ Skel G a b := by
  simp [adj, hasDir, hasUn, Skel, or_assoc]

theorem adj_eq_false_iff {G : MG} {a b : Nat} : adj G a b = false ↔ ¬ Skel G a b := by
  rw [← adj_iff, Bool.not_eq_true]

theorem hasDir_eq_false_iff {G : MG} {a b : Nat} : hasDir G a b = false ↔ (a, b) ∉ G.dir := by
  rw [← hasDir_iff, Bool.not_eq_true]

theorem HasUn.symm {G : MG} {a b : Nat} (h : HasUn G a b) : HasUn G b a := Or.symm h

theorem Skel.symm {G : MG} {a b : Nat} (h : Skel G a b) : Skel G b a := C05.Adj.symm h

theorem HasUn.skel {G : MG} {a b : Nat} (h : HasUn G a b) : Skel G a b := Or.inr (Or.inr h)

theorem HasUn.nodes {G : MG} {a b : Nat} (h : HasUn G a b) (hwf : G.WF) : a ∈ G.nodes ∧ b ∈ G.nodes :=
  h.elim (hwf.2.2 _) fun h => (hwf.2.2 _ h).symm

theorem mem_orient_dir {G : MG} {i j : Nat} {e : Nat × Nat} :
    e ∈ (orient G i j).dir ↔ e ∈ G.dir ∨ e = (i, j) := by
  simp [orient]

theorem mem_orient_un {G : MG} {i j : Nat} {e : Nat × Nat} :
    e ∈ (orient G i j).un ↔ e ∈ G.un ∧ e ≠ (i, j) ∧ e ≠ (j, i) := by
  simp [orient]

@[simp] theorem orient_nodes {G : MG} {i j : Nat} : (orient G i j).nodes = G.nodes := rfl

theorem skel_orient {G : MG} {i j : Nat} (h : HasUn G i j) (a b : Nat) :
    Skel (orient G i j) a b ↔ Skel G a b := by
  constructor
  · refine C05.adj_of_edges (fun e he => ?_) fun e he => Or.inr (Or.inr (Or.inl (mem_orient_un.mp he).1))
    rcases mem_orient_dir.mp he with he | rfl
    · exact Or.inl he
    · exact h.skel
  · refine C05.adj_of_edges (fun e he => Or.inl (mem_orient_dir.mpr (Or.inl he))) fun e he => ?_
    by_cases e1 : e = (i, j)
    · subst e1; exact Or.inl (mem_orient_dir.mpr (Or.inr rfl))
    by_cases e2 : e = (j, i)
    · subst e2; exact Or.inr (Or.inl (mem_orient_dir.mpr (Or.inr rfl)))
    exact Or.inr (Or.inr (Or.inl (mem_orient_un.mpr ⟨he, e1, e2⟩)))

theorem simple_orient {G : MG} {i j : Nat} (hs : Simple G) : Simple (orient G i j) := by
  intro a b hab
  rw [mem_orient_dir] at hab
  simp only [mem_orient_un, ne_eq, Prod.mk.injEq]
  rcases hab with hab | hab
  · have := hs a b hab
    exact ⟨fun h => this.1 h.1, fun h => this.2 h.1⟩
  · cases hab
    exact ⟨fun h => h.2.1 ⟨rfl, rfl⟩, fun h => h.2.2 ⟨rfl, rfl⟩⟩

theorem wf_orient {G : MG} {i j : Nat} (hwf : G.WF) (hu : HasUn G i j) : (orient G i j).WF := by
  refine ⟨?_, hwf.2.1, fun e he => hwf.2.2 e (mem_orient_un.mp he).1⟩
  intro e he
  rcases mem_orient_dir.mp he with he | rfl
  · exact hwf.1 e he
  · exact hu.nodes hwf

theorem ext_orient {G D : MG} {i j : Nat} (hD : ConsistentExt G D) (h : HasUn G i j)
    (hij : (i, j) ∈ D.dir) : ConsistentExt (orient G i j) D := by
  have hdir : ∀ e ∈ (orient G i j).dir, e ∈ D.dir :=
    fun e he => (mem_orient_dir.mp he).elim (hD.dir e) fun h => h ▸ hij
  refine ⟨hD.nodes, hD.noUn, hD.acyclic, fun a b => (hD.skel a b).trans (skel_orient h a b).symm, hdir,
    fun a c b => ⟨fun hv => ?_, fun hv => ?_⟩⟩
  · obtain ⟨h1, h2, h3, h4⟩ := (hD.vstruct a c b).mp hv
    exact ⟨mem_orient_dir.mpr (Or.inl h1), mem_orient_dir.mpr (Or.inl h2), h3,
      fun hs => h4 ((skel_orient h a b).mp hs)⟩
  · exact ⟨hdir _ hv.1, hdir _ hv.2.1, hv.2.2.1,
      fun hs => hv.2.2.2 ((skel_orient h a b).mpr ((hD.skel a b).mp hs))⟩

theorem ext_dir_of_skel {G D : MG} (hD : ConsistentExt G D) {a b : Nat} (h : Skel G a b) :
    (a, b) ∈ D.dir ∨ (b, a) ∈ D.dir :=
  (C05.adj_plain hD.noUn a b).mp ((hD.skel a b).mpr h)

theorem acyclic_of_ext {G D : MG} (hD : ConsistentExt G D) : Acyclic G :=
  hD.acyclic.mono hD.dir

theorem irrefl_of_ext {G D : MG} (hD : ConsistentExt G D) (a : Nat) : ¬ Skel G a a := by
  intro h
  rcases ext_dir_of_skel hD h with h | h <;> exact hD.acyclic a a h (Anc.refl _)

theorem ext_of_pattern {D Pt : MG} (hd : IsDAG D) (hp : IsPattern D Pt) : ConsistentExt Pt D := by
  have hdir : ∀ e ∈ Pt.dir, e ∈ D.dir := fun e he => ((hp.dirIff e.1 e.2).mp he).elim fun _ hv => hv.1
  refine ⟨hp.nodes.symm, hd.noUn, hd.acyclic, fun a b => (hp.skel a b).symm, hdir, fun a c b => ⟨?_, ?_⟩⟩
  · rintro ⟨h1, h2, h3, h4⟩
    exact ⟨(hp.dirIff a c).mpr ⟨b, h1, h2, h3, h4⟩,
      (hp.dirIff b c).mpr ⟨a, h2, h1, fun e => h3 e.symm, fun h => h4 h.symm⟩, h3,
      fun h => h4 ((hp.skel a b).mp h)⟩
  · rintro ⟨h1, h2, h3, h4⟩
    exact ⟨hdir _ h1, hdir _ h2, h3, fun h => h4 ((hp.skel a b).mpr h)⟩

/-- both sides describe the arrows of the essential graph: as the closure produces them from the pattern,
    and as `IsEssential.dirIff` asks for them -/
theorem IsPattern.compelled_iff {D Pt : MG} (hd : IsDAG D) (hp : IsPattern D Pt) (a b : Nat) :
    ((a, b) ∈ Pt.dir ∨ (HasUn Pt a b ∧ Compelled Pt a b)) ↔ (Skel D a b ∧ Compelled Pt a b) := by
  have hext := ext_of_pattern hd hp
  constructor
  · rintro (h | ⟨hu, hc⟩)
    · exact ⟨(hp.skel a b).mp (Or.inl h), fun D' hD' => hD'.dir _ h⟩
    · exact ⟨(hp.skel a b).mp hu.skel, hc⟩
  · rintro ⟨hsk, hc⟩
    rcases (hp.skel a b).mpr hsk with h | h | h | h
    · exact Or.inl h
    · exact absurd (hext.dir _ h) (no_two_cycle hd.acyclic (hc D hext))
    · exact Or.inr ⟨Or.inl h, hc⟩
    · exact Or.inr ⟨Or.inr h, hc⟩

theorem Simple.not_hasUn {G : MG} (hs : Simple G) {a b : Nat} (h : (a, b) ∈ G.dir) : ¬ HasUn G a b :=
  fun hu => hu.elim (hs a b h).1 (hs a b h).2

theorem ConsistentExt.collider {G D : MG} (hD : ConsistentExt G D) {a c b : Nat} (hac : (a, c) ∈ D.dir)
    (hbc : (b, c) ∈ D.dir) (hne : a ≠ b) (hn : ¬ Skel G a b) : VStruct G a c b :=
  (hD.vstruct a c b).mp ⟨hac, hbc, hne, fun h => hn ((hD.skel a b).mp h)⟩

theorem ConsistentExt.dir_of_anc {G D : MG} (hD : ConsistentExt G D) {k i j : Nat} (hs : Skel G k i)
    (hkj : Anc D k j) (hji : (j, i) ∈ D.dir) : (k, i) ∈ D.dir := by
  rcases ext_dir_of_skel hD hs with h | h
  · exact h
  · exact (hD.acyclic j i hji (Anc.step h hkj)).elim

/-! Each rule is refuted in the reverse direction: with `j -> i` an extension would close a directed cycle (R2) or
get a collider at `i` between non-adjacent nodes, which `G` then has as well, with an arrow where `G` has an
undirected edge (R1, R3, R4). -/

theorem compelled_of_not_rev {G : MG} {i j : Nat} (h : HasUn G i j)
    (hno : ∀ D, ConsistentExt G D → (j, i) ∈ D.dir → False) : Compelled G i j := by
  intro D hD
  rcases ext_dir_of_skel hD h.skel with h1 | h1
  · exact h1
  · exact (hno D hD h1).elim

theorem R1_sound {G : MG} {i j : Nat} (hs : Simple G) (hu : HasUn G i j) : R1 G i j → Compelled G i j := by
  rintro ⟨k, hki, hn⟩
  refine compelled_of_not_rev hu fun D hD hji => ?_
  have hkj : k ≠ j := by rintro rfl; exact hs.not_hasUn hki hu.symm
  exact hs.not_hasUn (hD.collider (hD.dir _ hki) hji hkj hn).2.1 hu.symm

/-- R2 for a directed path of any length -/
theorem compelled_of_anc {G : MG} {i j : Nat} (hu : HasUn G i j) (h : Anc G i j) : Compelled G i j :=
  compelled_of_not_rev hu fun _ hD hji => hD.acyclic j i hji (h.mono hD.dir)

theorem R3_sound {G : MG} {i j : Nat} (hs : Simple G) (hu : HasUn G i j) : R3 G i j → Compelled G i j := by
  rintro ⟨k, l, hkl, hik, hil, hkj, hlj, hn⟩
  refine compelled_of_not_rev hu fun D hD hji => ?_
  have hk := hD.dir_of_anc hik.symm.skel (Anc.step (hD.dir _ hkj) (Anc.refl _)) hji
  have hl := hD.dir_of_anc hil.symm.skel (Anc.step (hD.dir _ hlj) (Anc.refl _)) hji
  exact hs.not_hasUn (hD.collider hk hl hkl hn).1 hik.symm

theorem R4_sound {G : MG} {i j : Nat} (hs : Simple G) (hu : HasUn G i j) : R4 G i j → Compelled G i j := by
  rintro ⟨k, l, hkj, hik, hkl, hlj, hn⟩
  refine compelled_of_not_rev hu fun D hD hji => ?_
  have hk := hD.dir_of_anc hik.symm.skel (Anc.step (hD.dir _ hkl) (Anc.step (hD.dir _ hlj) (Anc.refl _))) hji
  exact hs.not_hasUn (hD.collider hk hji hkj hn).1 hik.symm

theorem cond1_iff {G : MG} {i j : Nat} : cond1 G i j = true ↔ R1 G i j := by
  simp only [cond1, R1, List.any_eq_true, mem_parents, Bool.not_eq_true', adj_eq_false_iff]

theorem anc_of_mem_ancS {G : MG} {v k : Nat} (h : k ∈ ancS G v) : Anc G k v := by
  simp only [ancS, List.mem_filter] at h
  obtain ⟨h, _⟩ := h
  rw [mem_closure] at h
  obtain ⟨w, hw, _, hr⟩ := h
  exact (reach_parents_anc hr).tail (mem_parents.mp hw)

theorem anc_of_mem_descS {G : MG} {v k : Nat} (h : k ∈ descS G v) : Anc G v k := by
  simp only [descS, List.mem_filter] at h
  obtain ⟨h, _⟩ := h
  rw [mem_closure] at h
  obtain ⟨w, hw, _, hr⟩ := h
  exact Anc.step (mem_children.mp hw) (reach_children_anc hr)

theorem anc_of_cond2 {G : MG} {i j : Nat} (hc : cond2 G i j = true) : Anc G i j := by
  simp only [cond2, List.any_eq_true, List.mem_filter, decide_eq_true_eq] at hc
  obtain ⟨k, ⟨hk1, _⟩, hk2, _⟩ := hc
  exact (anc_of_mem_descS hk1).trans (anc_of_mem_ancS hk2)

theorem mem_combos {l : List Nat} {a b : Nat} (h : (a, b) ∈ combos l) (hn : l.Nodup) :
    a ∈ l ∧ b ∈ l ∧ a ≠ b := by
  induction l with
  | nil => simp [combos] at h
  | cons x t ih =>
    simp only [combos, List.mem_append, List.mem_map, Prod.mk.injEq] at h
    rw [List.nodup_cons] at hn
    rcases h with ⟨y, hy, rfl, rfl⟩ | h
    · exact ⟨List.mem_cons_self, List.mem_cons_of_mem _ hy, fun e => hn.1 (e ▸ hy)⟩
    · obtain ⟨h1, h2, h3⟩ := ih h hn.2
      exact ⟨List.mem_cons_of_mem _ h1, List.mem_cons_of_mem _ h2, h3⟩

theorem cond3_pair {G : MG} {i j k l : Nat} :
    (!adj G k l && !(hasDir G j k || !hasDir G k j) && !(hasDir G j l || !hasDir G l j) &&
      (hasUn G k i && hasUn G l i)) = true ↔
    ¬ Skel G k l ∧ ((j, k) ∉ G.dir ∧ (k, j) ∈ G.dir) ∧ ((j, l) ∉ G.dir ∧ (l, j) ∈ G.dir) ∧
      HasUn G k i ∧ HasUn G l i := by
  simp only [Bool.and_eq_true, Bool.not_eq_true', Bool.or_eq_false_iff, Bool.not_eq_false',
    adj_eq_false_iff, hasDir_eq_false_iff, hasDir_iff, hasUn_iff, and_assoc]

theorem R3_of_cond3 {G : MG} {inner : List Nat} {i j : Nat} (hin : inner.Nodup)
    (hc : cond3 G inner i j = true) : R3 G i j := by
  simp only [cond3, List.any_eq_true] at hc
  obtain ⟨⟨k, l⟩, hkl, hc⟩ := hc
  obtain ⟨hn, ⟨_, hkj⟩, ⟨_, hlj⟩, hki, hli⟩ := cond3_pair.mp hc
  exact ⟨k, l, (mem_combos hkl (hin.filter _)).2.2, hki.symm, hli.symm, hkj, hlj, hn⟩

theorem R4_of_cond4 {G : MG} {inner : List Nat} {i j : Nat} (hc : cond4 G inner i j = true) : R4 G i j := by
  simp only [cond4, List.any_eq_true, Bool.and_eq_true, Bool.not_eq_true', Bool.or_eq_false_iff,
    Bool.not_eq_false', beq_eq_false_iff_ne, adj_eq_false_iff, hasUn_iff, hasDir_iff, mem_children] at hc
  obtain ⟨k, _, ⟨⟨hkj, hik⟩, hn⟩, l, hkl, hlj⟩ := hc
  exact ⟨k, l, hkj, hik, hkl, hlj, hn⟩

theorem cond1_sound {G : MG} {i j : Nat} (hs : Simple G) (hu : HasUn G i j)
    (hc : cond1 G i j = true) : Compelled G i j :=
  R1_sound hs hu (cond1_iff.mp hc)

theorem cond2_sound {G : MG} {i j : Nat} (hu : HasUn G i j)
    (hc : cond2 G i j = true) : Compelled G i j :=
  compelled_of_anc hu (anc_of_cond2 hc)

theorem cond3_sound {G : MG} {inner : List Nat} {i j : Nat} (hs : Simple G) (hin : inner.Nodup)
    (hu : HasUn G i j) (hc : cond3 G inner i j = true) : Compelled G i j :=
  R3_sound hs hu (R3_of_cond3 hin hc)

theorem cond4_sound {G : MG} {inner : List Nat} {i j : Nat} (hs : Simple G)
    (hu : HasUn G i j) (hc : cond4 G inner i j = true) : Compelled G i j :=
  R4_sound hs hu (R4_of_cond4 hc)

end C08
