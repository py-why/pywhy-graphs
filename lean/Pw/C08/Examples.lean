import Pw.C08.Loop
import Pw.C08.DecCorrect
open Closure

/-! # C08: non-vacuity examples, kernel-checked instances (tests), and the counterexample for the
unfixed rule 1 -/
namespace C08
open MG

protected theorem acyclic_of_rank {D : MG} (r : Nat → Nat) (h : ∀ e ∈ D.dir, r e.1 < r e.2) : Acyclic D :=
  MG.acyclic_of_rank r h

/-- `0 -> 1 - 2` (0, 2 non-adjacent): rule 1 must orient `1 -> 2` -/
def exP : MG := { nodes := [0, 1, 2], dir := [(0, 1)], un := [(1, 2)] }
def exD : MG := { nodes := [0, 1, 2], dir := [(0, 1), (1, 2)] }

theorem exP_simple : Simple exP := by
  intro a b h
  simp [exP] at h ⊢
  omega

theorem exP_wf : exP.WF := by
  unfold MG.WF; decide

theorem exP_ext : ConsistentExt exP exD :=
  candidate_ext exP_wf (o := [(1, 2)]) (by decide) (acyclic_of_rank id (by decide)) (by decide)

theorem exP_meek : meek exP [0, 1, 2] = { nodes := [0, 1, 2], dir := [(0, 1), (1, 2)], un := [] } := by
  decide +kernel

/-- non-vacuity of `meek_sound` / `meek_complete_of_T3`: the hypotheses hold for `exP`, and the
    closure does orient the edge (kernel evaluation of the model) -/
example : Simple exP ∧ exP.WF ∧ (∃ D, ConsistentExt exP D) ∧ [0, 1, 2].Nodup ∧
    (∀ v ∈ exP.nodes, v ∈ [0, 1, 2]) ∧ (meek exP [0, 1, 2]).dir = [(0, 1), (1, 2)] ∧
    (meek exP [0, 1, 2]).un = [] :=
  ⟨exP_simple, exP_wf, ⟨exD, exP_ext⟩, by decide, by simp [exP], by rw [exP_meek], by rw [exP_meek]⟩

/-- instance of `meek_sound` -/
example : Compelled exP 1 2 := by
  have h := (meek_sound exP [0, 1, 2] exP_simple (by decide)).2.2.2.2.1 (1, 2)
    (by rw [exP_meek]; decide)
  rcases h with h | h
  · simp [exP] at h
  · exact h.2

/-- non-vacuity of `meek_pattern_essential_of_T3`: the collider `0 -> 2 <- 1` is its own pattern -/
def exV : MG := { nodes := [0, 1, 2], dir := [(0, 2), (1, 2)] }

example : IsDAG exV ∧ IsPattern exV exV ∧ exV.WF := by
  have hwf : exV.WF := by unfold MG.WF; decide
  have hdag : IsDAG exV := ⟨rfl, acyclic_of_rank id (by decide)⟩
  have hp := patternOf_isPattern hdag hwf
  rw [show patternOf exV = exV by decide] at hp
  exact ⟨hdag, hp, hwf⟩

/-- condition of `_meek_rule1` as it was before the fix -/
def cond1Orig (G : MG) (i j : Nat) : Bool := (ancS G i).any fun k => !adj G k j

/-- `2 -> 0 -> 1`, `1 - 2` -/
def cxP : MG := { nodes := [0, 1, 2], dir := [(2, 0), (0, 1)], un := [(1, 2)] }
def cxD : MG := { nodes := [0, 1, 2], dir := [(2, 0), (0, 1), (2, 1)] }

theorem cxP_ext : ConsistentExt cxP cxD :=
  candidate_ext (o := [(2, 1)]) (by unfold MG.WF; decide) (by decide)
    (acyclic_of_rank (fun v => if v = 2 then 0 else if v = 0 then 1 else 2) (by decide)) (by decide)

/-- **counterexample (fixed defect C08-rule1-ancestors).** With ancestors instead of parents the rule
    fires on `(1, 2)` of `2 -> 0 -> 1, 1 - 2` although `1 -> 2` is not compelled (it closes a cycle). -/
theorem C08_counterexample_rule1_ancestors :
    hasUn cxP 1 2 = true ∧ cond1Orig cxP 1 2 = true ∧ ¬ Compelled cxP 1 2 := by
  have h1 : hasUn cxP 1 2 = true := by decide +kernel
  have h2 : cond1Orig cxP 1 2 = true := by
    simp only [cond1Orig, List.any_eq_true, Bool.not_eq_true']
    refine ⟨2, ?_, by decide⟩
    simp only [ancS, List.mem_filter, bne_iff_ne, ne_eq]
    refine ⟨?_, by decide⟩
    rw [mem_closure]
    exact ⟨0, by decide, by decide, Reach.tail (Reach.refl _) ⟨by decide, by decide⟩⟩
  refine ⟨h1, h2, fun h => ?_⟩
  have := h cxD cxP_ext
  simp [cxD] at this

end C08
