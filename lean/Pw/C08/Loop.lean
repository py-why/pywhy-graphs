import Pw.C08.Sound
open Closure

/-! # C08: the fixpoint loop

Every graph the loop goes through is reached from the input by orienting undirected edges in a compelled
direction (`Steps`), and a sweep that reports a change has removed an undirected edge (`Prog`). -/
namespace C08
open MG

/-- `G` is reached from `P` by orienting, one at a time, undirected edges in a compelled direction -/
inductive Steps (P : MG) : MG → Prop
  | refl : Steps P P
  | step {G : MG} {i j : Nat} : Steps P G → HasUn G i j → Compelled G i j → Steps P (orient G i j)

theorem Steps.trans {P G H : MG} (h1 : Steps P G) (h2 : Steps G H) : Steps P H := by
  induction h2 with
  | refl => exact h1
  | step _ hu hc ih => exact Steps.step ih hu hc

theorem Steps.simple {P G : MG} (h : Steps P G) (hs : Simple P) : Simple G := by
  induction h with
  | refl => exact hs
  | step _ _ _ ih => exact simple_orient ih

theorem Steps.nodes {P G : MG} (h : Steps P G) : G.nodes = P.nodes := by
  induction h with
  | refl => rfl
  | step _ _ _ ih => exact ih

theorem Steps.skel {P G : MG} (h : Steps P G) (a b : Nat) : Skel G a b ↔ Skel P a b := by
  induction h with
  | refl => exact Iff.rfl
  | step _ hu _ ih => exact (skel_orient hu a b).trans ih

theorem Steps.dir_mono {P G : MG} (h : Steps P G) : ∀ e ∈ P.dir, e ∈ G.dir := by
  induction h with
  | refl => exact fun _ h => h
  | step _ _ _ ih => exact fun e he => mem_orient_dir.mpr (Or.inl (ih e he))

theorem Steps.un_anti {P G : MG} (h : Steps P G) : ∀ e ∈ G.un, e ∈ P.un := by
  induction h with
  | refl => exact fun _ h => h
  | step _ _ _ ih => exact fun e he => ih e (mem_orient_un.mp he).1

theorem Steps.hasUn_anti {P G : MG} (h : Steps P G) {a b : Nat} (hu : HasUn G a b) : HasUn P a b :=
  hu.imp (h.un_anti _) (h.un_anti _)

theorem Steps.ext {P G : MG} (h : Steps P G) {D : MG} (hD : ConsistentExt P D) : ConsistentExt G D := by
  induction h with
  | refl => exact hD
  | step _ hu hc ih => exact ext_orient ih hu (hc _ ih)

theorem Steps.dir_sound {P G : MG} (h : Steps P G) :
    ∀ e ∈ G.dir, e ∈ P.dir ∨ (HasUn P e.1 e.2 ∧ Compelled P e.1 e.2) := by
  induction h with
  | refl => exact fun e he => Or.inl he
  | @step G i j hs hu hc ih =>
    intro e he
    rcases mem_orient_dir.mp he with he | rfl
    · exact ih e he
    · exact Or.inr ⟨hs.hasUn_anti hu, fun D hD => hc D (hs.ext hD)⟩

theorem Steps.wf {P G : MG} (h : Steps P G) (hwf : P.WF) : G.WF := by
  induction h with
  | refl => exact hwf
  | step _ hu _ ih => exact wf_orient ih hu

theorem Steps.un_cases {P G : MG} (h : Steps P G) {a b : Nat} (hu : HasUn P a b) :
    HasUn G a b ∨ (a, b) ∈ G.dir ∨ (b, a) ∈ G.dir := by
  rcases (h.skel a b).mpr hu.skel with h1 | h1 | h1 | h1
  · exact Or.inr (Or.inl h1)
  · exact Or.inr (Or.inr h1)
  · exact Or.inl (Or.inl h1)
  · exact Or.inl (Or.inr h1)

def mu (G : MG) : Nat := G.un.length

theorem mu_orient_lt {G : MG} {i j : Nat} (h : HasUn G i j) : mu (orient G i j) < mu G := by
  apply List.length_filter_lt_length_iff_exists.mpr
  rcases h with h | h
  · exact ⟨_, h, by simp⟩
  · exact ⟨_, h, by simp⟩

/-- what one rule call does: nothing (flag `false`), or a sound orientation (flag `true`) -/
structure Prog (G : MG) (r : MG × Bool) : Prop where
  steps : Steps G r.1
  same : r.2 = false → r.1 = G
  lt : r.2 = true → mu r.1 < mu G

theorem Prog.le {G : MG} {r : MG × Bool} (h : Prog G r) : mu r.1 ≤ mu G := by
  cases hr : r.2 with
  | false => rw [h.same hr]; exact Nat.le_refl _
  | true => exact Nat.le_of_lt (h.lt hr)

theorem Prog.refl (G : MG) : Prog G (G, false) := ⟨Steps.refl, fun _ => rfl, fun h => (by cases h)⟩

theorem Prog.trans {G : MG} {r : MG × Bool} (h1 : Prog G r) {r' : MG × Bool} (h2 : Prog r.1 r') :
    Prog G (r'.1, r.2 || r'.2) where
  steps := h1.steps.trans h2.steps
  same := by
    intro h
    simp only [Bool.or_eq_false_iff] at h
    rw [h2.same h.2, h1.same h.1]
  lt := by
    intro h
    simp only [Bool.or_eq_true] at h
    rcases h with h | h
    · exact Nat.lt_of_le_of_lt h2.le (h1.lt h)
    · exact Nat.lt_of_lt_of_le (h2.lt h) h1.le

theorem fire_prog {G : MG} {i j : Nat} {c : Bool}
    (hc : HasUn G i j → c = true → Compelled G i j) : Prog G (fire G i j c) := by
  unfold fire
  by_cases h : (hasUn G i j && c) = true
  · rw [if_pos h]
    simp only [Bool.and_eq_true] at h
    have hu := hasUn_iff.mp h.1
    exact ⟨Steps.step Steps.refl hu (hc hu h.2), fun h => (by cases h), fun _ => mu_orient_lt hu⟩
  · rw [if_neg h]; exact Prog.refl G

theorem applyPair_prog {G : MG} {inner : List Nat} (hs : Simple G) (hin : inner.Nodup) (i j : Nat) :
    Prog G (applyPair G inner i j) := by
  unfold applyPair
  by_cases hij : (i == j) = true
  · rw [if_pos hij]; exact Prog.refl G
  · rw [if_neg hij]
    have p1 : Prog G (rule1 G i j) := fire_prog fun hu hc => cond1_sound hs hu hc
    have p2 := p1.trans (r' := rule2 _ i j) (fire_prog fun hu hc => cond2_sound hu hc)
    have p3 := p2.trans (r' := rule3 _ inner i j)
      (fire_prog fun hu hc => cond3_sound (p2.steps.simple hs) hin hu hc)
    have p4 := p3.trans (r' := rule4 _ inner i j)
      (fire_prog fun hu hc => cond4_sound (p3.steps.simple hs) hu hc)
    simpa [Bool.or_assoc] using p4

theorem innerLoop_prog {P : MG} {inner : List Nat} (hs : Simple P) (hin : inner.Nodup) (i : Nat)
    (js : List Nat) (s : MG × Bool) (h : Prog P s) : Prog P (innerLoop inner i js s) := by
  induction js generalizing s with
  | nil => exact h
  | cons j js ih => exact ih _ (h.trans (applyPair_prog (h.steps.simple hs) hin i j))

theorem outerLoop_prog {P : MG} {inner : List Nat} (hs : Simple P) (hin : inner.Nodup)
    (is : List Nat) (s : MG × Bool) (h : Prog P s) : Prog P (outerLoop inner is s) := by
  induction is generalizing s with
  | nil => exact h
  | cons i is ih => exact ih _ (innerLoop_prog hs hin i _ _ h)

theorem pass_prog {G : MG} {inner : List Nat} (hs : Simple G) (hin : inner.Nodup) :
    Prog G (pass G inner) := outerLoop_prog hs hin _ _ (Prog.refl G)

theorem meekLoop_succ (inner : List Nat) (f : Nat) (G : MG) :
    meekLoop inner (f + 1) G =
      if (pass G inner).2 then meekLoop inner f (pass G inner).1 else (pass G inner).1 := rfl

/-- the loop only takes sound steps, and with fuel above the number of undirected edges it ends in a fixpoint of the
    sweep: a sweep that reports a change has removed an undirected edge -/
theorem meekLoop_spec {inner : List Nat} (hin : inner.Nodup) (f : Nat) (G : MG) (hs : Simple G) :
    Steps G (meekLoop inner f G) ∧
      (mu G < f → pass (meekLoop inner f G) inner = (meekLoop inner f G, false)) := by
  induction f generalizing G with
  | zero => exact ⟨Steps.refl, fun h => nomatch h⟩
  | succ f ih =>
    have p := pass_prog (inner := inner) hs hin
    rw [meekLoop_succ]
    cases hr : (pass G inner).2 with
    | true =>
      obtain ⟨st, fix⟩ := ih _ (p.steps.simple hs)
      have := p.lt hr
      exact ⟨p.steps.trans st, fun h => fix (by omega)⟩
    | false =>
      have h1 := p.same hr
      rw [if_neg (by simp), h1]
      exact ⟨Steps.refl, fun _ => Prod.ext h1 hr⟩

theorem meek_steps {G : MG} {inner : List Nat} (hs : Simple G) (hin : inner.Nodup) :
    Steps G (meek G inner) := (meekLoop_spec hin _ G hs).1

theorem meek_fixpoint {G : MG} {inner : List Nat} (hs : Simple G) (hin : inner.Nodup) :
    pass (meek G inner) inner = (meek G inner, false) :=
  (meekLoop_spec hin _ G hs).2 (Nat.lt_succ_self _)

/-- **C08, second sentence** (any PDAG of the `CPDAG` class, any iteration orders): the closure keeps
    nodes and skeleton, keeps every arrow, turns undirected edges into arrows only, every new arrow
    holds in every consistent DAG extension of the input, every consistent extension of the input is
    one of the result, and the result is a fixpoint of the sweep. -/
theorem meek_sound (P : MG) (inner : List Nat) (hs : Simple P) (hin : inner.Nodup) :
    (meek P inner).nodes = P.nodes ∧
    (∀ a b, Skel (meek P inner) a b ↔ Skel P a b) ∧
    (∀ e ∈ P.dir, e ∈ (meek P inner).dir) ∧
    (∀ e ∈ (meek P inner).un, e ∈ P.un) ∧
    (∀ e ∈ (meek P inner).dir, e ∈ P.dir ∨ (HasUn P e.1 e.2 ∧ Compelled P e.1 e.2)) ∧
    (∀ D, ConsistentExt P D → ConsistentExt (meek P inner) D) ∧
    Simple (meek P inner) ∧
    pass (meek P inner) inner = (meek P inner, false) :=
  let h := meek_steps hs hin
  ⟨h.nodes, h.skel, h.dir_mono, h.un_anti, h.dir_sound, fun _ hD => h.ext hD, h.simple hs,
    meek_fixpoint hs hin⟩

end C08
