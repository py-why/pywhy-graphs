import Pw.C08.Loop
open Closure

/-! # C08: a fixpoint of the sweep is closed under the textbook rules R1–R4; completeness and the
pattern clause, conditional on Meek's theorem `MeekT3`.  `T3.meekT3` (Pw/T3/Main) proves `MeekT3`;
`T3.meek_complete`, `T3.meek_pattern_essential`, `T3.meek_order_independent` are the theorems below
without the hypothesis. -/
namespace C08
open MG

theorem fire_false {G : MG} {i j : Nat} {c : Bool} (h : (fire G i j c).2 = false) :
    (fire G i j c).1 = G ∧ (hasUn G i j && c) = false := by
  unfold fire at *
  by_cases hc : (hasUn G i j && c) = true
  · rw [if_pos hc] at h; cases h
  · rw [if_neg hc]; exact ⟨rfl, by simpa using hc⟩

theorem applyPair_false {G : MG} {inner : List Nat} {i j : Nat}
    (h : (applyPair G inner i j).2 = false) :
    (applyPair G inner i j).1 = G ∧
    (i ≠ j → hasUn G i j = true →
      cond1 G i j = false ∧ cond2 G i j = false ∧ cond3 G inner i j = false ∧ cond4 G inner i j = false) := by
  unfold applyPair at *
  by_cases hij : (i == j) = true
  · rw [if_pos hij]
    exact ⟨rfl, fun hne => absurd (by simpa using hij) hne⟩
  · rw [if_neg hij] at h ⊢
    simp only [rule1, rule2, rule3, rule4, Bool.or_eq_false_iff] at h ⊢
    obtain ⟨⟨⟨h1, h2⟩, h3⟩, h4⟩ := h
    obtain ⟨e1, c1⟩ := fire_false h1
    rw [e1] at h2 h3 h4 ⊢
    obtain ⟨e2, c2⟩ := fire_false h2
    rw [e2] at h3 h4 ⊢
    obtain ⟨e3, c3⟩ := fire_false h3
    rw [e3] at h4 ⊢
    obtain ⟨e4, c4⟩ := fire_false h4
    refine ⟨e4, fun _ hu => ?_⟩
    rw [hu] at c1 c2 c3 c4
    simp only [Bool.true_and] at c1 c2 c3 c4
    exact ⟨c1, c2, c3, c4⟩

theorem innerLoop_false {inner : List Nat} {i : Nat} (js : List Nat) (G : MG) (ch : Bool)
    (h : (innerLoop inner i js (G, ch)).2 = false) :
    ch = false ∧ (innerLoop inner i js (G, ch)).1 = G ∧ ∀ j ∈ js, (applyPair G inner i j).2 = false := by
  induction js generalizing G ch with
  | nil => exact ⟨h, rfl, fun _ hj => by cases hj⟩
  | cons j js ih =>
    have hstep : innerLoop inner i (j :: js) (G, ch) =
        innerLoop inner i js ((applyPair G inner i j).1, ch || (applyPair G inner i j).2) := rfl
    rw [hstep] at h ⊢
    obtain ⟨h1, h2, h3⟩ := ih _ _ h
    rw [Bool.or_eq_false_iff] at h1
    have e := (applyPair_false h1.2).1
    rw [e] at h3
    exact ⟨h1.1, h2.trans e, fun j' hj' => (List.mem_cons.mp hj').elim (fun h => h ▸ h1.2) (h3 j')⟩

theorem outerLoop_false {inner : List Nat} (is : List Nat) (G : MG) (ch : Bool)
    (h : (outerLoop inner is (G, ch)).2 = false) :
    ch = false ∧ (outerLoop inner is (G, ch)).1 = G ∧
      ∀ i ∈ is, ∀ j ∈ nbrs G inner i, (applyPair G inner i j).2 = false := by
  induction is generalizing G ch with
  | nil => exact ⟨h, rfl, fun _ hi => by cases hi⟩
  | cons i is ih =>
    have hstep : outerLoop inner (i :: is) (G, ch) =
        outerLoop inner is ((innerLoop inner i (nbrs G inner i) (G, ch)).1,
          (innerLoop inner i (nbrs G inner i) (G, ch)).2) := rfl
    rw [hstep] at h ⊢
    obtain ⟨h1, h2, h3⟩ := ih _ _ h
    obtain ⟨g1, g2, g3⟩ := innerLoop_false _ _ _ h1
    rw [g2] at h3
    exact ⟨g1, h2.trans g2, fun i' hi' => (List.mem_cons.mp hi').elim (fun h => h ▸ g3) (h3 i')⟩

theorem combos_complete {l : List Nat} {a b : Nat} (ha : a ∈ l) (hb : b ∈ l) (hab : a ≠ b) :
    (a, b) ∈ combos l ∨ (b, a) ∈ combos l := by
  induction l with
  | nil => cases ha
  | cons x t ih =>
    simp only [combos, List.mem_append, List.mem_map, Prod.mk.injEq]
    rcases List.mem_cons.mp ha with rfl | ha' <;> rcases List.mem_cons.mp hb with rfl | hb'
    · exact absurd rfl hab
    · exact Or.inl (Or.inl ⟨b, hb', rfl, rfl⟩)
    · exact Or.inr (Or.inl ⟨a, ha', rfl, rfl⟩)
    · rcases ih ha' hb' with h | h
      · exact Or.inl (Or.inr h)
      · exact Or.inr (Or.inr h)

theorem cond2_of_R2 {G : MG} {i j : Nat} (hwf : G.WF) (hac : Acyclic G) (hirr : ∀ a, ¬ Skel G a a) :
    R2 G i j → cond2 G i j = true := by
  rintro ⟨k, hik, hkj⟩
  have hk : k ∈ G.nodes := (hwf.1 _ hik).2
  simp only [cond2, List.any_eq_true, List.mem_filter, decide_eq_true_eq, Bool.not_eq_true',
    hasDir_eq_false_iff, descS, ancS, bne_iff_ne, ne_eq]
  refine ⟨k, ⟨⟨?_, ?_⟩, no_two_cycle hac hik⟩, ⟨?_, ?_⟩, no_two_cycle hac hkj⟩
  · rw [mem_closure]; exact ⟨k, mem_children.mpr hik, hk, Reach.refl _⟩
  · rintro rfl; exact hirr _ (Or.inl hik)
  · rw [mem_closure]; exact ⟨k, mem_parents.mpr hkj, hk, Reach.refl _⟩
  · rintro rfl; exact hirr _ (Or.inl hkj)

theorem cond3_of_R3 {G : MG} {inner : List Nat} {i j : Nat} (hac : Acyclic G)
    (hnbr : ∀ k, HasUn G i k → k ∈ nbrs G inner i) : R3 G i j → cond3 G inner i j = true := by
  rintro ⟨k, l, hkl, hik, hil, hkj, hlj, hn⟩
  simp only [cond3, List.any_eq_true]
  rcases combos_complete (hnbr k hik) (hnbr l hil) hkl with h | h
  · exact ⟨(k, l), h, cond3_pair.mpr
      ⟨hn, ⟨no_two_cycle hac hkj, hkj⟩, ⟨no_two_cycle hac hlj, hlj⟩, hik.symm, hil.symm⟩⟩
  · exact ⟨(l, k), h, cond3_pair.mpr
      ⟨fun h' => hn h'.symm, ⟨no_two_cycle hac hlj, hlj⟩, ⟨no_two_cycle hac hkj, hkj⟩, hil.symm,
        hik.symm⟩⟩

theorem cond4_of_R4 {G : MG} {inner : List Nat} {i j : Nat}
    (hnbr : ∀ k, HasUn G i k → k ∈ nbrs G inner i) : R4 G i j → cond4 G inner i j = true := by
  rintro ⟨k, l, hkj, hik, hkl, hlj, hn⟩
  simp only [cond4, List.any_eq_true, Bool.and_eq_true, Bool.not_eq_true', Bool.or_eq_false_iff,
    Bool.not_eq_false', beq_eq_false_iff_ne, adj_eq_false_iff, hasUn_iff, hasDir_iff, mem_children]
  exact ⟨k, hnbr k hik, ⟨⟨hkj, hik⟩, hn⟩, l, hkl, hlj⟩

/-- **fixpoint ⇒ closed.** If a sweep over `G` reports no change, no textbook rule R1–R4 applies to
    any undirected edge of `G`. -/
theorem closed_of_pass_false {G : MG} {inner : List Nat} (hwf : G.WF) (hcov : ∀ v ∈ G.nodes, v ∈ inner)
    (hac : Acyclic G) (hirr : ∀ a, ¬ Skel G a a) (hp : (pass G inner).2 = false) : MeekClosed G := by
  obtain ⟨_, _, hall⟩ := outerLoop_false G.nodes G false hp
  intro i j hu
  have hnbr : ∀ k, HasUn G i k → k ∈ nbrs G inner i :=
    fun k hk => List.mem_filter.mpr ⟨hcov _ (hk.nodes hwf).2, adj_iff.mpr hk.skel⟩
  have hne : i ≠ j := by rintro rfl; exact hirr _ hu.skel
  obtain ⟨c1, c2, c3, c4⟩ :=
    (applyPair_false (hall i (hu.nodes hwf).1 j (hnbr j hu))).2 hne (hasUn_iff.mpr hu)
  rw [Bool.eq_false_iff] at c1 c2 c3 c4
  exact ⟨mt cond1_iff.mpr c1, mt (cond2_of_R2 hwf hac hirr) c2, mt (cond3_of_R3 hac hnbr) c3,
    mt (cond4_of_R4 hnbr) c4⟩

/-- **completeness, conditional on Meek's theorem.**  For a PDAG of the `CPDAG` class with a
    consistent extension, the closure orients *exactly* the compelled undirected edges. -/
theorem meek_complete_of_T3 (hT3 : MeekT3) (P : MG) (inner : List Nat) (hs : Simple P) (hwf : P.WF)
    (hext : ∃ D, ConsistentExt P D) (hin : inner.Nodup) (hcov : ∀ v ∈ P.nodes, v ∈ inner) (a b : Nat) :
    (a, b) ∈ (meek P inner).dir ↔ (a, b) ∈ P.dir ∨ (HasUn P a b ∧ Compelled P a b) := by
  have st := meek_steps hs hin
  obtain ⟨D, hD⟩ := hext
  have hDG := st.ext hD
  have hclosed : MeekClosed (meek P inner) :=
    closed_of_pass_false (st.wf hwf) (by rw [st.nodes]; exact hcov) (acyclic_of_ext hDG)
      (irrefl_of_ext hDG) (by rw [meek_fixpoint hs hin])
  have hnot := hT3 P (meek P inner) hs ⟨D, hD⟩ st.nodes st.skel (st.simple hs) st.dir_mono
    (fun e he => (st.dir_sound e he).imp id And.right) hclosed
  constructor
  · exact st.dir_sound (a, b)
  · rintro (h | ⟨hu, hc⟩)
    · exact st.dir_mono _ h
    · rcases st.un_cases hu with h | h | h
      · exact absurd hc (hnot a b h)
      · exact h
      · exfalso
        rcases st.dir_sound _ h with h' | ⟨_, hc'⟩
        · exact hs.not_hasUn h' hu.symm
        · exact hD.acyclic a b (hc D hD) (Anc.step (hc' D hD) (Anc.refl _))

/-- **C08, first sentence (conditional on `MeekT3`).**  On the pattern of any DAG the closure returns
    the essential graph: an edge is directed iff it is compelled in the Markov equivalence class. -/
theorem meek_pattern_essential_of_T3 (hT3 : MeekT3) (D Pt : MG) (inner : List Nat) (hd : IsDAG D)
    (hp : IsPattern D Pt) (hwf : Pt.WF) (hin : inner.Nodup) (hcov : ∀ v ∈ Pt.nodes, v ∈ inner) :
    IsEssential D Pt (meek Pt inner) := by
  have hext := ext_of_pattern hd hp
  have st := meek_steps hp.simple hin
  refine ⟨st.nodes.trans hp.nodes, fun a b => (st.skel a b).trans (hp.skel a b), ?_, st.simple hp.simple⟩
  intro a b
  rw [meek_complete_of_T3 hT3 Pt inner hp.simple hwf ⟨D, hext⟩ hin hcov a b]
  exact hp.compelled_iff hd a b

/-- **order independence (conditional on `MeekT3`).** For a PDAG with a consistent extension the
    arrows and the remaining undirected edges of the result do not depend on the set-iteration order. -/
theorem meek_order_independent_of_T3 (hT3 : MeekT3) (P : MG) (inner₁ inner₂ : List Nat) (hs : Simple P)
    (hwf : P.WF) (hext : ∃ D, ConsistentExt P D) (h1 : inner₁.Nodup) (h2 : inner₂.Nodup)
    (c1 : ∀ v ∈ P.nodes, v ∈ inner₁) (c2 : ∀ v ∈ P.nodes, v ∈ inner₂) (a b : Nat) :
    ((a, b) ∈ (meek P inner₁).dir ↔ (a, b) ∈ (meek P inner₂).dir) ∧
    (HasUn (meek P inner₁) a b ↔ HasUn (meek P inner₂) a b) := by
  have d1 := meek_complete_of_T3 hT3 P inner₁ hs hwf hext h1 c1
  have d2 := meek_complete_of_T3 hT3 P inner₂ hs hwf hext h2 c2
  refine ⟨(d1 a b).trans (d2 a b).symm, ?_⟩
  have key : ∀ (i₁ i₂ : List Nat) (_ : i₁.Nodup) (_ : i₂.Nodup)
      (e1 : ∀ a b, (a, b) ∈ (meek P i₁).dir ↔ (a, b) ∈ P.dir ∨ (HasUn P a b ∧ Compelled P a b))
      (e2 : ∀ a b, (a, b) ∈ (meek P i₂).dir ↔ (a, b) ∈ P.dir ∨ (HasUn P a b ∧ Compelled P a b)),
      HasUn (meek P i₁) a b → HasUn (meek P i₂) a b := by
    intro i₁ i₂ n1 n2 e1 e2 hu
    have st1 := meek_steps (inner := i₁) hs n1
    have st2 := meek_steps (inner := i₂) hs n2
    have huP : HasUn P a b := st1.hasUn_anti hu
    have s1 := st1.simple hs
    rcases st2.un_cases huP with h | h | h
    · exact h
    · exact absurd hu (s1.not_hasUn ((e1 a b).mpr ((e2 a b).mp h)))
    · exact absurd hu.symm (s1.not_hasUn ((e1 b a).mpr ((e2 b a).mp h)))
  exact ⟨key inner₁ inner₂ h1 h2 d1 d2, key inner₂ inner₁ h2 h1 d2 d1⟩

end C08
