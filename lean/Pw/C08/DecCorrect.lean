import Pw.C08.Dec
import Pw.C08.Sound
open Closure

/-! # C08: the brute-force decider is correct – `extsDec` enumerates the consistent extensions up to
the order/multiplicity of the edge list, `compelledDec` decides `Compelled`, `hasExtDec` decides
existence of a consistent extension. -/
namespace C08
open MG

theorem orientations_eq : ∀ l, orientations l = C05.orientations l
  | [] => rfl
  | (a, b) :: t => by simp only [orientations, C05.orientations, orientations_eq t]

theorem sym_orientation {us o : List (Nat × Nat)} (ho : o ∈ orientations us) (a b : Nat) :
    ((a, b) ∈ o ∨ (b, a) ∈ o) ↔ ((a, b) ∈ us ∨ (b, a) ∈ us) :=
  C05.sym_orientation (orientations_eq us ▸ ho) a b

theorem vstructB_iff {G : MG} {a c b : Nat} : vstructB G a c b = true ↔ VStruct G a c b := by
  simp only [vstructB, VStruct, skelB, Bool.and_eq_true, hasDir_iff, bne_iff_ne, ne_eq, Bool.not_eq_true',
    adj_eq_false_iff, and_assoc]

theorem VStruct.nodes {G : MG} {a c b : Nat} (h : VStruct G a c b) (hwf : G.WF) :
    a ∈ G.nodes ∧ c ∈ G.nodes ∧ b ∈ G.nodes :=
  ⟨(hwf.1 _ h.1).1, (hwf.1 _ h.1).2, (hwf.1 _ h.2.1).1⟩

/-- comparing the v-structures over the node list is enough: the others have no v-structure -/
theorem sameV_iff {P D : MG} (hP : P.WF) (hD : D.WF) (hn : D.nodes = P.nodes) :
    sameV P D = true ↔ ∀ a c b, VStruct D a c b ↔ VStruct P a c b := by
  simp only [sameV, List.all_eq_true, beq_iff_eq]
  constructor
  · intro h a c b
    by_cases hm : a ∈ P.nodes ∧ c ∈ P.nodes ∧ b ∈ P.nodes
    · rw [← vstructB_iff, ← vstructB_iff, h a hm.1 c hm.2.1 b hm.2.2]
    · exact ⟨fun hv => absurd (hn ▸ hv.nodes hD) hm, fun hv => absurd (hv.nodes hP) hm⟩
  · intro h a _ c _ b _
    rw [Bool.eq_iff_iff, vstructB_iff, vstructB_iff]
    exact h a c b

/-- two graphs with the same arrows (as sets), same nodes, no undirected edges -/
structure SameDir (D D' : MG) : Prop where
  nodes : D'.nodes = D.nodes
  noUn : D.un = []
  noUn' : D'.un = []
  dir : ∀ e, e ∈ D'.dir ↔ e ∈ D.dir

theorem SameDir.skel {D D' : MG} (h : SameDir D D') (a b : Nat) : Skel D' a b ↔ Skel D a b :=
  C05.adj_congr h.noUn h.noUn' h.dir a b

theorem SameDir.vstruct {D D' : MG} (h : SameDir D D') (a c b : Nat) :
    VStruct D' a c b ↔ VStruct D a c b :=
  C05.vstruct_congr h.noUn h.noUn' h.dir a c b

theorem SameDir.acyclic {D D' : MG} (h : SameDir D D') (hac : Acyclic D) : Acyclic D' :=
  hac.mono fun e he => (h.dir e).mp he

theorem SameDir.ext {P D D' : MG} (h : SameDir D D') (hD : ConsistentExt P D) : ConsistentExt P D' where
  nodes := h.nodes.trans hD.nodes
  noUn := h.noUn'
  acyclic := h.acyclic hD.acyclic
  skel := fun a b => (h.skel a b).trans (hD.skel a b)
  dir := fun e he => (h.dir e).mpr (hD.dir e he)
  vstruct := fun a c b => (h.vstruct a c b).trans (hD.vstruct a c b)

theorem candidate_wf {P : MG} (hwf : P.WF) {o : List (Nat × Nat)} (ho : o ∈ orientations P.un) :
    (candidate P o).WF := by
  refine C05.wf_of_plain ?_ rfl rfl
  rintro ⟨a, b⟩ he
  rcases List.mem_append.mp he with he | he
  · exact hwf.1 _ he
  · exact HasUn.nodes (G := P) ((sym_orientation ho a b).mp (Or.inl he)) hwf

/-- a candidate has the skeleton of `P` by construction -/
theorem candidate_ext {P : MG} (hwf : P.WF) {o : List (Nat × Nat)} (ho : o ∈ orientations P.un)
    (hac : Acyclic (candidate P o)) (hv : sameV P (candidate P o) = true) :
    ConsistentExt P (candidate P o) :=
  ⟨rfl, rfl, hac, C05.adj_append_dir (sym_orientation ho), fun _ he => List.mem_append_left _ he,
    (sameV_iff hwf (candidate_wf hwf ho) rfl).mp hv⟩

theorem extsDec_sound {P : MG} (hwf : P.WF) {D : MG} (h : D ∈ extsDec P) : ConsistentExt P D := by
  simp only [extsDec, List.mem_filter, List.mem_map, Bool.and_eq_true, Bool.not_eq_true'] at h
  obtain ⟨⟨o, ho, rfl⟩, hcyc, hv⟩ := h
  exact candidate_ext hwf ho ((hasCycle_false_iff _ (candidate_wf hwf ho)).mp hcyc) hv

/-- the member of `extsDec P` is the candidate that orients every undirected edge the way `D` has it -/
theorem extsDec_complete {P : MG} (hwf : P.WF) {D : MG} (hD : ConsistentExt P D) :
    ∃ D' ∈ extsDec P, SameDir D D' := by
  have ho : P.un.map (C05.orientLike D.dir) ∈ orientations P.un :=
    orientations_eq _ ▸ C05.map_orientLike_mem _ _
  have hsame : SameDir D (candidate P (P.un.map (C05.orientLike D.dir))) :=
    ⟨hD.nodes.symm, hD.noUn, rfl,
      C05.mem_append_map_orientLike (fun _ _ => no_two_cycle hD.acyclic) hD.dir
        fun a b => (C05.adj_plain hD.noUn a b).symm.trans (hD.skel a b)⟩
  have hwfD := candidate_wf hwf ho
  refine ⟨_, ?_, hsame⟩
  simp only [extsDec, List.mem_filter, List.mem_map, Bool.and_eq_true, Bool.not_eq_true']
  exact ⟨⟨_, ho, rfl⟩, (hasCycle_false_iff _ hwfD).mpr (hsame.acyclic hD.acyclic),
    (sameV_iff hwf hwfD rfl).mpr fun a c b => (hsame.vstruct a c b).trans (hD.vstruct a c b)⟩

/-- **the oracle is the spec**: `compelledDec` decides `Compelled` -/
theorem compelledDec_iff {P : MG} (hwf : P.WF) (a b : Nat) :
    compelledDec P a b = true ↔ Compelled P a b := by
  simp only [compelledDec, List.all_eq_true, hasDir_iff]
  constructor
  · intro h D hD
    obtain ⟨D', hD', hs⟩ := extsDec_complete hwf hD
    exact (hs.dir _).mp (h D' hD')
  · intro h D hD
    exact h D (extsDec_sound hwf hD)

/-- `hasExtDec` decides the existence of a consistent extension (the quantifier of the soundness clause) -/
theorem hasExtDec_iff {P : MG} (hwf : P.WF) : hasExtDec P = true ↔ ∃ D, ConsistentExt P D := by
  simp only [hasExtDec, Bool.not_eq_true', List.isEmpty_eq_false_iff_exists_mem]
  constructor
  · rintro ⟨D, hD⟩; exact ⟨D, extsDec_sound hwf hD⟩
  · rintro ⟨D, hD⟩
    obtain ⟨D', hD', _⟩ := extsDec_complete hwf hD
    exact ⟨D', hD'⟩

theorem mem_compelledUn {P : MG} (hwf : P.WF) (a b : Nat) :
    (a, b) ∈ compelledUn P ↔ (HasUn P a b ∧ Compelled P a b) := by
  rw [← compelledDec_iff hwf]
  simp only [compelledUn, compelledDec, List.mem_filter, List.mem_flatMap, List.mem_cons,
    List.not_mem_nil, or_false, HasUn]
  constructor
  · rintro ⟨⟨⟨x, y⟩, hxy, h | h⟩, hall⟩
    · cases h; exact ⟨Or.inl hxy, hall⟩
    · cases h; exact ⟨Or.inr hxy, hall⟩
  · rintro ⟨h | h, hall⟩
    · exact ⟨⟨(a, b), h, Or.inl rfl⟩, hall⟩
    · exact ⟨⟨(b, a), h, Or.inr rfl⟩, hall⟩

theorem mem_patternOf_dir {D : MG} (hwf : D.WF) (a c : Nat) :
    (a, c) ∈ (patternOf D).dir ↔ ∃ b, VStruct D a c b := by
  simp only [patternOf, List.mem_filter, List.any_eq_true]
  constructor
  · rintro ⟨_, b, _, hb⟩; exact ⟨b, vstructB_iff.mp hb⟩
  · rintro ⟨b, hv⟩
    exact ⟨hv.1, b, (hwf.1 _ hv.2.1).1, vstructB_iff.mpr hv⟩

theorem mem_patternOf_un {D : MG} (hwf : D.WF) (a c : Nat) :
    (a, c) ∈ (patternOf D).un ↔ ((a, c) ∈ D.dir ∧ ¬ ∃ b, VStruct D a c b) := by
  simp only [patternOf, List.mem_filter, Bool.not_eq_true', List.any_eq_false]
  constructor
  · rintro ⟨h, hno⟩
    refine ⟨h, ?_⟩
    rintro ⟨b, hv⟩
    exact hno b (hwf.1 _ hv.2.1).1 (vstructB_iff.mpr hv)
  · rintro ⟨h, hno⟩
    exact ⟨h, fun b _ hb => hno ⟨b, vstructB_iff.mp hb⟩⟩

theorem patternOf_isPattern {D : MG} (hd : IsDAG D) (hwf : D.WF) : IsPattern D (patternOf D) := by
  refine ⟨rfl, C05.adj_filter_split hd.noUn _, mem_patternOf_dir hwf, ?_⟩
  · intro a b h
    rw [mem_patternOf_dir hwf] at h
    rw [mem_patternOf_un hwf, mem_patternOf_un hwf]
    obtain ⟨x, hv⟩ := h
    exact ⟨fun h' => h'.2 ⟨x, hv⟩, fun h' => no_two_cycle hd.acyclic hv.1 h'.1⟩

theorem patternOf_wf {D : MG} (hwf : D.WF) : (patternOf D).WF := by
  refine ⟨?_, by simp [patternOf], ?_⟩
  · intro e he
    simp only [patternOf, List.mem_filter] at he
    exact hwf.1 e he.1
  · intro e he
    simp only [patternOf, List.mem_filter] at he
    exact hwf.1 e he.1

/-- **the run-time oracle for the pattern clause is the spec**: `essentialDec D` is the essential
    graph of the DAG `D` -/
theorem essentialDec_isEssential {D : MG} (hd : IsDAG D) (hwf : D.WF) :
    IsEssential D (patternOf D) (essentialDec D) := by
  have hp := patternOf_isPattern hd hwf
  have hwfP := patternOf_wf hwf
  have hext := ext_of_pattern hd hp
  have hc := mem_compelledUn hwfP
  have hEdir : ∀ a b, (a, b) ∈ (essentialDec D).dir ↔
      ((a, b) ∈ (patternOf D).dir ∨ (a, b) ∈ compelledUn (patternOf D)) := by
    intro a b; simp only [essentialDec, List.mem_append]
  have hEun : ∀ a b, (a, b) ∈ (essentialDec D).un ↔
      ((a, b) ∈ (patternOf D).un ∧ (a, b) ∉ compelledUn (patternOf D) ∧
        (b, a) ∉ compelledUn (patternOf D)) := by
    intro a b
    simp only [essentialDec, List.mem_filter, Bool.not_eq_true', Bool.or_eq_false_iff,
      decide_eq_false_iff_not]
  refine ⟨rfl, ?_, ?_, ?_⟩
  · intro a b
    rw [← hp.skel a b]
    refine C05.adj_orient (P := patternOf D) (fun a b => ?_) a b
    constructor
    · rintro ((h | h) | h | h)
      · exact ((hc a b).mp h).1
      · exact ((hc b a).mp h).1.symm
      · exact Or.inl ((hEun a b).mp h).1
      · exact Or.inr ((hEun b a).mp h).1
    · intro h
      by_cases c1 : (a, b) ∈ compelledUn (patternOf D)
      · exact Or.inl (Or.inl c1)
      by_cases c2 : (b, a) ∈ compelledUn (patternOf D)
      · exact Or.inl (Or.inr c2)
      exact Or.inr (h.imp (fun h => (hEun a b).mpr ⟨h, c1, c2⟩) fun h => (hEun b a).mpr ⟨h, c2, c1⟩)
  · intro a b
    rw [hEdir, hc]
    exact hp.compelled_iff hd a b
  · intro a b h
    rw [hEun, hEun]
    rcases (hEdir a b).mp h with h | h
    · have := hp.simple a b h
      exact ⟨fun h' => this.1 h'.1, fun h' => this.2 h'.1⟩
    · exact ⟨fun h' => h'.2.1 h, fun h' => h'.2.2 h⟩

end C08
