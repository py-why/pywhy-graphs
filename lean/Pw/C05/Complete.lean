import Pw.C05.Sound

/-! # C05 completeness (Dor–Tarsi; T4 of DESIGN §5)

If the PDAG has a consistent extension, the sink elimination never gets stuck, whatever node order
it follows: (1) the restriction of an extension to `V∖{x}` is an extension of `P−x` for *every* x,
(2) a finite DAG has a sink, (3) a sink of an extension passes the eligibility test. -/
namespace C05
open MG (Anc)

theorem sink_from (D : MG) (hac : D.Acyclic) (n : Nat) (ns : List Nat) (hn : ns.length = n) (v : Nat)
    (hv : v ∈ ns) : ∃ s ∈ ns, Anc D v s ∧ ∀ c ∈ ns, (s, c) ∉ D.dir := by
  induction n generalizing ns v with
  | zero => rw [List.length_eq_zero_iff.mp hn] at hv; cases hv
  | succ n ih =>
    by_cases hex : ∃ c ∈ ns, (v, c) ∈ D.dir
    · obtain ⟨c, hc, hvc⟩ := hex
      have hcv : c ≠ v := by rintro rfl; exact hac c c hvc (Anc.refl c)
      -- a sink `s` of the list without `v`, reached from `c`: an arrow `s -> v` would close a cycle
      obtain ⟨s, hs, hcs, hsink⟩ := ih (ns.erase v)
        (by rw [List.length_erase_of_mem hv, hn]; rfl) c ((List.mem_erase_of_ne hcv).mpr hc)
      refine ⟨s, List.mem_of_mem_erase hs, Anc.step hvc hcs, fun d hd hsd => ?_⟩
      by_cases hdv : d = v
      · subst hdv; exact hac s d hsd (Anc.step hvc hcs)
      · exact hsink d ((List.mem_erase_of_ne hdv).mpr hd) hsd
    · exact ⟨v, hv, Anc.refl v, fun c hc hvc => hex ⟨c, hc, hvc⟩⟩

theorem exists_sink (D : MG) (hac : D.Acyclic) (ns : List Nat) (hne : ns ≠ []) :
    ∃ s ∈ ns, ∀ c ∈ ns, (s, c) ∉ D.dir := by
  cases ns with
  | nil => exact absurd rfl hne
  | cons v t =>
    obtain ⟨s, hs, _, hsink⟩ := sink_from D hac _ (v :: t) rfl v List.mem_cons_self
    exact ⟨s, hs, hsink⟩

theorem vstruct_rm {H : MG} {x a c b : Nat} :
    VStruct (removeNode H x) a c b ↔ VStruct H a c b ∧ a ≠ x ∧ b ≠ x ∧ c ≠ x := by
  simp only [VStruct, mem_rm_dir, adj_rm]
  constructor
  · rintro ⟨⟨h1, ha, hc⟩, ⟨h2, hb, _⟩, hab, hn⟩
    exact ⟨⟨h1, h2, hab, fun h => hn ⟨h, ha, hb⟩⟩, ha, hb, hc⟩
  · rintro ⟨⟨h1, h2, hab, hn⟩, ha, hb, hc⟩
    exact ⟨⟨h1, ha, hc⟩, ⟨h2, hb, hc⟩, hab, fun h => hn h.1⟩

/-- (1) the restriction of a consistent extension to `V∖{x}` is a consistent extension of `P−x` -/
theorem ext_rm {P D : MG} (h : ConsistentExt P D) (x : Nat) :
    ConsistentExt (removeNode P x) (removeNode D x) := by
  refine ⟨?_, ?_, ?_, ?_, ?_, ?_⟩
  · intro v; simp only [mem_rm_nodes, h.nodes v]
  · obtain ⟨h1, h2, h3⟩ := h.plain
    refine ⟨?_, h2, h3⟩
    simp [removeNode, h1]
  · exact MG.Acyclic.mono (fun _ he => (mem_rm_dir.mp he).1) h.acyclic
  · intro a b; simp only [adj_rm, h.skel a b]
  · rintro ⟨a, b⟩ he
    obtain ⟨he, ha, hb⟩ := mem_rm_dir.mp he
    exact mem_rm_dir.mpr ⟨h.keeps _ he, ha, hb⟩
  · intro a c b; simp only [vstruct_rm, h.vstructs a c b]

theorem dom_rm {G : MG} (h : Dom G) (x : Nat) : Dom (removeNode G x) := by
  have := pwf_rm h.pwf x
  refine ⟨this.dirNodes, this.unNodes, this.unLoop, ?_⟩
  intro a b hab
  obtain ⟨hab, _, _⟩ := mem_rm_un.mp hab
  exact ⟨fun h' => (h.simple a b hab).1 (mem_rm_dir.mp h').1, fun h' => (h.simple a b hab).2 (mem_rm_dir.mp h').1⟩

/-- (3) a sink of a consistent extension passes the eligibility test of the code -/
theorem sink_eligible {P D : MG} (hd : Dom P) (h : ConsistentExt P D) (s : Nat)
    (hs : ∀ c, (s, c) ∉ D.dir) : eligible P s = true := by
  rw [eligible_iff]
  have hun := h.plain.1
  -- every node adjacent to s in P is a parent of s in D
  have into : ∀ y, Adj P s y → (y, s) ∈ D.dir := by
    intro y hy
    exact ((adj_plain hun s y).mp ((h.skel s y).mpr hy)).resolve_left (hs y)
  refine ⟨fun c hc => hs c (h.keeps _ hc), ?_⟩
  intro y hy z hz hzy
  have hy' : Adj P s y := Or.inr (Or.inr hy)
  have hz' : Adj P s z := by
    rcases hz with hz | hz
    · exact Or.inr (Or.inr hz)
    · exact Or.inr (Or.inl hz)
  apply Classical.byContradiction
  intro hn
  have hvs : VStruct D y s z :=
    ⟨into y hy', into z hz', Ne.symm hzy, fun hadj => hn ((h.skel y z).mp hadj)⟩
  have := ((h.vstructs y s z).mp hvs).1
  rcases hy with hy | hy
  · exact (hd.simple s y hy).2 this
  · exact (hd.simple y s hy).1 this

theorem ext_edge_nodes {P D : MG} (hd : PWF P) (h : ConsistentExt P D) {a b : Nat} (hab : (a, b) ∈ D.dir) :
    a ∈ P.nodes ∧ b ∈ P.nodes := by
  have : Adj P a b := (h.skel a b).mp (Or.inl hab)
  rcases this with h1 | h1 | h1 | h1
  · exact hd.dirNodes _ h1
  · exact ⟨(hd.dirNodes _ h1).2, (hd.dirNodes _ h1).1⟩
  · exact hd.unNodes _ h1
  · exact ⟨(hd.unNodes _ h1).2, (hd.unNodes _ h1).1⟩

theorem ConsistentExt.wf {P D : MG} (hp : PWF P) (h : ConsistentExt P D) : D.WF :=
  wf_of_plain (fun _ he => (ext_edge_nodes hp h he).imp (h.nodes _).mpr (h.nodes _).mpr) h.plain.2.1 h.plain.1

theorem exists_eligible {P D : MG} (hd : Dom P) (h : ConsistentExt P D) (hne : P.nodes ≠ []) :
    ∃ s ∈ P.nodes, eligible P s = true := by
  obtain ⟨s, hs, hsink⟩ := exists_sink D h.acyclic P.nodes hne
  refine ⟨s, hs, sink_eligible hd h s ?_⟩
  intro c hc
  exact hsink c (ext_edge_nodes hd.pwf h hc).2 hc

theorem elim_complete (G : MG) : Dom G → (∃ D, ConsistentExt G D) → ∃ R, elim G = .ok R := by
  refine elimWith_induct eligible
    (motive := fun G res => Dom G → (∃ D, ConsistentExt G D) → ∃ R, res = .ok R) ?_ ?_ ?_ G
  · intro G _ _ _; exact ⟨[], rfl⟩
  · intro G hemp hfind hd ⟨D, hD⟩
    obtain ⟨s, hs, hel⟩ := exists_eligible hd hD fun h => hemp (List.isEmpty_iff.mpr h)
    exact absurd hel (List.find?_eq_none.mp hfind s hs)
  · intro G x _ _ ih hd ⟨D, hD⟩
    obtain ⟨R, hR⟩ := ih (dom_rm hd x) ⟨_, ext_rm hD x⟩
    rw [hR]; exact ⟨_, rfl⟩

/-- **C05 completeness (Dor–Tarsi).** On the property's domain, if a consistent extension exists the
    model of `pdag_to_dag` returns (does not raise) – for every node order. -/
theorem pdagToDag_complete (P : MG) (hd : Dom P) (h : ∃ D, ConsistentExt P D) :
    ∃ D', pdagToDag P = .ok D' := by
  obtain ⟨R, hR⟩ := elim_complete P hd h
  exact ⟨{ nodes := P.nodes, dir := P.dir ++ R }, by simp [pdagToDag, hR]⟩

/-- **C05, both directions.** `pdag_to_dag` (model) raises iff no consistent extension exists, and
    whatever it returns is one. -/
theorem pdagToDag_spec (P : MG) (hd : Dom P) :
    (∀ D, pdagToDag P = .ok D → ConsistentExt P D) ∧
    ((∃ e, pdagToDag P = .error e) ↔ ¬ ∃ D, ConsistentExt P D) := by
  refine ⟨fun D h => pdagToDag_sound P D hd.pwf h, ?_⟩
  constructor
  · rintro ⟨e, he⟩ hex
    obtain ⟨D', hD'⟩ := pdagToDag_complete P hd hex
    rw [he] at hD'; cases hD'
  · intro hn
    cases hr : pdagToDag P with
    | error e => exact ⟨e, rfl⟩
    | ok D => exact absurd ⟨D, pdagToDag_sound P D hd.pwf hr⟩ hn

/-- the result does not depend on the node order as far as *existence* is concerned -/
theorem pdagToDag_order_irrelevant (P : MG) (hd : Dom P) (order : List Nat)
    (hperm : ∀ v, v ∈ order ↔ v ∈ P.nodes) :
    (∃ D, pdagToDag P = .ok D) ↔ ∃ D, pdagToDag { P with nodes := order } = .ok D := by
  have hd' : Dom { P with nodes := order } :=
    ⟨fun e he => ⟨(hperm _).mpr (hd.dirNodes e he).1, (hperm _).mpr (hd.dirNodes e he).2⟩,
     fun e he => ⟨(hperm _).mpr (hd.unNodes e he).1, (hperm _).mpr (hd.unNodes e he).2⟩,
     hd.unLoop, hd.simple⟩
  have key : ∀ {N N' : List Nat} {D}, (∀ v, v ∈ N ↔ v ∈ N') → ConsistentExt { P with nodes := N } D →
      ConsistentExt { P with nodes := N' } D :=
    fun hN h => ⟨fun v => (h.nodes v).trans (hN v), h.plain, h.acyclic, h.skel, h.keeps, h.vstructs⟩
  constructor
  · rintro ⟨D, hD⟩
    exact pdagToDag_complete _ hd' ⟨D, key (fun v => (hperm v).symm) (pdagToDag_sound P D hd.pwf hD)⟩
  · rintro ⟨D, hD⟩
    exact pdagToDag_complete _ hd ⟨D, key hperm (pdagToDag_sound _ D hd'.pwf hD)⟩

end C05
