import Pw.C05.Spec

/-! # Adjacency, v-structures and acyclicity under a change of the edge lists; orientations of a list of unordered
pairs: orienting does not change which nodes are joined, and a graph that joins the same nodes is reached by
orienting every pair the way that graph has it (`orientLike`) -/
namespace C05
open MG (Anc)

theorem Adj.symm {G : MG} {a b : Nat} (h : Adj G a b) : Adj G b a := by
  rcases h with h | h | h | h
  · exact Or.inr (Or.inl h)
  · exact Or.inl h
  · exact Or.inr (Or.inr (Or.inr h))
  · exact Or.inr (Or.inr (Or.inl h))

theorem adj_of_edges {G H : MG} (hd : ∀ e ∈ G.dir, Adj H e.1 e.2) (hu : ∀ e ∈ G.un, Adj H e.1 e.2) {a b : Nat}
    (h : Adj G a b) : Adj H a b := by
  rcases h with h | h | h | h
  · exact hd _ h
  · exact (hd _ h).symm
  · exact hu _ h
  · exact (hu _ h).symm

theorem adj_plain {D : MG} (hu : D.un = []) (a b : Nat) : Adj D a b ↔ ((a, b) ∈ D.dir ∨ (b, a) ∈ D.dir) := by
  simp only [Adj, hu, List.not_mem_nil, or_false]

theorem adj_congr {D D' : MG} (hu : D.un = []) (hu' : D'.un = []) (hd : ∀ e, e ∈ D'.dir ↔ e ∈ D.dir)
    (a b : Nat) : Adj D' a b ↔ Adj D a b := by
  rw [adj_plain hu, adj_plain hu', hd, hd]

theorem vstruct_congr {D D' : MG} (hu : D.un = []) (hu' : D'.un = []) (hd : ∀ e, e ∈ D'.dir ↔ e ∈ D.dir)
    (a c b : Nat) : VStruct D' a c b ↔ VStruct D a c b := by
  unfold VStruct; rw [hd, hd, adj_congr hu hu' hd]

theorem wf_of_plain {D : MG} (hd : ∀ e ∈ D.dir, e.1 ∈ D.nodes ∧ e.2 ∈ D.nodes) (hb : D.bi = []) (hu : D.un = []) :
    D.WF :=
  ⟨hd, by simp [hb], by simp [hu]⟩

theorem sym_orientation {us o : List (Nat × Nat)} (h : o ∈ orientations us) (a b : Nat) :
    ((a, b) ∈ o ∨ (b, a) ∈ o) ↔ ((a, b) ∈ us ∨ (b, a) ∈ us) := by
  induction us generalizing o with
  | nil =>
    rw [List.mem_singleton.mp h]
  | cons e t ih =>
    obtain ⟨x, y⟩ := e
    simp only [orientations, List.mem_flatMap, List.mem_cons, List.not_mem_nil, or_false] at h
    obtain ⟨o', ho', ho⟩ := h
    have hswap : ((a, b) = (y, x) ∨ (b, a) = (y, x)) ↔ ((a, b) = (x, y) ∨ (b, a) = (x, y)) := by
      simp only [Prod.mk.injEq, and_comm, or_comm]
    rcases ho with rfl | rfl <;> simp only [List.mem_cons]
    · exact or_or_or_comm.trans ((or_congr_right (ih ho')).trans or_or_or_comm)
    · exact or_or_or_comm.trans ((or_congr hswap (ih ho')).trans or_or_or_comm)

/-- orient a pair the way the edge list `d` has it -/
def orientLike (d : List (Nat × Nat)) (e : Nat × Nat) : Nat × Nat := if d.contains e then e else (e.2, e.1)

theorem map_orientLike_mem (d us : List (Nat × Nat)) : us.map (orientLike d) ∈ orientations us := by
  induction us with
  | nil => exact List.mem_singleton.mpr rfl
  | cons e es ih =>
    obtain ⟨a, b⟩ := e
    simp only [orientations, List.map_cons, List.mem_flatMap]
    refine ⟨_, ih, ?_⟩
    unfold orientLike
    split
    · exact List.mem_cons_self
    · exact List.mem_cons_of_mem _ List.mem_cons_self

/-- an edge list without two-cycles that contains `base` and otherwise joins the pairs of `us` is `base`
    with `us` oriented its way -/
theorem mem_append_map_orientLike {base us d : List (Nat × Nat)} (hasym : ∀ a b, (a, b) ∈ d → (b, a) ∉ d)
    (hbase : ∀ e ∈ base, e ∈ d)
    (hsym : ∀ a b, ((a, b) ∈ d ∨ (b, a) ∈ d) ↔
      ((a, b) ∈ base ∨ (b, a) ∈ base ∨ (a, b) ∈ us ∨ (b, a) ∈ us)) :
    ∀ e, e ∈ base ++ us.map (orientLike d) ↔ e ∈ d := by
  rintro ⟨a, b⟩
  simp only [List.mem_append, List.mem_map, orientLike, List.contains_iff_mem]
  constructor
  · rintro (he | ⟨⟨u, v⟩, he0, hf⟩)
    · exact hbase _ he
    · split at hf
      · rename_i hc; rw [← hf]; exact hc
      · rename_i hc
        cases hf
        exact ((hsym u v).mpr (Or.inr (Or.inr (Or.inl he0)))).resolve_left hc
  · intro he
    rcases (hsym a b).mp (Or.inl he) with h1 | h1 | h1 | h1
    · exact Or.inl h1
    · exact absurd (hbase _ h1) (hasym a b he)
    · exact Or.inr ⟨(a, b), h1, by simp [he]⟩
    · exact Or.inr ⟨(b, a), h1, by simp [hasym a b he]⟩

theorem adj_orient {P : MG} {o u : List (Nat × Nat)}
    (h : ∀ a b, (((a, b) ∈ o ∨ (b, a) ∈ o) ∨ (a, b) ∈ u ∨ (b, a) ∈ u) ↔ ((a, b) ∈ P.un ∨ (b, a) ∈ P.un))
    (a b : Nat) : Adj { nodes := P.nodes, dir := P.dir ++ o, un := u } a b ↔ Adj P a b := by
  simp only [Adj, List.mem_append]
  exact or_assoc.symm.trans ((or_congr_left or_or_or_comm).trans
    (or_assoc.trans ((or_congr_right (h a b)).trans or_assoc)))

theorem adj_append_dir {P : MG} {o : List (Nat × Nat)}
    (h : ∀ a b, ((a, b) ∈ o ∨ (b, a) ∈ o) ↔ ((a, b) ∈ P.un ∨ (b, a) ∈ P.un)) (a b : Nat) :
    Adj { nodes := P.nodes, dir := P.dir ++ o } a b ↔ Adj P a b :=
  adj_orient (fun a b => by simp only [List.not_mem_nil, or_false]; exact h a b) a b

theorem adj_filter_split {D : MG} (hu : D.un = []) (p : Nat × Nat → Bool) (a b : Nat) :
    Adj { nodes := D.nodes, dir := D.dir.filter p, un := D.dir.filter fun e => !p e } a b ↔ Adj D a b := by
  have split : ∀ e, e ∈ D.dir ↔ (e ∈ D.dir.filter p ∨ e ∈ D.dir.filter fun e => !p e) := by
    intro e; cases h : p e <;> simp [h]
  rw [adj_plain hu, split, split]
  exact or_assoc.symm.trans or_or_or_comm

end C05
