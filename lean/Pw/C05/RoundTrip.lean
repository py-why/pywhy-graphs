import Pw.C05.Complete
import Pw.C04.Cond

/-! # C05 consequence clauses (round trips)

From *the* essential graph `C` of a DAG `D` (spec `C04.Essential`) the model of `pdag_to_dag` returns a DAG Markov
equivalent to `D`; by Chickering's theorem (`C04.T3`, proved as `T3.c04_T3`) this applies to `C = dag_to_cpdag D`:
the theorems `…_of_T3` take `T3` as an argument, `T3.c05_roundtrip` and `T3.c05_pdagToCpdag_fixpoint` supply it. -/
namespace C05
open C04 (IsDag Essential MarkovEquiv Compelled SameGraph T3 IsTopo dagToCpdag)

theorem ext_of_essential {D C : MG} (hd : IsDag D) (he : Essential D C) : ConsistentExt C D := by
  have hsub : ∀ e, e ∈ C.dir → e ∈ D.dir := fun ⟨a, b⟩ h => C04.compelled_mem hd ((he.directed a b).mp h)
  refine ⟨fun v => (he.nodes v).symm, hd.plain, hd.acyclic, fun a b => (he.skel a b).symm, hsub, ?_⟩
  intro a c b
  constructor
  · intro hv
    exact ⟨(he.directed a c).mpr (C04.vstruct_compelled hv),
           (he.directed b c).mpr (C04.vstruct_compelled (C04.vstruct_symm hv)),
           hv.2.2.1, fun h => hv.2.2.2 ((he.skel a b).mp h)⟩
  · rintro ⟨h1, h2, hne, hn⟩
    exact ⟨hsub _ h1, hsub _ h2, hne, fun h => hn ((he.skel a b).mpr h)⟩

theorem dom_of_essential {D C : MG} (hd : IsDag D) (hwf : D.WF) (he : Essential D C) : Dom C := by
  have hDu := hd.plain.1
  have adjD : ∀ a b, Adj D a b → ((a, b) ∈ D.dir ∨ (b, a) ∈ D.dir) := fun a b => (adj_plain hDu a b).mp
  have unAdj : ∀ a b, (a, b) ∈ C.un → Adj D a b := fun a b h => ((he.undirected a b).mp (Or.inl h)).1
  refine ⟨?_, ?_, ?_, ?_⟩
  · rintro ⟨a, b⟩ h
    have := hwf.1 _ (C04.compelled_mem hd ((he.directed a b).mp h))
    exact ⟨(he.nodes _).mpr this.1, (he.nodes _).mpr this.2⟩
  · rintro ⟨a, b⟩ h
    rcases adjD a b (unAdj a b h) with h1 | h1
    · exact ⟨(he.nodes _).mpr (hwf.1 _ h1).1, (he.nodes _).mpr (hwf.1 _ h1).2⟩
    · exact ⟨(he.nodes _).mpr (hwf.1 _ h1).2, (he.nodes _).mpr (hwf.1 _ h1).1⟩
  · rintro ⟨a, b⟩ h hab
    simp only at hab
    subst hab
    rcases adjD a a (unAdj a a h) with h1 | h1 <;> exact hd.acyclic a a h1 (MG.Anc.refl a)
  · intro a b h
    have := (he.undirected a b).mp (Or.inl h)
    exact ⟨fun h' => this.2.1 ((he.directed a b).mp h'), fun h' => this.2.2 ((he.directed b a).mp h')⟩

theorem markovEquiv_of_ext {P D D' : MG} (h : ConsistentExt P D) (h' : ConsistentExt P D') :
    MarkovEquiv D D' :=
  ⟨fun v => (h'.nodes v).trans (h.nodes v).symm, fun a b => (h'.skel a b).trans (h.skel a b).symm,
   fun a c b => (h'.vstructs a c b).trans (h.vstructs a c b).symm⟩

/-- **round trip, unconditional form**: from the essential graph of `D` the model of `pdag_to_dag`
    returns (never raises) a DAG that is Markov equivalent to `D` – for every node order of `C`. -/
theorem roundtrip_of_essential {D C : MG} (hd : IsDag D) (hwf : D.WF) (he : Essential D C) :
    ∃ D2, pdagToDag C = .ok D2 ∧ IsDag D2 ∧ MarkovEquiv D D2 := by
  have hdom := dom_of_essential hd hwf he
  have hD := ext_of_essential hd he
  obtain ⟨D2, h2⟩ := pdagToDag_complete C hdom ⟨D, hD⟩
  have hext := pdagToDag_sound C D2 hdom.pwf h2
  exact ⟨D2, h2, ⟨hext.plain, hext.acyclic⟩, markovEquiv_of_ext hD hext⟩

theorem roundtrip_of_T3 (h : T3) (D : MG) (topo : List Nat) (hd : IsDag D) (hwf : D.WF) (hn : D.dir.Nodup)
    (ht : IsTopo D topo) : ∃ D2, pdagToDag (dagToCpdag D topo) = .ok D2 ∧ IsDag D2 ∧ MarkovEquiv D D2 :=
  roundtrip_of_essential hd hwf (C04.C04_full_of_T3 h D topo hd hwf hn ht)

/-- `pdag_to_cpdag` maps the CPDAG of a DAG to itself (`topo2` is the topological order used by the second
    `dag_to_cpdag`) -/
theorem pdagToCpdag_fixpoint_of_T3 (h : T3) {D C : MG} (hd : IsDag D) (hwf : D.WF) (he : Essential D C)
    (D2 : MG) (h2 : pdagToDag C = .ok D2) (topo2 : List Nat) (hn2 : D2.dir.Nodup) (ht2 : IsTopo D2 topo2) :
    SameGraph (dagToCpdag D2 topo2) C := by
  have hdom := dom_of_essential hd hwf he
  have hext := pdagToDag_sound C D2 hdom.pwf h2
  have hd2 : IsDag D2 := ⟨hext.plain, hext.acyclic⟩
  exact (C04.sameGraph_iff_markovEquiv hd2 hd
    (C04.C04_full_of_T3 h D2 topo2 hd2 (hext.wf hdom.pwf) hn2 ht2) he).mpr
    (markovEquiv_of_ext hext (ext_of_essential hd he))

end C05
