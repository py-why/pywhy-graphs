import Pw.Core.Graph

/-! # C05 model: `pdag_to_dag` (pywhy_graphs/algorithms/cpdag.py), Dor–Tarsi sink elimination

A PDAG is an `MG` using the layers `dir` (directed) and `un` (undirected).  `G.nodes` is the order in
which `nodes_memo` lists the nodes (`G.nodes` of the Python graph); the result of the code does depend
on it (a different consistent extension), the theorems hold for every order.

The three working copies `dir_G`, `undir_G`, `full_undir_G` always have the same node removed, so the
state of the loop is one shrinking `MG`; `full_undir_G.has_edge(a,b)` is `adjB`. -/
namespace C05

/-- `full_undir_G.has_edge(a, b)`: adjacency in any layer, either orientation -/
def adjB (G : MG) (a b : Nat) : Bool :=
  G.dir.contains (a, b) || G.dir.contains (b, a) || G.un.contains (a, b) || G.un.contains (b, a)

/-- `dir_G.remove_node(x); undir_G.remove_node(x); full_undir_G.remove_node(x); del nodes_memo[x]` -/
def removeNode (G : MG) (x : Nat) : MG :=
  { nodes := G.nodes.filter (· != x),
    dir := G.dir.filter (fun e => e.1 != x && e.2 != x),
    un := G.un.filter (fun e => e.1 != x && e.2 != x),
    bi := G.bi, circ := G.circ }

/-- the test of the inner `while` for one candidate node: no outgoing directed edge, and every
    undirected neighbour is adjacent to every other node adjacent to `x` (parents and undirected
    neighbours; a sink has no children).  This is the code after the `fix:` commit. -/
def eligible (G : MG) (x : Nat) : Bool :=
  (G.children x).isEmpty &&
  (G.unbrs x).all fun y => (G.unbrs x ++ G.parents x).all fun z => z == y || adjB G y z

/-- the eligibility test of the unchanged code: undirected neighbours ∪ parents form a clique
    (kept for `counterexample_old_clique_test`, C05/Examples.lean) -/
def eligibleOld (G : MG) (x : Nat) : Bool :=
  (G.children x).isEmpty &&
  ((G.unbrs x).isEmpty ||
   (G.unbrs x ++ G.parents x).all fun y => (G.unbrs x ++ G.parents x).all fun z => z == y || adjB G y z)

theorem length_removeNode_lt {G : MG} {x : Nat} (h : x ∈ G.nodes) :
    (removeNode G x).nodes.length < G.nodes.length := by
  simp only [removeNode]
  have h1 := List.countP_eq_length_filter (p := (· != x)) (l := G.nodes)
  have h2 : G.nodes.countP (· != x) < G.nodes.countP (fun _ => true) :=
    Closure.countP_lt' _ _ (by intros; rfl) G.nodes x h rfl (by simp)
  simp only [List.countP_true] at h2
  omega

/-- the outer `while len(nodes_memo) > 0` loop.  Returns the edges *added* to `dag`
    (`dag` starts as a copy of the directed layer) or the `ValueError`. -/
def elimWith (el : MG → Nat → Bool) (G : MG) : Except String (List (Nat × Nat)) :=
  if G.nodes.isEmpty then .ok []
  else
    match h : G.nodes.find? (el G) with
    | none => .error "no-extension"
    | some x =>
      match elimWith el (removeNode G x) with
      | .error e => .error e
      | .ok r => .ok ((G.unbrs x).map (·, x) ++ r)
termination_by G.nodes.length
decreasing_by exact length_removeNode_lt (List.mem_of_find?_eq_some h)

def elim (G : MG) : Except String (List (Nat × Nat)) := elimWith eligible G

/-- `pdag_to_dag`: the returned `nx.DiGraph` = P's nodes, P's directed edges plus the oriented ones -/
def pdagToDag (P : MG) : Except String MG :=
  match elim P with
  | .error e => .error e
  | .ok r => .ok { nodes := P.nodes, dir := P.dir ++ r }

/-- the unchanged code (clique test), for the counterexample -/
def pdagToDagOld (P : MG) : Except String MG :=
  match elimWith eligibleOld P with
  | .error e => .error e
  | .ok r => .ok { nodes := P.nodes, dir := P.dir ++ r }

end C05
