import Pw.C05.Complete

/-! # C05: kernel-evaluable form of the model, non-vacuity examples, counterexample for the unchanged code -/
namespace C05

/-- structurally recursive twin of `elimWith` (fuel = number of nodes) so that concrete instances can be
    evaluated by `decide` -/
def elimF (el : MG → Nat → Bool) : Nat → MG → Except String (List (Nat × Nat))
  | 0, _ => .ok []
  | n + 1, G =>
    if G.nodes.isEmpty then .ok []
    else
      match G.nodes.find? (el G) with
      | none => .error "no-extension"
      | some x =>
        match elimF el n (removeNode G x) with
        | .error e => .error e
        | .ok r => .ok ((G.unbrs x).map (·, x) ++ r)

theorem elimWith_eq_elimF (el : MG → Nat → Bool) (G : MG) :
    ∀ n, G.nodes.length ≤ n → elimWith el G = elimF el n G := by
  refine elimWith_induct el (motive := fun G res => ∀ n, G.nodes.length ≤ n → res = elimF el n G)
    ?_ ?_ ?_ G
  · intro G hemp n _
    cases n with
    | zero => rfl
    | succ n => rw [elimF, if_pos hemp]
  · intro G hemp hfind n hn
    cases n with
    | zero => exact absurd (List.isEmpty_iff.mpr (List.length_eq_zero_iff.mp (Nat.le_zero.mp hn))) hemp
    | succ n => rw [elimF, if_neg hemp, hfind]
  · intro G x hemp hfind ih n hn
    cases n with
    | zero => exact absurd (List.isEmpty_iff.mpr (List.length_eq_zero_iff.mp (Nat.le_zero.mp hn))) hemp
    | succ n =>
      have hlt := length_removeNode_lt (List.mem_of_find?_eq_some hfind)
      rw [elimF, if_neg hemp, hfind, ih n (by omega)]
      rfl

theorem elimWith_fuel (el : MG → Nat → Bool) (G : MG) : elimWith el G = elimF el G.nodes.length G :=
  elimWith_eq_elimF el G _ (Nat.le_refl _)

/-- witness of the repaired defect: `0->2, 0->3, 1->2, 1->3, 2--3` -/
def witness : MG := { nodes := [0, 1, 2, 3], dir := [(0, 2), (0, 3), (1, 2), (1, 3)], un := [(2, 3)] }
/-- the witness named in DESIGN §7: `p1->x<-p2, u--x, u->p1, u->p2` with p1=0, p2=1, x=2, u=3 -/
def witness2 : MG := { nodes := [0, 1, 2, 3], dir := [(0, 2), (1, 2), (3, 0), (3, 1)], un := [(3, 2)] }

/-- `Dom` with its last clause over the members of `P.un`, so that every clause is decidable -/
theorem dom_of_forall_mem {P : MG} (h1 : ∀ e ∈ P.dir, e.1 ∈ P.nodes ∧ e.2 ∈ P.nodes)
    (h2 : ∀ e ∈ P.un, e.1 ∈ P.nodes ∧ e.2 ∈ P.nodes) (h3 : ∀ e ∈ P.un, e.1 ≠ e.2)
    (h4 : ∀ e ∈ P.un, e ∉ P.dir ∧ (e.2, e.1) ∉ P.dir) : Dom P :=
  ⟨h1, h2, h3, fun a b h => h4 (a, b) h⟩

theorem witness_dom : Dom witness := dom_of_forall_mem (by decide) (by decide) (by decide) (by decide)

theorem witness_model : pdagToDag witness =
    .ok { nodes := [0, 1, 2, 3], dir := [(0, 2), (0, 3), (1, 2), (1, 3), (3, 2)] } := by
  rw [pdagToDag, elim, elimWith_fuel]; rfl

/-- non-vacuity of `pdagToDag_sound` and `pdagToDag_complete`: the witness is in the domain, the model
    returns, hence (soundness) a consistent extension exists -/
example : ∃ D, ConsistentExt witness D :=
  ⟨_, pdagToDag_sound witness _ witness_dom.pwf witness_model⟩

example : ∃ D', pdagToDag witness = .ok D' :=
  pdagToDag_complete witness witness_dom ⟨_, pdagToDag_sound witness _ witness_dom.pwf witness_model⟩

/-- an input without consistent extension (the suite's "inconsistent" case 1--3, 1->4, 2->3, 4->3):
    non-vacuity of the error direction of `pdagToDag_spec` -/
def noExt : MG := { nodes := [1, 2, 3, 4], dir := [(1, 4), (2, 3), (4, 3)], un := [(1, 3)] }

theorem noExt_dom : Dom noExt := dom_of_forall_mem (by decide) (by decide) (by decide) (by decide)

theorem noExt_model : pdagToDag noExt = .error "no-extension" := by
  rw [pdagToDag, elim, elimWith_fuel]; rfl

example : ¬ ∃ D, ConsistentExt noExt D :=
  ((pdagToDag_spec noExt noExt_dom).2).mp ⟨_, noExt_model⟩

/-- **Counterexample for the unchanged code** (known finding C05-pdag-to-dag-clique-test-too-strong,
    fixed): with the clique test the model raises on both witnesses although consistent extensions
    exist. -/
theorem counterexample_old_clique_test :
    pdagToDagOld witness = .error "no-extension" ∧ (∃ D, ConsistentExt witness D) ∧
    pdagToDagOld witness2 = .error "no-extension" ∧ (∃ D, ConsistentExt witness2 D) := by
  have hd2 : Dom witness2 := dom_of_forall_mem (by decide) (by decide) (by decide) (by decide)
  have hm2 : pdagToDag witness2 =
      .ok { nodes := [0, 1, 2, 3], dir := [(0, 2), (1, 2), (3, 0), (3, 1), (3, 2)] } := by
    rw [pdagToDag, elim, elimWith_fuel]; rfl
  refine ⟨?_, ⟨_, pdagToDag_sound witness _ witness_dom.pwf witness_model⟩, ?_,
    ⟨_, pdagToDag_sound witness2 _ hd2.pwf hm2⟩⟩
  · rw [pdagToDagOld, elimWith_fuel]; rfl
  · rw [pdagToDagOld, elimWith_fuel]; rfl

end C05
