import Pw.C05.Complete

/-! # C05: the deciders used by the harness (`isConsistentExt` = the `valid` command `c05valid`, `extDec` = brute
force over all orientations of the undirected edges) are the specification -/
namespace C05

theorem subsetB_iff {α : Type} [BEq α] [LawfulBEq α] {l1 l2 : List α} :
    subsetB l1 l2 = true ↔ ∀ x ∈ l1, x ∈ l2 := by
  simp [subsetB]

theorem adjB'_iff {G : MG} {a b : Nat} : adjB' G a b = true ↔ Adj G a b := adjB_iff

theorem adjB'_eq_false_iff {G : MG} {a b : Nat} : adjB' G a b = false ↔ ¬ Adj G a b := by
  rw [← adjB'_iff, Bool.not_eq_true]

theorem mem_vstructs {G : MG} {a c b : Nat} : (a, c, b) ∈ vstructs G ↔ VStruct G a c b := by
  simp only [vstructs, List.mem_flatMap, List.mem_map, List.mem_filter, Bool.and_eq_true, beq_iff_eq,
    bne_iff_ne, Bool.not_eq_true', adjB'_eq_false_iff, Prod.mk.injEq]
  constructor
  · rintro ⟨⟨a1, c1⟩, h1, ⟨b2, c2⟩, ⟨h2, ⟨hc, hne⟩, hadj⟩, rfl, rfl, rfl⟩
    simp only at hc hne hadj
    subst hc
    exact ⟨h1, h2, fun h => hne h.symm, hadj⟩
  · rintro ⟨h1, h2, hne, hadj⟩
    exact ⟨(a, c), h1, (b, c), ⟨h2, ⟨rfl, fun h => hne h.symm⟩, hadj⟩, rfl, rfl, rfl⟩

theorem subset_vstructs_iff {G H : MG} :
    subsetB (vstructs G) (vstructs H) = true ↔ ∀ a c b, VStruct G a c b → VStruct H a c b := by
  simp only [subsetB_iff, Prod.forall, mem_vstructs]

/-- `ConsistentExt` only depends on the node *set* and the directed-edge *set* of the extension -/
theorem ConsistentExt.congr {P D D' : MG} (h : ConsistentExt P D) (hn : ∀ v, v ∈ D'.nodes ↔ v ∈ D.nodes)
    (hplain : D'.un = [] ∧ D'.bi = [] ∧ D'.circ = []) (hd : ∀ e, e ∈ D'.dir ↔ e ∈ D.dir) :
    ConsistentExt P D' :=
  ⟨fun v => (hn v).trans (h.nodes v), hplain, MG.Acyclic.mono (fun e => (hd e).mp) h.acyclic,
    fun a b => (adj_congr h.plain.1 hplain.1 hd a b).trans (h.skel a b), fun e he => (hd e).mpr (h.keeps e he),
    fun a c b => (vstruct_congr h.plain.1 hplain.1 hd a c b).trans (h.vstructs a c b)⟩

/-- **the validity check of the harness decides the specification** -/
theorem isConsistentExt_iff (P D : MG) (hp : PWF P) : isConsistentExt P D = true ↔ ConsistentExt P D := by
  simp only [isConsistentExt, Bool.and_eq_true, subset_vstructs_iff]
  simp only [subsetB_iff, List.isEmpty_iff, List.all_eq_true, Bool.and_eq_true, Bool.not_eq_true',
    List.contains_iff_mem, List.mem_append, adjB'_iff]
  constructor
  · rintro ⟨⟨⟨⟨⟨⟨⟨⟨⟨⟨⟨hn1, hn2⟩, hun⟩, hbi⟩, hci⟩, hends⟩, hcyc⟩, hs1⟩, hs2⟩, hkeep⟩, hv1⟩, hv2⟩
    have hwfD : D.WF := wf_of_plain (fun e he => ⟨hn2 _ (hends e he).1, hn2 _ (hends e he).2⟩) hbi hun
    exact ⟨fun v => ⟨hn1 v, hn2 v⟩, ⟨hun, hbi, hci⟩, (MG.hasCycle_false_iff D hwfD).mp hcyc,
      fun a b => ⟨adj_of_edges hs1 (by simp [hun]),
        adj_of_edges (fun e he => hs2 e (Or.inl he)) fun e he => hs2 e (Or.inr he)⟩,
      hkeep, fun a c b => ⟨hv1 a c b, hv2 a c b⟩⟩
  · intro h
    have hends : ∀ e ∈ D.dir, e.1 ∈ P.nodes ∧ e.2 ∈ P.nodes := fun e he => ext_edge_nodes hp h he
    refine ⟨⟨⟨⟨⟨⟨⟨⟨⟨⟨⟨fun v hv => (h.nodes v).mp hv, fun v hv => (h.nodes v).mpr hv⟩, h.plain.1⟩, h.plain.2.1⟩,
      h.plain.2.2⟩, hends⟩, (MG.hasCycle_false_iff D (h.wf hp)).mpr h.acyclic⟩, ?_⟩, ?_⟩, h.keeps⟩, ?_⟩, ?_⟩
    · intro e he; exact (h.skel _ _).mp (Or.inl he)
    · rintro e (he | he)
      · exact (h.skel _ _).mpr (Or.inl he)
      · exact (h.skel _ _).mpr (Or.inr (Or.inr (Or.inl he)))
    · exact fun a c b => (h.vstructs a c b).mp
    · exact fun a c b => (h.vstructs a c b).mpr

theorem ext_is_orientation {P D : MG} (h : ConsistentExt P D) :
    ∀ e, e ∈ P.dir ++ P.un.map (orientLike D.dir) ↔ e ∈ D.dir :=
  mem_append_map_orientLike (fun _ _ => MG.no_two_cycle h.acyclic) h.keeps
    fun a b => (adj_plain h.plain.1 a b).symm.trans (h.skel a b)

/-- **the brute-force oracle of the harness decides existence of a consistent extension** -/
theorem extDec_iff (P : MG) (hp : PWF P) : extDec P = true ↔ ∃ D, ConsistentExt P D := by
  constructor
  · intro h
    simp only [extDec, List.any_eq_true] at h
    obtain ⟨o, _, ho⟩ := h
    exact ⟨_, (isConsistentExt_iff P _ hp).mp ho⟩
  · rintro ⟨D, hD⟩
    simp only [extDec, List.any_eq_true]
    refine ⟨P.un.map (orientLike D.dir), map_orientLike_mem _ _, ?_⟩
    rw [isConsistentExt_iff P _ hp]
    exact hD.congr (fun v => (hD.nodes v).symm) ⟨rfl, rfl, rfl⟩ (ext_is_orientation hD)

theorem model_eq_extDec (P : MG) (hd : Dom P) : (∃ D, pdagToDag P = .ok D) ↔ extDec P = true := by
  rw [extDec_iff P hd.pwf]
  constructor
  · rintro ⟨D, hD⟩; exact ⟨D, pdagToDag_sound P D hd.pwf hD⟩
  · exact pdagToDag_complete P hd

end C05
