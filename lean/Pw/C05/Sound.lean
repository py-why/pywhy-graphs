import Pw.C05.Model
import Pw.C05.Orient

/-! # C05 soundness: whatever `pdag_to_dag` returns is a consistent extension -/
namespace C05

/-- the part of the quantifier soundness needs: endpoints are nodes, no undirected self loop -/
structure PWF (P : MG) : Prop where
  dirNodes : ∀ e ∈ P.dir, e.1 ∈ P.nodes ∧ e.2 ∈ P.nodes
  unNodes : ∀ e ∈ P.un, e.1 ∈ P.nodes ∧ e.2 ∈ P.nodes
  unLoop : ∀ e ∈ P.un, e.1 ≠ e.2

theorem Dom.pwf {P : MG} (h : Dom P) : PWF P := ⟨h.dirNodes, h.unNodes, h.unLoop⟩

theorem mem_rm_dir {G : MG} {x a b : Nat} :
    (a, b) ∈ (removeNode G x).dir ↔ (a, b) ∈ G.dir ∧ a ≠ x ∧ b ≠ x := by
  simp [removeNode]

theorem mem_rm_un {G : MG} {x a b : Nat} :
    (a, b) ∈ (removeNode G x).un ↔ (a, b) ∈ G.un ∧ a ≠ x ∧ b ≠ x := by
  simp [removeNode]

theorem mem_rm_nodes {G : MG} {x v : Nat} : v ∈ (removeNode G x).nodes ↔ v ∈ G.nodes ∧ v ≠ x := by
  simp [removeNode]

theorem adj_rm {G : MG} {x a b : Nat} : Adj (removeNode G x) a b ↔ Adj G a b ∧ a ≠ x ∧ b ≠ x := by
  simp only [Adj, mem_rm_dir, mem_rm_un, and_comm (a := b ≠ x), ← or_and_right]

theorem adjB_iff {G : MG} {a b : Nat} : adjB G a b = true ↔ Adj G a b := by
  simp [adjB, Adj, or_assoc]

theorem pwf_rm {G : MG} (h : PWF G) (x : Nat) : PWF (removeNode G x) := by
  refine ⟨?_, ?_, ?_⟩
  · rintro ⟨a, b⟩ he
    obtain ⟨he, ha, hb⟩ := mem_rm_dir.mp he
    exact ⟨mem_rm_nodes.mpr ⟨(h.dirNodes _ he).1, ha⟩, mem_rm_nodes.mpr ⟨(h.dirNodes _ he).2, hb⟩⟩
  · rintro ⟨a, b⟩ he
    obtain ⟨he, ha, hb⟩ := mem_rm_un.mp he
    exact ⟨mem_rm_nodes.mpr ⟨(h.unNodes _ he).1, ha⟩, mem_rm_nodes.mpr ⟨(h.unNodes _ he).2, hb⟩⟩
  · rintro ⟨a, b⟩ he
    exact h.unLoop _ (mem_rm_un.mp he).1

theorem eligible_iff {G : MG} {x : Nat} :
    eligible G x = true ↔
      (∀ c, (x, c) ∉ G.dir) ∧
      ∀ y, ((x, y) ∈ G.un ∨ (y, x) ∈ G.un) →
        ∀ z, (((x, z) ∈ G.un ∨ (z, x) ∈ G.un) ∨ (z, x) ∈ G.dir) → z ≠ y → Adj G y z := by
  simp only [eligible, Bool.and_eq_true, List.isEmpty_iff, List.eq_nil_iff_forall_not_mem, MG.mem_children,
    List.all_eq_true, List.mem_append, Bool.or_eq_true, beq_iff_eq, adjB_iff, MG.unbrs, MG.mem_sym,
    MG.mem_parents, Decidable.or_iff_not_imp_left, ne_eq]

/-- induction along the run of the elimination, with the result in the motive: `elimWith.induct_unfolding` with the
    two outcomes of the recursive call under one `match` again -/
theorem elimWith_induct (el : MG → Nat → Bool) {motive : MG → Except String (List (Nat × Nat)) → Prop}
    (empty : ∀ G, G.nodes.isEmpty = true → motive G (.ok []))
    (stuck : ∀ G, ¬ G.nodes.isEmpty = true → G.nodes.find? (el G) = none → motive G (.error "no-extension"))
    (step : ∀ G x, ¬ G.nodes.isEmpty = true → G.nodes.find? (el G) = some x →
      motive (removeNode G x) (elimWith el (removeNode G x)) →
      motive G (match elimWith el (removeNode G x) with
        | .error e => .error e
        | .ok r => .ok ((G.unbrs x).map (·, x) ++ r))) :
    ∀ G, motive G (elimWith el G) := by
  refine elimWith.induct_unfolding el motive empty stuck ?_ ?_
  · intro G hemp x hfind e he ih
    have := step G x hemp hfind ih
    rwa [he] at this
  · intro G hemp x hfind r hr ih
    have := step G x hemp hfind ih
    rwa [hr] at this

/-- invariant of the elimination: `R` are the edges added to `dag` for the (sub)graph `G` -/
structure Good (G : MG) (R : List (Nat × Nat)) : Prop where
  orient : ∀ a b, (a, b) ∈ R → ((a, b) ∈ G.un ∨ (b, a) ∈ G.un)
  all : ∀ a b, (a, b) ∈ G.un → ((a, b) ∈ R ∨ (b, a) ∈ R)
  rank : ∃ pos : Nat → Nat, ∀ a b, ((a, b) ∈ G.dir ∨ (a, b) ∈ R) → pos b < pos a
  coll : ∀ a b c, ((a, c) ∈ G.dir ∨ (a, c) ∈ R) → ((b, c) ∈ G.dir ∨ (b, c) ∈ R) → a ≠ b →
    ¬ Adj G a b → (a, c) ∈ G.dir ∧ (b, c) ∈ G.dir

theorem good_step {G : MG} (hwf : PWF G) {x : Nat} (hel : eligible G x = true) {r : List (Nat × Nat)}
    (ih : Good (removeNode G x) r) : Good G ((G.unbrs x).map (·, x) ++ r) := by
  obtain ⟨hsink, hnb⟩ := eligible_iff.mp hel
  have hmem : ∀ a b, (a, b) ∈ (G.unbrs x).map (·, x) ++ r ↔
      (((x, a) ∈ G.un ∨ (a, x) ∈ G.un) ∧ x = b) ∨ (a, b) ∈ r := by
    intro a b
    simp only [List.mem_append, List.mem_map, MG.unbrs, MG.mem_sym, Prod.mk.injEq, ← and_assoc, exists_and_right,
      exists_eq_right]
  generalize (G.unbrs x).map (·, x) ++ r = R at hmem ⊢
  have hr_nox : ∀ a b, (a, b) ∈ r → a ≠ x ∧ b ≠ x := by
    intro a b hab
    rcases ih.orient a b hab with h | h
    · exact (mem_rm_un.mp h).2
    · exact (mem_rm_un.mp h).2.symm
  -- the arrows of the result: none leaves `x`; those into `x` come from parents and undirected neighbours
  -- of `x`; the others are the arrows of the result for `G - x`
  have src : ∀ a b, ((a, b) ∈ G.dir ∨ (a, b) ∈ R) → a ≠ x := by
    rintro a b (h | h) rfl
    · exact hsink b h
    · rcases (hmem _ _).mp h with ⟨h | h, _⟩ | h
      · exact hwf.unLoop _ h rfl
      · exact hwf.unLoop _ h rfl
      · exact (hr_nox _ _ h).1 rfl
  have into : ∀ a, ((a, x) ∈ G.dir ∨ (a, x) ∈ R) →
      ((a, x) ∈ G.dir ∨ ((x, a) ∈ G.un ∨ (a, x) ∈ G.un)) := by
    rintro a (h | h)
    · exact Or.inl h
    · rcases (hmem _ _).mp h with ⟨h, _⟩ | h
      · exact Or.inr h
      · exact absurd rfl (hr_nox a x h).2
  have rest : ∀ a b, ((a, b) ∈ G.dir ∨ (a, b) ∈ R) → b ≠ x →
      ((a, b) ∈ (removeNode G x).dir ∨ (a, b) ∈ r) := by
    intro a b h hb
    have ha := src a b h
    rcases h with h | h
    · exact Or.inl (mem_rm_dir.mpr ⟨h, ha, hb⟩)
    · exact Or.inr (((hmem _ _).mp h).resolve_left fun h => hb h.2.symm)
  refine ⟨?_, ?_, ?_, ?_⟩
  · intro a b hab
    rcases (hmem a b).mp hab with ⟨h, rfl⟩ | h
    · exact h.symm
    · exact (ih.orient a b h).imp (fun h => (mem_rm_un.mp h).1) fun h => (mem_rm_un.mp h).1
  · intro a b hab
    by_cases ha : a = x
    · exact Or.inr ((hmem b a).mpr (Or.inl ⟨Or.inl (ha ▸ hab), ha.symm⟩))
    by_cases hb : b = x
    · exact Or.inl ((hmem a b).mpr (Or.inl ⟨Or.inr (hb ▸ hab), hb.symm⟩))
    exact (ih.all a b (mem_rm_un.mpr ⟨hab, ha, hb⟩)).imp (fun h => (hmem a b).mpr (Or.inr h))
      fun h => (hmem b a).mpr (Or.inr h)
  · obtain ⟨pos', hpos'⟩ := ih.rank
    refine ⟨fun v => if v = x then 0 else pos' v + 1, fun a b hab => ?_⟩
    show (if b = x then 0 else pos' b + 1) < (if a = x then 0 else pos' a + 1)
    rw [if_neg (src a b hab)]
    by_cases hbx : b = x
    · rw [if_pos hbx]; exact Nat.succ_pos _
    · rw [if_neg hbx]; exact Nat.succ_lt_succ (hpos' a b (rest a b hab hbx))
  · intro a b c hac hbc hab hnadj
    by_cases hcx : c = x
    · subst hcx
      rcases into a hac with ha | ha
      · rcases into b hbc with hb | hb
        · exact ⟨ha, hb⟩
        · exact absurd (hnb b hb a (Or.inr ha) hab).symm hnadj
      · exact absurd (hnb a ha b (into b hbc).symm (Ne.symm hab)) hnadj
    · have := ih.coll a b c (rest a c hac hcx) (rest b c hbc hcx) hab fun h => hnadj (adj_rm.mp h).1
      exact ⟨(mem_rm_dir.mp this.1).1, (mem_rm_dir.mp this.2).1⟩

theorem elim_good (G : MG) : PWF G → ∀ R, elim G = .ok R → Good G R := by
  refine elimWith_induct eligible (motive := fun G res => PWF G → ∀ R, res = .ok R → Good G R)
    ?_ ?_ ?_ G
  · intro G hemp hwf R h
    cases h
    have hnil : G.nodes = [] := List.isEmpty_iff.mp hemp
    have hno : ∀ v, v ∉ G.nodes := fun v hv => by rw [hnil] at hv; cases hv
    refine ⟨fun a b h => (by cases h), fun a b h => absurd (hwf.unNodes _ h).1 (hno _), ⟨fun _ => 0, ?_⟩, ?_⟩
    · rintro a b (h | h)
      · exact absurd (hwf.dirNodes _ h).1 (hno _)
      · cases h
    · rintro a b c (h | h)
      · exact absurd (hwf.dirNodes _ h).1 (hno _)
      · cases h
  · intro G _ _ _ R h; cases h
  · intro G x _ hfind ih hwf R h
    cases hr : elimWith eligible (removeNode G x) with
    | error e => rw [hr] at h; cases h
    | ok r =>
      rw [hr] at h ih
      cases h
      exact good_step hwf (List.find?_some hfind) (ih (pwf_rm hwf x) r rfl)

theorem acyclic_of_rank {D : MG} (pos : Nat → Nat) (h : ∀ a b, (a, b) ∈ D.dir → pos b < pos a) :
    D.Acyclic :=
  fun _ b e hba => Nat.not_le_of_lt (h _ _ e)
    (hba.closed (S := fun c => pos c ≤ pos b)
      (fun e he hc => Nat.le_trans (Nat.le_of_lt (h _ _ he)) hc) (Nat.le_refl _))

/-- **C05 soundness.** If the model of `pdag_to_dag` returns `D`, then `D` is a consistent extension
    of `P` – for every node order (the order is `P.nodes`). -/
theorem pdagToDag_sound (P D : MG) (hwf : PWF P) (h : pdagToDag P = .ok D) : ConsistentExt P D := by
  unfold pdagToDag at h
  cases hr : elim P with
  | error e => rw [hr] at h; cases h
  | ok R =>
    rw [hr] at h
    cases h
    have g := elim_good P hwf R hr
    have hskel : ∀ a b, Adj { nodes := P.nodes, dir := P.dir ++ R : MG } a b ↔ Adj P a b :=
      adj_append_dir fun a b =>
        ⟨fun h => h.elim (g.orient a b) fun h => (g.orient b a h).symm,
         fun h => h.elim (g.all a b) fun h => (g.all b a h).symm⟩
    refine ⟨fun v => Iff.rfl, ⟨rfl, rfl, rfl⟩, ?_, hskel, ?_, ?_⟩
    · obtain ⟨pos, hpos⟩ := g.rank
      apply acyclic_of_rank pos
      intro a b hab
      exact hpos a b (List.mem_append.mp hab)
    · intro e he; exact List.mem_append_left _ he
    · intro a c b
      constructor
      · rintro ⟨hac, hbc, hab, hn⟩
        have hn' : ¬ Adj P a b := fun h => hn ((hskel a b).mpr h)
        have := g.coll a b c (List.mem_append.mp hac) (List.mem_append.mp hbc) hab hn'
        exact ⟨this.1, this.2, hab, hn'⟩
      · rintro ⟨hac, hbc, hab, hn⟩
        exact ⟨List.mem_append_left _ hac, List.mem_append_left _ hbc, hab, fun h => hn ((hskel a b).mp h)⟩

end C05
