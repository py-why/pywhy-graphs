import Pw.C20.Proofs

/-!
C20 — capstone: for every history, every step of the model of the repaired code satisfies
`StepOK`, i.e. the very predicate the driver command `c20v` decides on traces observed on the
implementation.  So "implementation trace ⊨ StepOK" is compared with a specification the verified
model is proved to meet, clause by clause.
-/
namespace C20

theorem step_len_exact {s : State} (_hs : HInv s) (op : Op) :
    (step Cfg.fixed s op).1.objs.length =
      match op with
      | .at _ _ => s.objs.length
      | _ => if (step Cfg.fixed s op).2 = .ok then s.objs.length + 1 else s.objs.length := by
  cases op with
  | new cls => rw [step_new, alloc_len]; simp
  | copy g =>
    rw [step_copy]
    cases h : s.objs[g]? with
    | none => rw [stepCopy_none h]; simp
    | some o => rw [stepCopy_some rfl h, alloc_len]; simp
  | «at» g lop => exact stepAt_len _ _ _ _
  | allS g n =>
    cases h : s.objs[g]? with
    | none => rw [step_allS_none n h]; simp
    | some o =>
      have len := allSLoop_len Cfg.fixed s.objs.length (domPairs n) (alloc s o (s.cell o)) 0
      rw [alloc_len] at len
      rcases step_allS_some (c := Cfg.fixed) rfl n h with e | e <;> rw [e]
      · simp [len]
      · simp [List.length_take, len]

/-- the heap invariant is kept, and the view of object `g` (if it has one) only gains entries -/
def KeepsAt (g : Nat) (s s' : State) : Prop :=
  HInv s → HInv s' ∧
    ∀ b ∈ view Cfg.fixed s g, ∃ a ∈ view Cfg.fixed s' g, (∀ p ∈ b.fs, p ∈ a.fs) ∧ (∀ p ∈ b.ss, p ∈ a.ss)

theorem KeepsAt.refl (g : Nat) (s : State) : KeepsAt g s s :=
  fun h => ⟨h, fun b hb => ⟨b, hb, fun _ h => h, fun _ h => h⟩⟩

/-- along a chain of calls the object keeps existing, which is what makes the relation transitive -/
theorem KeepsAt.trans {g : Nat} {s₁ s₂ s₃ : State} (h12 : KeepsAt g s₁ s₂) (h23 : KeepsAt g s₂ s₃) :
    KeepsAt g s₁ s₃ := by
  intro h1
  obtain ⟨h2, k12⟩ := h12 h1
  obtain ⟨h3, k23⟩ := h23 h2
  refine ⟨h3, fun b hb => ?_⟩
  obtain ⟨m, hm, m1, m2⟩ := k12 b hb
  obtain ⟨a, ha, a1, a2⟩ := k23 m hm
  exact ⟨a, ha, fun p hp => a1 p (m1 p hp), fun p hp => a2 p (m2 p hp)⟩

theorem KeepsAt.rawS (g : Nat) (s : State) (k : Nat) (d : Nat × Nat) :
    KeepsAt g s (stepAt Cfg.fixed s g (.rawS k d)).1 := by
  intro hs
  refine ⟨stepAt_inv hs g _, fun b hb => ?_⟩
  obtain ⟨o, ho, _⟩ := view_some rfl hb
  have ha := stepAt_view_self (c := Cfg.fixed) rfl hs.toSep (.rawS k d) ho
  have hk := stepAt_keeps hs g (.rawS k d) b hb _ ha
  exact ⟨_, ha, fun p hp => hk.1 p hp (by simp), fun p hp => hk.2 p hp (by simp)⟩

theorem allSLoop_keeps (g : Nat) : ∀ (ds : List (Nat × Nat)) (s : State) (k : Nat), HInv s →
    ∀ b ∈ view Cfg.fixed s g, ∀ a ∈ view Cfg.fixed (allSLoop Cfg.fixed s g ds k).1 g,
      (∀ p ∈ b.fs, p ∈ a.fs) ∧ (∀ p ∈ b.ss, p ∈ a.ss) := by
  intro ds s k hs b hb a ha
  have := allSLoop_rel Cfg.fixed g (KeepsAt g) (KeepsAt.refl g) KeepsAt.trans (KeepsAt.rawS g) ds s k hs
  obtain ⟨a', ha', h'⟩ := this.2 b hb
  cases Option.mem_unique ha ha'
  exact h'

theorem sameContent_refl (v : View) : SameContent v v :=
  ⟨fun _ h => h, fun _ h => h, fun p hp => ⟨p, hp, rfl, sameEntry_refl _⟩, fun p hp => ⟨p, hp, rfl, sameEntry_refl _⟩,
    fun _ h => h, fun _ h => h⟩

/-- **The model meets the step specification** (all clauses of `StepOK`: Reg after the call, Frame,
object count, creation with fresh name and given targets, stability of everybody else's entries,
content of copies), from any state satisfying the heap invariant. -/
theorem model_stepOK {s : State} (hs : HInv s) (op : Op) :
    StepOK op (decide ((step Cfg.fixed s op).2 = .ok)) (view Cfg.fixed s) (view Cfg.fixed (step Cfg.fixed s op).1)
      s.objs.length (step Cfg.fixed s op).1.objs.length := by
  refine ⟨?_, frame_step hs op, ?_, ?_⟩
  · intro g _ v hv
    exact reg_of_inv (step_inv hs op) (Option.mem_def.1 hv)
  · -- the flag handed to `StepOK` is the decision of "the call returned"
    have := step_len_exact hs op
    cases op with
    | «at» g lop => exact this
    | _ => simp only [decide_eq_true_eq]; exact this
  · cases op with
    | new cls =>
      intro _ a ha
      rw [step_new, alloc_view_new rfl, Option.mem_def] at ha
      cases ha
      exact ⟨rfl, rfl, rfl⟩
    | copy g =>
      intro _ b hb a ha
      rw [copy_same_view hs g b (Option.mem_def.1 hb), Option.mem_def] at ha
      cases ha
      exact sameContent_refl _
    | «at» g lop =>
      intro b hb a ha
      refine ⟨targets_stable_step hs g lop b hb a ha, ?_⟩
      cases lop with
      | addF ts u d => intro hok; exact addF_creates hs g ts u d (of_decide_eq_true hok) b hb a ha
      | addS d chg => intro hok; exact addS_creates hs g d chg (of_decide_eq_true hok) b hb a ha
      | addFs tss => intro hok; exact addFs_creates_heap hs g tss (of_decide_eq_true hok) b hb a ha
      | _ => trivial
    | allS g n =>
      intro hok b hb a ha
      obtain ⟨o, h, rfl⟩ := view_some rfl hb
      have h1 := alloc_inv hs o (s.cell o) (hs.linv g o h)
      have hk := allSLoop_keeps s.objs.length (domPairs n) _ 0 h1 _ (Option.mem_def.2 (alloc_view_new rfl s o (s.cell o)))
      rcases step_allS_some (c := Cfg.fixed) rfl n h with e | e <;> rw [e] at hok ha
      · obtain ⟨k1, k2⟩ := hk a ha
        exact ⟨fun p hp => ⟨p, k1 p hp, rfl, sameEntry_refl _⟩, fun p hp => k2 p hp⟩
      · cases hok

/-- the specification along a whole history -/
def TraceOK (c : Cfg) : State → List Op → Prop
  | _, [] => True
  | s, op :: ops =>
    StepOK op (decide ((step c s op).2 = .ok)) (view c s) (view c (step c s op).1)
      s.objs.length (step c s op).1.objs.length ∧ TraceOK c (step c s op).1 ops

theorem traceOK_of_inv : ∀ (ops : List Op) {s : State}, HInv s → TraceOK Cfg.fixed s ops := by
  intro ops
  induction ops with
  | nil => intro _ _; trivial
  | cons op rest ih => intro s hs; exact ⟨model_stepOK hs op, ih (step_inv hs op)⟩

/-- **C20 for the model of the repaired code**: every history, from the empty process state,
satisfies the specification at every step. -/
theorem C20_model_meets_spec (ops : List Op) : TraceOK Cfg.fixed init ops := traceOK_of_inv ops init_inv

/-- non-vacuity / test: the unchanged code's model does not meet it (first witness) -/
example : ¬ TraceOK Cfg.orig init [.new .ag, .copy 0, .at 1 (.addF [] true none)] := by
  unfold TraceOK TraceOK TraceOK TraceOK
  decide

end C20
