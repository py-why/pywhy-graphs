import Pw.C20.Basic

/-!
C20 — one method call on one object.  In every model `add_f_node` and `add_s_node` either raise and
change nothing or do the one update `addFok` / `addSok` (`addF_cases`, `addS_cases`),
`add_f_nodes_from` is a chain of `add_f_node` calls (`addFs_rel`), and no call moves the object's
registry reference (`stepLocal_ref`).  In the model of the repaired code (`Cfg.fixed`)
the registry invariant `Reg` is preserved, no call touches an entry that is not its own (`Keeps`),
created names are fresh.
Everything here is about a `Local` = (object, the registry cell it points to); aliasing is dealt
with on the heap level.
-/
namespace C20

/-- the observation of an object given the cell its registry reference points to (repaired code) -/
def lview (w : Local) : View :=
  { cls := w.o.cls, nodes := w.o.nodes, aedges := w.o.aedges, fs := w.r.fs, ss := w.r.ss, doms := w.o.doms }

/-- graph well-formedness kept by networkx: the source of every stored edge is a node -/
def WFL (w : Local) : Prop := ∀ e ∈ w.o.aedges, e.1 ∈ w.o.nodes

structure LInv (w : Local) : Prop where
  reg : Reg (lview w)
  wf : WFL w

/-- `LInv` over the raw fields; the proofs below go through this form -/
theorem linv_iff {w : Local} : LInv w ↔
    (∀ k, k ∈ dKeys w.r.fs ↔ Node.f k ∈ w.o.nodes) ∧
    (∀ k, k ∈ dKeys w.r.ss ↔ Node.s k ∈ w.o.nodes) ∧
    (∀ p ∈ w.r.fs, ∀ t, (Node.f p.1, t) ∈ w.o.aedges ↔ t ∈ p.2.targets) ∧
    (∀ e ∈ w.o.aedges, e.1 ∈ w.o.nodes) := by
  constructor
  · rintro ⟨⟨r1, r2, r3, r4, r5, r6⟩, wf⟩
    exact ⟨fun k => ⟨r2 k, fun h => r1 k (mem_fNames.2 h)⟩, fun k => ⟨r4 k, fun h => r3 k (mem_sNames.2 h)⟩,
      fun p hp t => ⟨fun h => r5 p hp t (mem_children.2 h), fun h => mem_children.1 (r6 p hp t h)⟩, wf⟩
  · rintro ⟨hf, hs, ht, wf⟩
    exact ⟨⟨fun k h => (hf k).2 (mem_fNames.1 h), fun k => (hf k).1, fun k h => (hs k).2 (mem_sNames.1 h),
      fun k => (hs k).1, fun p hp t h => (ht p hp t).1 (mem_children.1 h),
      fun p hp t h => mem_children.2 ((ht p hp t).2 h)⟩, wf⟩

theorem LInv.of_fields {w w' : Local} (hn : w'.o.nodes = w.o.nodes) (he : w'.o.aedges = w.o.aedges)
    (hr : w'.r = w.r) (h : LInv w) : LInv w' := by
  rw [linv_iff] at h ⊢
  rw [hn, he, hr]; exact h

/-- entries a call must not touch stay literally the same -/
def Keeps (op : LOp) (w w' : Local) : Prop :=
  (∀ p ∈ w.r.fs, op ≠ .rmF p.1 → p ∈ w'.r.fs) ∧ (∀ p ∈ w.r.ss, op ≠ .rmS p.1 → p ∈ w'.r.ss)

theorem Keeps.refl {op : LOp} {w : Local} : Keeps op w w := ⟨fun _ h _ => h, fun _ h _ => h⟩

theorem Keeps.trans {op : LOp} {a b c : Local} (h1 : Keeps op a b) (h2 : Keeps op b c) : Keeps op a c :=
  ⟨fun p hp hne => h2.1 p (h1.1 p hp hne) hne, fun p hp hne => h2.2 p (h1.2 p hp hne) hne⟩

theorem addF_cases (c : Cfg) (w : Local) (ts : List Nat) (u : Bool) (d : Option (List Nat)) :
    addF c w ts u d = (w, .err) ∨ addF c w ts u d = (addFok c w ts d, .ok) := by
  unfold addF
  by_cases h1 : ¬ ts.Nodup
  · rw [if_pos h1]; exact Or.inl rfl
  · rw [if_neg h1]
    by_cases h2 : (u && w.r.fs.any (fun p => sameSet p.2.targets ts)) = true
    · rw [if_pos h2]; exact Or.inl rfl
    · rw [if_neg h2]
      by_cases h3 : ts.any (fun t => decide (Node.ord t ∉ w.o.nodes)) = true
      · rw [if_pos h3]; exact Or.inl rfl
      · rw [if_neg h3]; exact Or.inr rfl

theorem addF_ok {c : Cfg} {w : Local} {ts : List Nat} {u : Bool} {d : Option (List Nat)}
    (h : (addF c w ts u d).2 = .ok) : (addF c w ts u d).1 = addFok c w ts d := by
  rcases addF_cases c w ts u d with e | e <;> rw [e] at h ⊢
  cases h

theorem nameF_fresh (w : Local) : Node.f (nameF Cfg.fixed w) ∉ w.o.nodes := by
  have := freshIdx_not_mem (fNames w.o.nodes) w.r.fs.length
  rw [mem_fNames] at this
  simpa [nameF, Cfg.fixed] using this

theorem nameS_fresh (w : Local) : Node.s (nameS Cfg.fixed w) ∉ w.o.nodes := by
  have := freshIdx_not_mem (sNames w.o.nodes) w.r.ss.length
  rw [mem_sNames] at this
  simpa [nameS, Cfg.fixed] using this

theorem nameF_not_key {w : Local} (h : LInv w) : nameF Cfg.fixed w ∉ dKeys w.r.fs :=
  fun hk => nameF_fresh w (h.reg.f_registered_present _ hk)

theorem nameS_not_key {w : Local} (h : LInv w) : nameS Cfg.fixed w ∉ dKeys w.r.ss :=
  fun hk => nameS_fresh w (h.reg.s_registered_present _ hk)

theorem addFok_inv {w : Local} (h : LInv w) (ts : List Nat) (d : Option (List Nat)) :
    LInv (addFok Cfg.fixed w ts d) := by
  have hfresh := nameF_fresh w
  have hkey := nameF_not_key h
  obtain ⟨hf, hs, ht, wf⟩ := linv_iff.1 h
  refine linv_iff.2 ⟨?_, ?_, ?_, ?_⟩ <;> simp only [addFok]
  · intro k
    simp only [dKeys_dSet, mem_insertNew, hf k, Node.f.injEq]
  · intro k
    simp only [mem_insertNew, hs k, reduceCtorEq, or_false]
  · intro p hp t
    simp only [List.mem_append, List.mem_map, Prod.mk.injEq, Node.f.injEq]
    rcases (mem_dSet_new hkey).1 hp with hp | rfl
    · -- an entry that was there: no new edge starts at its node
      have hne : nameF Cfg.fixed w ≠ p.1 := fun e => hkey (e ▸ mem_dKeys_of_mem hp)
      simp only [hne, false_and, and_false, exists_false, or_false]
      exact ht p hp t
    · -- the new entry: no old edge starts at its node, which was not a node
      have hno : (Node.f (nameF Cfg.fixed w), t) ∉ w.o.aedges := fun he => hfresh (wf _ he)
      simp only [hno, false_or, true_and, exists_eq_right]
  · intro e he
    rcases List.mem_append.1 he with he | he
    · exact mem_insertNew.2 (Or.inl (wf e he))
    · obtain ⟨t, _, rfl⟩ := List.mem_map.1 he
      exact mem_insertNew.2 (Or.inr rfl)

theorem addFok_entry {w : Local} (h : LInv w) (ts : List Nat) (d : Option (List Nat)) :
    (nameF Cfg.fixed w, (⟨ts, d.getD [1]⟩ : FEntry)) ∈ (addFok Cfg.fixed w ts d).r.fs :=
  (mem_dSet_new (nameF_not_key h)).2 (Or.inr rfl)

theorem createdF_of_entry {b a : View} {k : Nat} {e : FEntry} (hb : Node.f k ∉ b.nodes) (ha : Node.f k ∈ a.nodes)
    (he : (k, e) ∈ a.fs) : CreatedF b a e :=
  ⟨k, mem_dKeys_of_mem he, hb, ha, _, he, rfl, sameEntry_refl _⟩

theorem addFok_created {w : Local} (h : LInv w) (ts : List Nat) (d : Option (List Nat)) :
    CreatedF (lview w) (lview (addFok Cfg.fixed w ts d)) ⟨ts, d.getD [1]⟩ :=
  createdF_of_entry (nameF_fresh w) (mem_insertNew.2 (Or.inr rfl)) (addFok_entry h ts d)

theorem addFok_keeps {w : Local} (h : LInv w) (op : LOp) (ts : List Nat) (d : Option (List Nat)) :
    Keeps op w (addFok Cfg.fixed w ts d) :=
  ⟨fun _ hp _ => (mem_dSet_new (nameF_not_key h)).2 (Or.inl hp), fun _ hp _ => hp⟩

theorem addF_inv_keeps {w : Local} (h : LInv w) (op : LOp) (ts : List Nat) (u : Bool) (d : Option (List Nat)) :
    LInv (addF Cfg.fixed w ts u d).1 ∧ Keeps op w (addF Cfg.fixed w ts u d).1 := by
  rcases addF_cases Cfg.fixed w ts u d with e | e <;> rw [e]
  · exact ⟨h, Keeps.refl⟩
  · exact ⟨addFok_inv h ts d, addFok_keeps h op ts d⟩

/-- `add_f_nodes_from` is a chain of `add_f_node` calls -/
theorem addFs_rel (c : Cfg) (R : Local → Local → Prop) (hr : ∀ w, R w w)
    (ht : ∀ {w₁ w₂ w₃}, R w₁ w₂ → R w₂ w₃ → R w₁ w₃) (hs : ∀ w ts, R w (addF c w ts true none).1) :
    ∀ (tss : List (List Nat)) (w : Local), R w (addFs c w tss).1 := by
  intro tss
  induction tss with
  | nil => exact hr
  | cons ts rest ih =>
    intro w
    unfold addFs
    have h1 := hs w ts
    rcases hst : addF c w ts true none with ⟨w', st⟩
    rw [hst] at h1
    cases st with
    | ok => exact ht h1 (ih w')
    | err => exact h1

theorem addFs_inv_keeps (op : LOp) (tss : List (List Nat)) {w : Local} (h : LInv w) :
    LInv (addFs Cfg.fixed w tss).1 ∧ Keeps op w (addFs Cfg.fixed w tss).1 :=
  addFs_rel Cfg.fixed (fun w w' => LInv w → LInv w' ∧ Keeps op w w') (fun _ h => ⟨h, Keeps.refl⟩)
    (fun h12 h23 h1 => ⟨(h23 (h12 h1).1).1, (h12 h1).2.trans (h23 (h12 h1).1).2⟩)
    (fun _ ts h => addF_inv_keeps h op ts true none) tss w h

theorem addFs_nodes_mono (c : Cfg) (tss : List (List Nat)) (w : Local) :
    ∀ n ∈ w.o.nodes, n ∈ (addFs c w tss).1.o.nodes := by
  refine addFs_rel c (fun w w' => ∀ n ∈ w.o.nodes, n ∈ w'.o.nodes) (fun _ _ h => h)
    (fun h12 h23 n h => h23 n (h12 n h)) (fun w ts n hn => ?_) tss w
  rcases addF_cases c w ts true none with e | e <;> rw [e]
  · exact hn
  · exact mem_insertNew.2 (Or.inl hn)

theorem addFs_creates : ∀ (tss : List (List Nat)) {w : Local}, LInv w → (addFs Cfg.fixed w tss).2 = .ok →
    ∀ ts ∈ tss, CreatedF (lview w) (lview (addFs Cfg.fixed w tss).1) ⟨ts, [1]⟩ := by
  intro tss
  induction tss with
  | nil => intro w _ _ ts hts; cases hts
  | cons t0 rest ih =>
    intro w h hok ts hts
    unfold addFs at hok ⊢
    rcases addF_cases Cfg.fixed w t0 true none with e | e
    · rw [e] at hok; cases hok
    · rw [e] at hok ⊢
      have h1 : LInv (addFok Cfg.fixed w t0 none) := addFok_inv h t0 none
      simp only at hok ⊢
      rcases List.mem_cons.1 hts with rfl | hin
      · -- the node of the first set is created by this call and survives the remaining ones
        refine createdF_of_entry (nameF_fresh w) ?_ ?_
        · exact addFs_nodes_mono _ rest _ _ (mem_insertNew.2 (Or.inr rfl))
        · exact (addFs_inv_keeps (.addFs rest) rest h1).2.1 _ (addFok_entry h ts none) (by simp)
      · obtain ⟨k, hk, k1, k2⟩ := ih h1 hok ts hin
        exact ⟨k, hk, fun hm => k1 (mem_insertNew.2 (Or.inl hm)), k2⟩

theorem addS_cases (c : Cfg) (w : Local) (d : Nat × Nat) (chg : List Nat) :
    addS c w d chg = (w, .err) ∨ addS c w d chg = (addSok c w d chg, .ok) := by
  unfold addS
  by_cases h : ¬ chg.Nodup
  · rw [if_pos h]; exact Or.inl rfl
  · rw [if_neg h]; exact Or.inr rfl

theorem addS_ok {c : Cfg} {w : Local} {d : Nat × Nat} {chg : List Nat}
    (h : (addS c w d chg).2 = .ok) : (addS c w d chg).1 = addSok c w d chg := by
  rcases addS_cases c w d chg with e | e <;> rw [e] at h ⊢
  cases h

/-- `addSok` with the choice between the instance and the class attribute pushed into the two fields it concerns -/
theorem addSok_eq (c : Cfg) (w : Local) (d : Nat × Nat) (chg : List Nat) :
    addSok c w d chg =
      { o := { w.o with nodes := addAll (insertNew w.o.nodes (.s (nameS c w))) (chg.map Node.ord),
                        aedges := w.o.aedges ++ chg.map (fun t => (Node.s (nameS c w), t)),
                        doms := if c.classDoms then w.o.doms else addAll w.o.doms [d.1, d.2] },
        r := { w.r with ss := dSet w.r.ss (nameS c w) d },
        cd := if c.classDoms then addAll w.cd [d.1, d.2] else w.cd } := by
  cases h : c.classDoms <;> simp only [addSok, h, Bool.false_eq_true, if_true, if_false]

theorem addSok_inv {w : Local} (h : LInv w) (d : Nat × Nat) (chg : List Nat) :
    LInv (addSok Cfg.fixed w d chg) := by
  obtain ⟨hf, hs, ht, wf⟩ := linv_iff.1 h
  rw [addSok_eq]
  refine linv_iff.2 ⟨?_, ?_, ?_, ?_⟩
  · intro k
    simp only [mem_addAll, mem_insertNew, List.mem_map, hf k, reduceCtorEq, and_false, exists_false, or_false]
  · intro k
    simp only [dKeys_dSet, mem_addAll, mem_insertNew, List.mem_map, hs k, Node.s.injEq, reduceCtorEq, and_false,
      exists_false, or_false]
  · intro p hp t
    simp only [List.mem_append, List.mem_map, Prod.mk.injEq, reduceCtorEq, false_and, and_false, exists_false,
      or_false]
    exact ht p hp t
  · intro e he
    rcases List.mem_append.1 he with he | he
    · exact mem_addAll.2 (Or.inl (mem_insertNew.2 (Or.inl (wf e he))))
    · obtain ⟨t, _, rfl⟩ := List.mem_map.1 he
      exact mem_addAll.2 (Or.inl (mem_insertNew.2 (Or.inr rfl)))

theorem addSok_created {w : Local} (h : LInv w) (d : Nat × Nat) (chg : List Nat) :
    CreatedS (lview w) (lview (addSok Cfg.fixed w d chg)) d := by
  rw [addSok_eq]
  have he : (nameS Cfg.fixed w, d) ∈ dSet w.r.ss (nameS Cfg.fixed w) d :=
    (mem_dSet_new (nameS_not_key h)).2 (Or.inr rfl)
  exact ⟨nameS Cfg.fixed w, mem_dKeys_of_mem he, nameS_fresh w,
    mem_addAll.2 (Or.inl (mem_insertNew.2 (Or.inr rfl))), he⟩

theorem addSok_keeps {w : Local} (h : LInv w) (op : LOp) (d : Nat × Nat) (chg : List Nat) :
    Keeps op w (addSok Cfg.fixed w d chg) := by
  rw [addSok_eq]
  exact ⟨fun _ hp _ => hp, fun _ hp _ => (mem_dSet_new (nameS_not_key h)).2 (Or.inl hp)⟩

theorem dropNode_r (w : Local) (n : Node) : (dropNode w n).1.r = w.r := by
  unfold dropNode dropOk; split <;> rfl

theorem dropNode_reg (w : Local) (n : Node) : (dropNode w n).1.o.reg = w.o.reg := by
  unfold dropNode dropOk; split <;> rfl

/-- python's `if k in d: del d[k]` is `dErase` -/
theorem rmF_eq (w : Local) (k : Nat) :
    rmF w k = dropNode { w with r := { w.r with fs := dErase w.r.fs k } } (.f k) := by
  unfold rmF
  by_cases hk : k ∈ dKeys w.r.fs
  · simp only [if_pos hk]
  · simp only [if_neg hk, dErase_of_not_mem hk]

theorem rmS_eq {c : Cfg} (hc : c.keepS = false) (w : Local) (k : Nat) :
    rmS c w k = dropNode { w with r := { w.r with ss := dErase w.r.ss k } } (.s k) := by
  unfold rmS
  by_cases hk : k ∈ dKeys w.r.ss
  · simp only [hc, Bool.false_and, Bool.false_eq_true, if_false, if_pos hk]
  · simp only [hc, Bool.false_and, Bool.false_eq_true, if_false, if_neg hk, dErase_of_not_mem hk]

/-- an augmented node goes together with its registry entry; when it is absent the call only raises -/
theorem dropNode_inv {w : Local} (h : LInv w) (n : Node) (hn : ∀ i, n ≠ .ord i) (r' : Registry)
    (hfs : ∀ p, p ∈ r'.fs ↔ p ∈ w.r.fs ∧ Node.f p.1 ≠ n) (hss : ∀ p, p ∈ r'.ss ↔ p ∈ w.r.ss ∧ Node.s p.1 ≠ n)
    (habs : n ∉ w.o.nodes → r' = w.r) : LInv (dropNode { w with r := r' } n).1 := by
  unfold dropNode
  split
  · obtain ⟨hf, hs, ht, wf⟩ := linv_iff.1 h
    refine linv_iff.2 ⟨?_, ?_, ?_, ?_⟩ <;> simp only [dropOk, List.mem_filter, decide_eq_true_eq]
    · intro k
      rw [← hf k]
      exact dKeys_of_mem_iff (Q := fun k => Node.f k ≠ n) hfs
    · intro k
      rw [← hs k]
      exact dKeys_of_mem_iff (Q := fun k => Node.s k ≠ n) hss
    · intro p hp t
      obtain ⟨hp, hne⟩ := (hfs p).1 hp
      rw [ht p hp t]
      exact ⟨fun h => h.1, fun h => ⟨h, hne, fun e => hn t e.symm⟩⟩
    · intro e he
      exact ⟨wf e he.1, he.2.1⟩
  · rename_i hk
    rw [habs hk]
    exact h

theorem rmF_inv {w : Local} (h : LInv w) (k : Nat) : LInv (rmF w k).1 := by
  rw [rmF_eq]
  refine dropNode_inv h (.f k) (fun _ => by simp) _ (fun p => by simp [mem_dErase]) (fun p => by simp) fun hk => ?_
  -- an F-node that is not there is not registered either
  rw [dErase_of_not_mem (d := w.r.fs) fun hm => hk (h.reg.f_registered_present k hm)]

theorem rmS_inv {w : Local} (h : LInv w) (k : Nat) : LInv (rmS Cfg.fixed w k).1 := by
  rw [rmS_eq rfl]
  refine dropNode_inv h (.s k) (fun _ => by simp) _ (fun p => by simp) (fun p => by simp [mem_dErase]) fun hk => ?_
  rw [dErase_of_not_mem (d := w.r.ss) fun hm => hk (h.reg.s_registered_present k hm)]

theorem ordNodes_inv {w : Local} (h : LInv w) (ns : List Node) (hup : ∀ n ∈ w.o.nodes, n ∈ ns)
    (hdown : ∀ n ∈ ns, n ∈ w.o.nodes ∨ ∃ i, n = .ord i) :
    LInv { w with o := { w.o with nodes := ns } } := by
  obtain ⟨hf, hs, ht, wf⟩ := linv_iff.1 h
  refine linv_iff.2 ⟨fun k => ?_, fun k => ?_, ht, fun e he => hup _ (wf e he)⟩
  · exact ⟨fun hk => hup _ ((hf k).1 hk), fun hk => (hf k).2 ((hdown _ hk).resolve_right fun ⟨_, e⟩ => by cases e)⟩
  · exact ⟨fun hk => hup _ ((hs k).1 hk), fun hk => (hs k).2 ((hdown _ hk).resolve_right fun ⟨_, e⟩ => by cases e)⟩

theorem rawS_inv_keeps {w : Local} (h : LInv w) (op : LOp) (k : Nat) (d : Nat × Nat) :
    LInv (rawS w k d).1 ∧ Keeps op w (rawS w k d).1 := by
  unfold rawS
  split
  · exact ⟨h, Keeps.refl⟩
  · rename_i hk
    obtain ⟨hf, hs, ht, wf⟩ := linv_iff.1 h
    refine ⟨linv_iff.2 ⟨fun k' => ?_, fun k' => ?_, ht, fun e he => mem_insertNew.2 (Or.inl (wf e he))⟩,
      fun _ hp _ => hp, fun _ hp _ => (mem_dSet_new hk).2 (Or.inl hp)⟩
    · simp only [mem_insertNew, hf k', reduceCtorEq, or_false]
    · simp only [dKeys_dSet, mem_insertNew, hs k', Node.s.injEq]

theorem stepLocal_inv_keeps {w : Local} (h : LInv w) (op : LOp) :
    LInv (stepLocal Cfg.fixed w op).1 ∧ Keeps op w (stepLocal Cfg.fixed w op).1 := by
  cases op with
  | addF ts u d => exact addF_inv_keeps h _ ts u d
  | addFs tss => exact addFs_inv_keeps _ tss h
  | addS d chg =>
    show LInv (addS Cfg.fixed w d chg).1 ∧ Keeps _ w (addS Cfg.fixed w d chg).1
    rcases addS_cases Cfg.fixed w d chg with e | e <;> rw [e]
    · exact ⟨h, Keeps.refl⟩
    · exact ⟨addSok_inv h d chg, addSok_keeps h _ d chg⟩
  | rmF k =>
    refine ⟨rmF_inv h k, ?_⟩
    simp only [stepLocal, rmF_eq, Keeps, dropNode_r]
    exact ⟨fun p hp hne => mem_dErase.2 ⟨hp, fun e => hne (by rw [e])⟩, fun _ hp _ => hp⟩
  | rmS k =>
    refine ⟨rmS_inv h k, ?_⟩
    simp only [stepLocal, rmS_eq (c := Cfg.fixed) rfl, Keeps, dropNode_r]
    exact ⟨fun _ hp _ => hp, fun p hp hne => mem_dErase.2 ⟨hp, fun e => hne (by rw [e])⟩⟩
  | node i =>
    refine ⟨ordNodes_inv h _ (fun _ hn => mem_insertNew.2 (Or.inl hn)) fun _ hn => ?_, Keeps.refl⟩
    exact (mem_insertNew.1 hn).imp_right fun e => ⟨i, e⟩
  | edge u v =>
    refine ⟨ordNodes_inv h _ (fun _ hn => mem_insertNew.2 (Or.inl (mem_insertNew.2 (Or.inl hn)))) fun _ hn => ?_,
      Keeps.refl⟩
    rcases mem_insertNew.1 hn with hn | e
    · exact (mem_insertNew.1 hn).imp_right fun e => ⟨u, e⟩
    · exact Or.inr ⟨v, e⟩
  | rawS k d => exact rawS_inv_keeps h _ k d

/-- **Reg is preserved by every method call** (repaired code), for one object and its own cell -/
theorem stepLocal_inv {w : Local} (h : LInv w) (op : LOp) : LInv (stepLocal Cfg.fixed w op).1 :=
  (stepLocal_inv_keeps h op).1

/-- no method call changes a registry entry other than the one it is about -/
theorem stepLocal_keeps {w : Local} (h : LInv w) (op : LOp) : Keeps op w (stepLocal Cfg.fixed w op).1 :=
  (stepLocal_inv_keeps h op).2

theorem stepLocal_ref (c : Cfg) (w : Local) (op : LOp) : (stepLocal c w op).1.o.reg = w.o.reg := by
  have haddF : ∀ (w : Local) ts u d, (addF c w ts u d).1.o.reg = w.o.reg := by
    intro w ts u d
    rcases addF_cases c w ts u d with e | e <;> rw [e] <;> rfl
  cases op with
  | addF ts u d => exact haddF w ts u d
  | addFs tss =>
    exact addFs_rel c (fun w w' => w'.o.reg = w.o.reg) (fun _ => rfl) (fun h12 h23 => h23.trans h12)
      (fun w ts => haddF w ts true none) tss w
  | addS d chg =>
    show (addS c w d chg).1.o.reg = _
    rcases addS_cases c w d chg with e | e
    · rw [e]
    · rw [e, addSok_eq]
  | rmF k => exact dropNode_reg _ _
  | rmS k => exact dropNode_reg _ _
  | node i => rfl
  | edge u v => rfl
  | rawS k d =>
    show (rawS w k d).1.o.reg = _
    unfold rawS; split <;> rfl

end C20
