import Pw.C20.FrameGen

/-!
C20 — the model of the repaired code (`Cfg.fixed`): every operation preserves the heap invariant, and
from the invariant the property theorems follow for all histories
-/
namespace C20

theorem linv_localOf {s s' : State} {q : Obj} (hc : s'.cell q = s.cell q) (h : LInv (localOf s q)) :
    LInv (localOf s' q) :=
  LInv.of_fields (w := localOf s q) rfl rfl hc h

theorem stepAt_inv {s : State} (hs : HInv s) (g : Nat) (op : LOp) : HInv (stepAt Cfg.fixed s g op).1 := by
  refine .of_sep (stepAt_sep Cfg.fixed hs.toSep g op) ?_
  cases h : s.objs[g]? with
  | none => rw [stepAt_none op h]; exact hs.linv
  | some o =>
    intro j q hq
    rcases stepAt_objs_some op h hq with ⟨_, rfl⟩ | ⟨hj, hq⟩
    · rw [stepAt_localOf_self hs.toSep op h]
      exact stepLocal_inv (hs.linv g o h) op
    · -- any other object points elsewhere
      exact linv_localOf (stepAt_cell_other op h (hs.sep j g q o hq h hj)) (hs.linv j q hq)

theorem alloc_inv {s : State} (hs : HInv s) (o : Obj) (r : Registry)
    (hl : LInv ⟨o, r, s.classDoms⟩) : HInv (alloc s o r) := by
  refine .of_sep (alloc_sep hs.toSep o r) fun j q hq => ?_
  rcases alloc_objs_some hq with ⟨_, hq⟩ | ⟨_, rfl⟩
  · exact linv_localOf (alloc_cell_old s o r q (hs.valid j q hq)) (hs.linv j q hq)
  · exact LInv.of_fields (w := ⟨o, r, s.classDoms⟩) rfl rfl (alloc_cell_new s o r _ rfl) hl

theorem take_inv {s : State} (hs : HInv s) (n : Nat) : HInv { s with objs := s.objs.take n } :=
  .of_sep (take_sep hs.toSep n) fun j q hq => hs.linv j q (take_sub hq)

theorem empty_linv (cls : Cls) (cd : List Nat) : LInv ⟨{ cls := cls, reg := 0 }, {}, cd⟩ := by
  refine linv_iff.2 ⟨?_, ?_, ?_, ?_⟩ <;> simp [dKeys]

/-- the heap invariant (valid, pairwise distinct registry references; `Reg` for every object) is
preserved by every operation of the repaired code -/
theorem step_inv {s : State} (hs : HInv s) (op : Op) : HInv (step Cfg.fixed s op).1 := by
  cases op with
  | new cls => rw [step_new]; exact alloc_inv hs _ _ (empty_linv cls _)
  | copy g =>
    rw [step_copy]
    cases h : s.objs[g]? with
    | none => rw [stepCopy_none h]; exact hs
    | some o => rw [stepCopy_some rfl h]; exact alloc_inv hs o _ (hs.linv g o h)
  | «at» g lop => exact stepAt_inv hs g lop
  | allS g n =>
    cases h : s.objs[g]? with
    | none => rw [step_allS_none n h]; exact hs
    | some o =>
      have := allSLoop_rel Cfg.fixed s.objs.length (fun s s' => HInv s → HInv s') (fun _ h => h)
        (fun h12 h23 h1 => h23 (h12 h1)) (fun _ _ _ h => stepAt_inv h _ _) (domPairs n) _ 0
        (alloc_inv hs o _ (hs.linv g o h))
      rcases step_allS_some (c := Cfg.fixed) rfl n h with e | e <;> rw [e]
      · exact this
      · exact take_inv this _

/-- **Frame.** An operation leaves the observation of every object it is not called on unchanged –
in particular `copy` and `add_all_snode_combinations` leave their source unchanged, and a method
call on a copy (the original, another graph) is invisible in the original (the copy, the other
graph). -/
theorem frame_step {s : State} (hs : HInv s) (op : Op) :
    Frame op (view Cfg.fixed s) (view Cfg.fixed (step Cfg.fixed s op).1) s.objs.length :=
  (step_gen rfl rfl hs.toSep op).2.1

/-- **Frame** for a method call: every other object shows exactly what it showed before -/
theorem stepAt_frame {s : State} (hs : HInv s) (g : Nat) (op : LOp) (j : Nat) (hj : j ≠ g) :
    view Cfg.fixed (stepAt Cfg.fixed s g op).1 j = view Cfg.fixed s j :=
  stepAt_frame_gen rfl hs.toSep g op j hj

theorem step_len {s : State} (hs : HInv s) (op : Op) : s.objs.length ≤ (step Cfg.fixed s op).1.objs.length :=
  (step_gen rfl rfl hs.toSep op).2.2

theorem init_inv : HInv init := .of_sep init_sep fun _ _ h => (nomatch h)

theorem run_inv : ∀ (ops : List Op) {s : State}, HInv s → HInv (run Cfg.fixed s ops) :=
  fun ops s => run_invariant (P := HInv) (fun _ op h => step_inv h op) ops s

theorem reg_of_inv {s : State} (hs : HInv s) {g : Nat} {v : View} (h : view Cfg.fixed s g = some v) : Reg v := by
  obtain ⟨o, ho, rfl⟩ := view_some rfl h
  exact (hs.linv g o ho).reg

/-- **Reg is an invariant over all histories**: after any sequence of `new`, `copy`,
`add_all_snode_combinations`, `add_f_node`, `add_f_nodes_from`, `add_s_node`, removal of augmented
nodes and node / edge edits among ordinary nodes, on any number of live objects of both classes,
every live object's registered F- and S-nodes are exactly the augmented nodes present and the registered
targets of every F-node are exactly its children. -/
theorem reg_invariant (ops : List Op) (g : Nat) (v : View)
    (h : view Cfg.fixed (run Cfg.fixed init ops) g = some v) : Reg v :=
  reg_of_inv (run_inv ops init_inv) h

/-- no two live objects ever share a registry (the absence of aliasing, for all histories) -/
theorem no_aliasing (ops : List Op) (g h : Nat) (o p : Obj)
    (ho : (run Cfg.fixed init ops).objs[g]? = some o) (hp : (run Cfg.fixed init ops).objs[h]? = some p)
    (hne : g ≠ h) : o.reg ≠ p.reg :=
  (run_inv ops init_inv).sep g h o p ho hp hne

/-- **Frame over histories**: a whole history none of whose operations is called on object `g`
leaves what `g` shows unchanged (whatever is done to its copies, its original, other graphs). -/
theorem frame_run : ∀ (ops : List Op) {s : State}, HInv s → ∀ g, g < s.objs.length →
    (∀ op ∈ ops, some g ≠ op.target) → view Cfg.fixed (run Cfg.fixed s ops) g = view Cfg.fixed s g :=
  fun ops _ hs => frame_run_gen rfl rfl ops hs.toSep

theorem at_views {s : State} (hs : HInv s) {g : Nat} {lop : LOp} {b a : View} (hb : b ∈ view Cfg.fixed s g)
    (ha : a ∈ view Cfg.fixed (step Cfg.fixed s (.at g lop)).1 g) :
    ∃ o, s.objs[g]? = some o ∧ b = lview (localOf s o) ∧ a = lview (stepLocal Cfg.fixed (localOf s o) lop).1 ∧
      (step Cfg.fixed s (.at g lop)).2 = (stepLocal Cfg.fixed (localOf s o) lop).2 := by
  obtain ⟨o, h, rfl⟩ := view_some rfl hb
  rw [step_at, stepAt_view_self rfl hs.toSep lop h] at ha
  cases ha
  refine ⟨o, h, rfl, rfl, ?_⟩
  rw [step_at, stepAt_some lop h]

/-- **Freshness and creation targets** for `add_f_node`: when the call returns, there is a new
F-node whose name was not a node of the graph before, it is a node now, and it is registered with
exactly the given targets. -/
theorem addF_creates {s : State} (hs : HInv s) (g : Nat) (ts : List Nat) (u : Bool) (d : Option (List Nat))
    (hok : (step Cfg.fixed s (.at g (.addF ts u d))).2 = .ok) :
    ∀ b ∈ view Cfg.fixed s g, ∀ a ∈ view Cfg.fixed (step Cfg.fixed s (.at g (.addF ts u d))).1 g,
      CreatedF b a ⟨ts, d.getD [1]⟩ := by
  intro b hb a ha
  obtain ⟨o, ho, rfl, rfl, est⟩ := at_views hs hb ha
  rw [est] at hok
  simp only [stepLocal] at hok ⊢
  rw [addF_ok hok]
  exact addFok_created (hs.linv g o ho) ts d

/-- **Freshness and creation targets** for `add_f_nodes_from`: when the call returns, every given
set has got an F-node of its own whose name was not a node before -/
theorem addFs_creates_heap {s : State} (hs : HInv s) (g : Nat) (tss : List (List Nat))
    (hok : (step Cfg.fixed s (.at g (.addFs tss))).2 = .ok) :
    ∀ b ∈ view Cfg.fixed s g, ∀ a ∈ view Cfg.fixed (step Cfg.fixed s (.at g (.addFs tss))).1 g,
      ∀ ts ∈ tss, CreatedF b a ⟨ts, [1]⟩ := by
  intro b hb a ha ts hts
  obtain ⟨o, ho, rfl, rfl, est⟩ := at_views hs hb ha
  rw [est] at hok
  exact addFs_creates tss (hs.linv g o ho) hok ts hts

/-- **Freshness** for `add_s_node` -/
theorem addS_creates {s : State} (hs : HInv s) (g : Nat) (d : Nat × Nat) (chg : List Nat)
    (hok : (step Cfg.fixed s (.at g (.addS d chg))).2 = .ok) :
    ∀ b ∈ view Cfg.fixed s g, ∀ a ∈ view Cfg.fixed (step Cfg.fixed s (.at g (.addS d chg))).1 g,
      CreatedS b a d := by
  intro b hb a ha
  obtain ⟨o, ho, rfl, rfl, est⟩ := at_views hs hb ha
  rw [est] at hok
  simp only [stepLocal] at hok ⊢
  rw [addS_ok hok]
  exact addSok_created (hs.linv g o ho) d chg

theorem stepAt_keeps {s : State} (hs : HInv s) (g : Nat) (lop : LOp) :
    ∀ b ∈ view Cfg.fixed s g, ∀ a ∈ view Cfg.fixed (step Cfg.fixed s (.at g lop)).1 g,
      (∀ p ∈ b.fs, lop ≠ .rmF p.1 → p ∈ a.fs) ∧ (∀ p ∈ b.ss, lop ≠ .rmS p.1 → p ∈ a.ss) := by
  intro b hb a ha
  obtain ⟨o, ho, rfl, rfl, _⟩ := at_views hs hb ha
  exact stepLocal_keeps (hs.linv g o ho) lop

/-- **Stability of registered targets, one step**: whatever method is called on the object, an
F-node registered before that is not the node being removed is registered afterwards with the same
targets (and S-nodes keep their domain pair): nobody's entry is overwritten. -/
theorem targets_stable_step {s : State} (hs : HInv s) (g : Nat) (lop : LOp) :
    ∀ b ∈ view Cfg.fixed s g, ∀ a ∈ view Cfg.fixed (step Cfg.fixed s (.at g lop)).1 g, Stable lop b a :=
  fun b hb a ha =>
    ⟨fun p hp hne => ⟨p, (stepAt_keeps hs g lop b hb a ha).1 p hp hne, rfl, sameEntry_refl _⟩,
      (stepAt_keeps hs g lop b hb a ha).2⟩

/-- a copy shows exactly what its original shows at the moment of the copy -/
theorem copy_same_view {s : State} (hs : HInv s) (g : Nat) (b : View) (hb : view Cfg.fixed s g = some b) :
    view Cfg.fixed (step Cfg.fixed s (.copy g)).1 s.objs.length = some b := by
  obtain ⟨o, h, rfl⟩ := view_some rfl hb
  rw [step_copy, stepCopy_some rfl h, alloc_view_new rfl]
  rfl

end C20
