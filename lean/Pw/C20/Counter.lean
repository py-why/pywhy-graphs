import Pw.C20.Trace

/-!
C20 — (1) history-level stability of registered targets; (2) the four defects of the unchanged
code, each as a literal model (`Cfg` flag) with a kernel-checked counterexample to the
specification `StepOK`, on the witness that is also replayed on the implementation
(corpus/C20/*.json); (3) non-vacuity examples for the property theorems.
-/
namespace C20

theorem entry_kept_step {s : State} (hs : HInv s) (op : Op) (g k : Nat) (e : FEntry)
    (hg : g < s.objs.length) (hne : op ≠ .at g (.rmF k)) :
    ∀ b ∈ view Cfg.fixed s g, (k, e) ∈ b.fs → ∀ a ∈ view Cfg.fixed (step Cfg.fixed s op).1 g, (k, e) ∈ a.fs := by
  intro b hb hin a ha
  by_cases ht : some g ≠ op.target
  · -- not called on `g`: Frame
    rw [frame_step hs op g hg ht] at ha
    cases Option.mem_unique hb ha
    exact hin
  · -- a method call on `g` other than the removal of `('F', k)`
    cases op with
    | «at» g' lop =>
      have : g = g' := by simpa [Op.target] using ht
      subst this
      exact (stepAt_keeps hs g lop b hb a ha).1 _ hin fun h => hne (by rw [h])
    | _ => exact absurd (by simp [Op.target]) ht

/-- **Each F-node stays registered with exactly the targets it was created with**: over any
history in which `('F', k)` of object `g` is not removed, the entry `k ↦ (targets, domain)` of `g`
stays what it is (`addF_creates` says it starts as the targets given at creation; `reg_invariant`
says these are the children at every moment). -/
theorem targets_stable_run : ∀ (ops : List Op) {s : State}, HInv s → ∀ (g k : Nat) (e : FEntry),
    g < s.objs.length → (∀ op ∈ ops, op ≠ .at g (.rmF k)) →
    ∀ b ∈ view Cfg.fixed s g, (k, e) ∈ b.fs →
    ∀ a ∈ view Cfg.fixed (run Cfg.fixed s ops) g, (k, e) ∈ a.fs := by
  intro ops
  induction ops with
  | nil =>
    intro s _ g k e _ _ b hb hin a ha
    cases Option.mem_unique hb ha
    exact hin
  | cons op rest ih =>
    intro s hs g k e hg hne b hb hin a ha
    have hlen := Nat.lt_of_lt_of_le hg (step_len hs op)
    obtain ⟨m, hv⟩ := view_of_lt Cfg.fixed hlen
    have hm := entry_kept_step hs op g k e hg (hne op (List.mem_cons_self ..)) b hb hin m hv
    exact ih (step_inv hs op) g k e hlen (fun op' h' => hne op' (List.mem_cons_of_mem _ h')) m hv hm a ha

def Cfg.lenNamingOnly : Cfg := ⟨true, false, false, false⟩
def Cfg.sharedCopyOnly : Cfg := ⟨false, true, false, false⟩
def Cfg.keepSOnly : Cfg := ⟨false, false, true, false⟩
def Cfg.classDomsOnly : Cfg := ⟨false, false, false, true⟩

/-- the specification of one step, evaluated on the model `c` after the history `pre` -/
def StepOKAt (c : Cfg) (pre : List Op) (op : Op) : Prop :=
  StepOK op (decide ((step c (run c init pre) op).2 = .ok))
    (view c (run c init pre)) (view c (step c (run c init pre) op).1)
    (run c init pre).objs.length (step c (run c init pre) op).1.objs.length

instance (c : Cfg) (pre : List Op) (op : Op) : Decidable (StepOKAt c pre op) := by
  unfold StepOKAt; exact inferInstance

def RegAll (c : Cfg) (s : State) : Prop := ∀ g < s.objs.length, ∀ v ∈ view c s g, Reg v

instance (c : Cfg) (s : State) : Decidable (RegAll c s) := by unfold RegAll; exact inferInstance

/-- witness corpus/C20/name-collision-after-removing-nonlast-f-node (a variant whose last call
targets `{0}`): F0 ↦ {0}, F1 ↦ {1}, remove F0, add an F-node for {0} -/
def preLen : List Op :=
  [.new .ag, .at 0 (.node 0), .at 0 (.node 1), .at 0 (.addF [0] true none), .at 0 (.addF [1] true none),
   .at 0 (.rmF 0)]

theorem counterexample_len_naming_reg :
    ¬ RegAll Cfg.lenNamingOnly (run Cfg.lenNamingOnly init (preLen ++ [.at 0 (.addF [0] true none)])) := by
  decide +kernel

/-- `('F', len(f_nodes))` reuses the name of the live node `('F', 1)`: no node is created, and
`('F', 1)` is registered with `{0}` while its children are `{0, 1}` -/
theorem counterexample_len_naming : ¬ StepOKAt Cfg.lenNamingOnly preLen (.at 0 (.addF [0] true none)) := by
  intro h
  apply counterexample_len_naming_reg
  rw [run_append]
  exact h.1

/-- Frame fails for the shared registry: the call on object 1 changes what object 0 shows -/
theorem counterexample_shared_copy_frame :
    ¬ Frame (.at 1 (.addF [] true none)) (view Cfg.sharedCopyOnly (run Cfg.sharedCopyOnly init [.new .ag, .copy 0]))
      (view Cfg.sharedCopyOnly (run Cfg.sharedCopyOnly init [.new .ag, .copy 0, .at 1 (.addF [] true none)])) 2 := by
  decide +kernel

/-- witness corpus/C20/copy-shares-registry: the copy registers an F-node, the original shows it -/
theorem counterexample_shared_copy :
    ¬ StepOKAt Cfg.sharedCopyOnly [.new .ag, .copy 0] (.at 1 (.addF [] true none)) :=
  fun h => counterexample_shared_copy_frame h.2.1

/-- witness corpus/C20/add-all-snode-combinations-writes-into-original -/
theorem counterexample_shared_copy_allS : ¬ StepOKAt Cfg.sharedCopyOnly [.new .ag] (.allS 0 2) := by decide +kernel

/-- witness corpus/C20/augmentedgraph-remove-keeps-s-node-registered -/
theorem counterexample_keep_s :
    ¬ StepOKAt Cfg.keepSOnly [.new .ag, .at 0 (.addS (1, 2) [])] (.at 0 (.rmS 0)) := by decide +kernel

/-- witness corpus/C20/domains-class-attribute-shared: two separately constructed graphs -/
theorem counterexample_class_domains :
    ¬ StepOKAt Cfg.classDomsOnly [.new .ag, .new .ag] (.at 0 (.addS (1, 2) [])) := by decide +kernel

/-- the unchanged code (all four defects) fails on each witness -/
theorem counterexample_orig :
    ¬ StepOKAt Cfg.orig preLen (.at 0 (.addF [0] true none)) ∧
    ¬ StepOKAt Cfg.orig [.new .ag, .copy 0] (.at 1 (.addF [] true none)) ∧
    ¬ StepOKAt Cfg.orig [.new .ag, .at 0 (.addS (1, 2) [])] (.at 0 (.rmS 0)) ∧
    ¬ StepOKAt Cfg.orig [.new .ag, .new .ag] (.at 0 (.addS (1, 2) [])) := by decide +kernel

theorem stepOKAt_fixed (pre : List Op) (op : Op) : StepOKAt Cfg.fixed pre op :=
  model_stepOK (run_inv pre init_inv) op

/-- the repaired model satisfies the whole step specification on the witnesses of the four defects -/
theorem test_fixed_on_witnesses :
    StepOKAt Cfg.fixed preLen (.at 0 (.addF [0] true none)) ∧
    StepOKAt Cfg.fixed [.new .ag, .copy 0] (.at 1 (.addF [] true none)) ∧
    StepOKAt Cfg.fixed [.new .ag] (.allS 0 2) ∧
    StepOKAt Cfg.fixed [.new .ag, .at 0 (.addS (1, 2) [])] (.at 0 (.rmS 0)) ∧
    StepOKAt Cfg.fixed [.new .ag, .new .ag] (.at 0 (.addS (1, 2) [])) :=
  ⟨stepOKAt_fixed _ _, stepOKAt_fixed _ _, stepOKAt_fixed _ _, stepOKAt_fixed _ _, stepOKAt_fixed _ _⟩

/-- a history with three live objects, a copy, removals and re-additions -/
def demo : List Op :=
  preLen ++ [.at 0 (.addF [0, 1] true (some [2])), .copy 0, .at 1 (.addS (1, 2) [0]), .new .pag,
             .at 2 (.node 2), .at 2 (.addS (2, 3) [2]), .at 1 (.rmF 1)]

/-- non-vacuity of `reg_invariant`: object 1 of `demo` exists and has F- and S-nodes -/
example : ∃ v, view Cfg.fixed (run Cfg.fixed init demo) 1 = some v ∧ v.fs ≠ [] ∧ v.ss ≠ [] :=
  ⟨_, rfl, by decide, by decide⟩

/-- non-vacuity of `frame_run` / `frame_step`: the last four operations of `demo` are not called on
object 0 (they edit its copy and another graph), object 0 exists before them -/
example : (∀ op ∈ demo.drop 8, some 0 ≠ op.target) ∧ 0 < (run Cfg.fixed init (demo.take 8)).objs.length ∧
    demo.drop 8 ≠ [] := by decide

/-- non-vacuity of `addF_creates`: the call returns `ok` after a removal of a non-last F-node -/
example : (step Cfg.fixed (run Cfg.fixed init preLen) (.at 0 (.addF [0] true none))).2 = .ok := by decide

/-- non-vacuity of `addS_creates` -/
example : (step Cfg.fixed (run Cfg.fixed init [.new .pag]) (.at 0 (.addS (1, 2) [0]))).2 = .ok := by decide

/-- non-vacuity of `targets_stable_run`: F2 ↦ {0,1} of object 0 exists after 8 steps of `demo` and
is never removed from object 0 afterwards -/
example : (∃ b ∈ view Cfg.fixed (run Cfg.fixed init (demo.take 8)) 0, (2, ⟨[0, 1], [2]⟩) ∈ b.fs) ∧
    (∀ op ∈ demo.drop 8, op ≠ .at 0 (.rmF 2)) := by decide

/-- the name chosen after removing F0 of {F0, F1} is 2 (first free index ≥ len), not 1 -/
example : nameF Cfg.fixed ⟨{ cls := .ag, nodes := [.ord 0, .f 1], reg := 0 }, { fs := [(1, ⟨[0], [1]⟩)] }, []⟩ = 2 := by
  decide

end C20
