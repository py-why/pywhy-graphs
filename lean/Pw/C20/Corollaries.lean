import Pw.C20.Counter

/-!
C20 — the sentences of the English property as single theorems over histories (corollaries of
`Proofs.lean` / `Counter.lean`).
-/
namespace C20

theorem created_targets_of_inv {s : State} (hs : HInv s) (post : List Op) (g : Nat) (ts : List Nat) (u : Bool)
    (d : Option (List Nat)) (hok : (step Cfg.fixed s (.at g (.addF ts u d))).2 = .ok) :
    ∃ k, (∀ b ∈ view Cfg.fixed s g, Node.f k ∉ b.nodes) ∧
      ((∀ op ∈ post, op ≠ .at g (.rmF k)) →
        ∀ a ∈ view Cfg.fixed (run Cfg.fixed (step Cfg.fixed s (.at g (.addF ts u d))).1 post) g,
          (k, ⟨ts, d.getD [1]⟩) ∈ a.fs ∧ ∀ t, t ∈ a.children (.f k) ↔ t ∈ ts) := by
  rw [step_at] at hok
  cases ho : s.objs[g]? with
  | none => rw [stepAt_none _ ho] at hok; cases hok
  | some o =>
    have hself : view Cfg.fixed (stepAt Cfg.fixed s g (.addF ts u d)).1 g =
        some (lview (addF Cfg.fixed (localOf s o) ts u d).1) := stepAt_view_self rfl hs.toSep _ ho
    rw [stepAt_some _ ho] at hok
    rw [addF_ok hok] at hself
    refine ⟨nameF Cfg.fixed (localOf s o), fun b hb => ?_, fun hne a ha => ?_⟩
    · rw [view_at rfl ho] at hb; cases hb
      exact nameF_fresh _
    · -- the entry is there after the call, stays, and `Reg` holds at the end
      have hs1 : HInv (step Cfg.fixed s (.at g (.addF ts u d))).1 := step_inv hs _
      have hg := Nat.lt_of_lt_of_le (List.getElem?_eq_some_iff.1 ho).1 (step_len hs (.at g (.addF ts u d)))
      have hkeep := targets_stable_run post hs1 g _ _ hg hne _ (Option.mem_def.2 hself)
        (addFok_entry (hs.linv g o ho) ts d) a ha
      have hreg := reg_of_inv (run_inv post hs1) (Option.mem_def.1 ha)
      exact ⟨hkeep, fun t => ⟨hreg.children_targets _ hkeep t, hreg.targets_children _ hkeep t⟩⟩

/-- **"each F-node is registered with exactly the targets it was created with, which are exactly
its children"**, as one statement over histories: run any history `pre`; call `add_f_node(ts)` on
object `g` and let it return; then there is a name `k` that was not a node of `g`, such that after
ANY further history `post` that does not remove `('F', k)` from `g` itself (it may remove other
nodes, copy `g`, edit the copies, edit other graphs, add more F-nodes to `g`, …) object `g` has
`('F', k)` registered with exactly `ts` (and the given domain) and the children of `('F', k)` in
`g` are exactly `ts`. -/
theorem created_targets_forever (pre post : List Op) (g : Nat) (ts : List Nat) (u : Bool) (d : Option (List Nat))
    (hok : (step Cfg.fixed (run Cfg.fixed init pre) (.at g (.addF ts u d))).2 = .ok) :
    ∃ k, (∀ b ∈ view Cfg.fixed (run Cfg.fixed init pre) g, Node.f k ∉ b.nodes) ∧
      ((∀ op ∈ post, op ≠ .at g (.rmF k)) →
        ∀ a ∈ view Cfg.fixed (run Cfg.fixed (step Cfg.fixed (run Cfg.fixed init pre) (.at g (.addF ts u d))).1 post) g,
          (k, ⟨ts, d.getD [1]⟩) ∈ a.fs ∧ ∀ t, t ∈ a.children (.f k) ↔ t ∈ ts) :=
  created_targets_of_inv (run_inv pre init_inv) post g ts u d hok

/-- **"The registries of a copy and its original are independent"**, direction original: whatever
is done afterwards to the copy (object number `s.objs.length`) or to any object other than `g`,
`g` shows what it showed before it was copied. -/
theorem copy_leaves_original {s : State} (hs : HInv s) (g : Nat) (hg : g < s.objs.length) (ops : List Op)
    (hops : ∀ op ∈ ops, some g ≠ op.target) :
    view Cfg.fixed (run Cfg.fixed (step Cfg.fixed s (.copy g)).1 ops) g = view Cfg.fixed s g := by
  have h1 := frame_step hs (.copy g) g hg (by simp [Op.target])
  have h2 := frame_run ops (step_inv hs (.copy g)) g (Nat.lt_of_lt_of_le hg (step_len hs _)) hops
  exact h2.trans h1

/-- direction copy: whatever is done afterwards to the original or to any object other than the
copy, the copy keeps showing what the original showed at the moment of the copy. -/
theorem original_leaves_copy {s : State} (hs : HInv s) (g : Nat) (b : View) (hb : view Cfg.fixed s g = some b)
    (ops : List Op) (hops : ∀ op ∈ ops, some s.objs.length ≠ op.target) :
    view Cfg.fixed (run Cfg.fixed (step Cfg.fixed s (.copy g)).1 ops) s.objs.length = some b := by
  have h1 := copy_same_view hs g b hb
  exact (frame_run ops (step_inv hs (.copy g)) _ (lt_of_view h1) hops).trans h1

/-- **"… and of two separately constructed graphs"**: a newly constructed graph shows nothing, and
keeps showing nothing whatever is done to the graphs that existed before (and vice versa by
`frame_run`). -/
theorem new_graph_independent {s : State} (hs : HInv s) (cls : Cls) (ops : List Op)
    (hops : ∀ op ∈ ops, some s.objs.length ≠ op.target) :
    ∀ a ∈ view Cfg.fixed (run Cfg.fixed (step Cfg.fixed s (.new cls)).1 ops) s.objs.length,
      a.nodes = [] ∧ a.fs = [] ∧ a.ss = [] ∧ a.doms = [] := by
  intro a ha
  have h1 : view Cfg.fixed (step Cfg.fixed s (.new cls)).1 s.objs.length =
      some (lview ⟨{ cls := cls, reg := 0 }, {}, s.classDoms⟩) := by
    rw [step_new]; exact alloc_view_new rfl _ _ _
  rw [frame_run ops (step_inv hs (.new cls)) _ (lt_of_view h1) hops, h1, Option.mem_def] at ha
  cases ha
  exact ⟨rfl, rfl, rfl, rfl⟩

/-- non-vacuity of `created_targets_forever`: `demo` = `preLen ++ add_f_node({0,1}) :: post` where
the call returns and `post` (copy, edits of the copy and of a third graph, removal of F1 from the
copy) never removes F2 from object 0 -/
example : (step Cfg.fixed (run Cfg.fixed init preLen) (.at 0 (.addF [0, 1] true (some [2])))).2 = .ok ∧
    (∀ op ∈ demo.drop 7, op ≠ .at 0 (.rmF 2)) ∧ demo.drop 7 ≠ [] := by decide

end C20
