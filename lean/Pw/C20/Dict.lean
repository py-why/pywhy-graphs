import Pw.C20.Heap

/-!
C20 — the list encoding of the two registries is a faithful Python dict in every model (repaired
code and every defect model): keys are never duplicated, for all histories.  (`d[k] = v` on a
present key replaces, on an absent key appends; `del d[k]` removes.)
-/
namespace C20

def RegND (r : Registry) : Prop := (dKeys r.fs).Nodup ∧ (dKeys r.ss).Nodup

theorem nodup_dKeys_dSet {d : List (Nat × α)} (k : Nat) (v : α) (h : (dKeys d).Nodup) : (dKeys (dSet d k v)).Nodup := by
  rw [dKeys_dSet_eq]
  split
  · exact h
  · rename_i hk
    rw [List.nodup_append]
    refine ⟨h, by simp, ?_⟩
    intro a ha b hb
    simp at hb; subst hb
    exact fun e => hk (e ▸ ha)

theorem nodup_dKeys_dErase {d : List (Nat × α)} (k : Nat) (h : (dKeys d).Nodup) : (dKeys (dErase d k)).Nodup := by
  unfold dKeys dErase at *
  exact h.sublist (List.filter_sublist.map _)

theorem RegND.empty : RegND {} := by simp [RegND, dKeys]

theorem addF_nd (c : Cfg) (w : Local) (ts : List Nat) (u : Bool) (d : Option (List Nat)) (h : RegND w.r) :
    RegND (addF c w ts u d).1.r := by
  rcases addF_cases c w ts u d with e | e <;> rw [e]
  · exact h
  · exact ⟨nodup_dKeys_dSet _ _ h.1, h.2⟩

theorem addFs_nd (c : Cfg) (tss : List (List Nat)) (w : Local) : RegND w.r → RegND (addFs c w tss).1.r :=
  addFs_rel c (fun w w' => RegND w.r → RegND w'.r) (fun _ h => h) (fun h12 h23 h => h23 (h12 h))
    (fun w ts => addF_nd c w ts true none) tss w

theorem stepLocal_nd (c : Cfg) (w : Local) (op : LOp) (h : RegND w.r) : RegND (stepLocal c w op).1.r := by
  cases op with
  | addF ts u d => exact addF_nd c w ts u d h
  | addFs tss => exact addFs_nd c tss w h
  | addS d chg =>
    show RegND (addS c w d chg).1.r
    rcases addS_cases c w d chg with e | e <;> rw [e]
    · exact h
    · rw [addSok_eq]
      exact ⟨h.1, nodup_dKeys_dSet _ _ h.2⟩
  | rmF k =>
    show RegND (rmF w k).1.r
    rw [rmF_eq, dropNode_r]
    exact ⟨nodup_dKeys_dErase _ h.1, h.2⟩
  | rmS k =>
    show RegND (rmS c w k).1.r
    unfold rmS
    rw [dropNode_r]
    split
    · exact h
    · split
      · exact ⟨h.1, nodup_dKeys_dErase _ h.2⟩
      · exact h
  | node i => exact h
  | edge u v => exact h
  | rawS k d =>
    show RegND (rawS w k d).1.r
    unfold rawS
    split
    · exact h
    · exact ⟨h.1, nodup_dKeys_dSet _ _ h.2⟩

def HeapND (s : State) : Prop := ∀ r ∈ s.regs, RegND r

theorem cell_nd {s : State} (h : HeapND s) (o : Obj) : RegND (s.cell o) := by
  rw [cell_eq]
  cases hr : s.regs[o.reg]? with
  | none => exact RegND.empty
  | some r => exact h r (List.mem_of_getElem? hr)

theorem HeapND.append {s : State} (h : HeapND s) {r : Registry} (hr : RegND r) : ∀ r' ∈ s.regs ++ [r], RegND r' := by
  intro r' hm
  rcases List.mem_append.1 hm with h1 | h1
  · exact h r' h1
  · rw [List.mem_singleton.1 h1]; exact hr

theorem stepAt_nd (c : Cfg) {s : State} (h : HeapND s) (g : Nat) (op : LOp) : HeapND (stepAt c s g op).1 := by
  cases ho : s.objs[g]? with
  | none => rw [stepAt_none op ho]; exact h
  | some o =>
    rw [stepAt_some op ho]
    intro r hr
    rcases List.mem_or_eq_of_mem_set hr with h1 | h1
    · exact h r h1
    · rw [h1]; exact stepLocal_nd c _ op (cell_nd h o)

theorem stepCopy_nd (c : Cfg) {s : State} (h : HeapND s) (g : Nat) : HeapND (stepCopy c s g).1 := by
  unfold stepCopy
  cases ho : s.objs[g]? with
  | none => exact h
  | some o =>
    dsimp only
    split
    · exact h
    · exact h.append (cell_nd h o)

theorem allSLoop_nd (c : Cfg) (g : Nat) (ds : List (Nat × Nat)) (s : State) (k : Nat) :
    HeapND s → HeapND (allSLoop c s g ds k).1 :=
  allSLoop_rel c g (fun s s' => HeapND s → HeapND s') (fun _ h => h) (fun h12 h23 h => h23 (h12 h))
    (fun _ _ _ h => stepAt_nd c h g _) ds s k

theorem step_nd (c : Cfg) {s : State} (h : HeapND s) (op : Op) : HeapND (step c s op).1 := by
  cases op with
  | new cls => exact h.append RegND.empty
  | copy g => exact stepCopy_nd c h g
  | «at» g lop => exact stepAt_nd c h g lop
  | allS g n =>
    simp only [step]
    have h1 := stepCopy_nd c h g
    rcases hs : stepCopy c s g with ⟨s1, st⟩
    rw [hs] at h1
    cases st with
    | err => exact h1
    | ok =>
      have h2 := allSLoop_nd c s.objs.length (domPairs n) s1 0 h1
      dsimp only
      -- dropping the half-built copy does not touch the cells
      rcases hl : allSLoop c s1 s.objs.length (domPairs n) 0 with ⟨s2, st2⟩
      rw [hl] at h2
      cases st2 <;> exact h2

/-- in every model (any combination of the defect flags) and after every history, every registry
cell of the heap has pairwise distinct keys: the association lists behave as Python dicts -/
theorem dict_wellformed (c : Cfg) : ∀ (ops : List Op) (s : State), HeapND s → HeapND (run c s ops) :=
  run_invariant (P := HeapND) fun _ op h => step_nd c h op

theorem dict_wellformed_init (c : Cfg) (ops : List Op) : HeapND (run c init ops) :=
  dict_wellformed c ops init fun _ hr => nomatch hr

end C20
