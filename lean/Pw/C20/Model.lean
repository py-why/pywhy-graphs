/-!
# C20 — model of the F- and S-node registry of `AugmentedGraph` / `AugmentedPAG`

Anchors: `pywhy_graphs/classes/augmented.py` (`AugmentedNodeMixin`, the two classes, their `copy` and
`remove_node`), `pywhy_graphs/networkx/classes/mixededge.py` (`add_node`, `add_edge`, `remove_node`,
`copy`), `pywhy_graphs/algorithms/multidomain.py` (`add_all_snode_combinations`).

The model is a *heap*: a store of registry cells (`graph['F-nodes']`, `graph['S-nodes']` – Python
dicts, i.e. mutable objects held by reference) and a list of live graph objects, each holding a
*reference* into that store.  Aliasing is therefore expressible, because aliasing is what the
property is about.  `Cfg` selects, defect by defect, between the behaviour of the repaired code
(all flags `false` = `Cfg.fixed`, the code on the verified tree) and the behaviour of the unchanged
code (`Cfg.orig`), so that the counterexample theorems talk about a literal model of each defect.

What is abstracted: edges among ordinary nodes are not stored.  They never touch an augmented node,
so none of the observations of the property (`nodes`, registries, children of F-nodes) depends on
them; the only effect of `add_edge(u, v)` that is visible to the property is that `u` and `v` become
nodes (a guard of `PAG.add_edge` can only reject when an edge between `u` and `v` already exists, in
which case both already are nodes).  Edges from augmented nodes to their targets (`aedges`, always
in the directed layer) are stored.
-/
namespace C20

/-- node labels: ordinary nodes, `('F', k)`, `('S', k)` -/
inductive Node where
  | ord (i : Nat)
  | f (k : Nat)
  | s (k : Nat)
  deriving DecidableEq, Repr, Inhabited

inductive Cls where
  | ag   -- AugmentedGraph
  | pag  -- AugmentedPAG
  deriving DecidableEq, Repr, Inhabited

/-- `graph['F-nodes'][f] = {'targets': frozenset, 'domain': set}` -/
structure FEntry where
  targets : List Nat
  domain : List Nat
  deriving DecidableEq, Repr, Inhabited

/-- one registry cell of the heap: the two dicts (insertion ordered, as in Python) -/
structure Registry where
  fs : List (Nat × FEntry) := []
  ss : List (Nat × (Nat × Nat)) := []
  deriving DecidableEq, Repr, Inhabited

/-- one live graph object.  `reg` is a *reference* (index into `State.regs`). -/
structure Obj where
  cls : Cls
  nodes : List Node := []
  aedges : List (Node × Nat) := []   -- directed edges augmented node → ordinary node
  reg : Nat
  doms : List Nat := []              -- instance attribute `domains` (repaired code)
  deriving DecidableEq, Repr, Inhabited

structure State where
  regs : List Registry := []
  objs : List Obj := []
  classDoms : List Nat := []         -- the class attribute `AugmentedNodeMixin.domains` (unchanged code)
  deriving DecidableEq, Repr, Inhabited

/-- which of the four defects of the unchanged tree are present -/
structure Cfg where
  lenNaming : Bool   -- name = ('F', len(f_nodes)) without looking at the nodes
  sharedCopy : Bool  -- copy() shares the registry dicts with the original
  keepS : Bool       -- AugmentedGraph.remove_node leaves S-nodes registered
  classDoms : Bool   -- `domains` is one set shared by every instance
  deriving DecidableEq, Repr

def Cfg.fixed : Cfg := ⟨false, false, false, false⟩
def Cfg.orig : Cfg := ⟨true, true, true, true⟩

inductive Status where
  | ok
  | err
  deriving DecidableEq, Repr, Inhabited

/-! ## Python dict / set primitives -/

def dKeys (d : List (Nat × α)) : List Nat := d.map (·.1)

/-- `d[k] = v` : overwrite in place or append -/
def dSet (d : List (Nat × α)) (k : Nat) (v : α) : List (Nat × α) :=
  if k ∈ dKeys d then d.map (fun p => if p.1 = k then (k, v) else p) else d ++ [(k, v)]

/-- `del d[k]` -/
def dErase (d : List (Nat × α)) (k : Nat) : List (Nat × α) := d.filter (fun p => p.1 ≠ k)

/-- `set.add` / `add_node` on an insertion-ordered collection -/
def insertNew [DecidableEq α] (l : List α) (a : α) : List α := if a ∈ l then l else l ++ [a]

def addAll [DecidableEq α] (l : List α) (as : List α) : List α := as.foldl insertNew l

/-- frozenset equality -/
def sameSet (a b : List Nat) : Bool := a.all (· ∈ b) && b.all (· ∈ a)

def fNames (ns : List Node) : List Nat := ns.filterMap fun | .f k => some k | _ => none
def sNames (ns : List Node) : List Nat := ns.filterMap fun | .s k => some k | _ => none

/-- the loop `while (tag, idx) in self.nodes: idx += 1` with an explicit bound on the iterations -/
def freshAux (used : List Nat) : Nat → Nat → Nat
  | 0, i => i
  | fuel + 1, i => if i ∈ used then freshAux used fuel (i + 1) else i

/-- `idx = start; while (tag, idx) in self.nodes: idx += 1` – the repaired name generation.
`used.length + 1` iterations always suffice (`freshIdx_not_mem`), so the bound is never what stops
the loop. -/
def freshIdx (used : List Nat) (i : Nat) : Nat := freshAux used (used.length + 1) i

/-! ## one method call on one object

`Local` is everything a method of one object can reach: the object's own fields, the registry cell
its `graph` dict points to, and the class attribute. -/

structure Local where
  o : Obj
  r : Registry
  cd : List Nat
  deriving DecidableEq, Repr, Inhabited

/-- local operations (methods called on one existing object) -/
inductive LOp where
  | addF (ts : List Nat) (uniq : Bool) (dom : Option (List Nat))  -- add_f_node(ts, require_unique, domain)
  | addFs (tss : List (List Nat))                                 -- add_f_nodes_from
  | addS (d : Nat × Nat) (chg : List Nat)                         -- add_s_node(domain_ids, node_changes)
  | rmF (k : Nat)                                                 -- remove_node(('F', k))
  | rmS (k : Nat)                                                 -- remove_node(('S', k))
  | node (i : Nat)                                                -- add_node(ordinary)
  | edge (u v : Nat)                                              -- add_edge(u, v, <type>) among ordinary nodes
  | rawS (k : Nat) (d : Nat × Nat)                                -- loop body of add_all_snode_combinations
  deriving DecidableEq, Repr, Inhabited

def nameF (c : Cfg) (w : Local) : Nat :=
  if c.lenNaming then w.r.fs.length else freshIdx (fNames w.o.nodes) w.r.fs.length

def nameS (c : Cfg) (w : Local) : Nat :=
  if c.lenNaming then w.r.ss.length else freshIdx (sNames w.o.nodes) w.r.ss.length

/-- the part of `add_f_node` after the checks: new node, edges to the targets, registry entry -/
def addFok (c : Cfg) (w : Local) (ts : List Nat) (dom : Option (List Nat)) : Local :=
  let k := nameF c w
  { w with
      o := { w.o with nodes := insertNew w.o.nodes (.f k),
                      aedges := w.o.aedges ++ ts.map (fun t => (Node.f k, t)) },
      r := { w.r with fs := dSet w.r.fs k ⟨ts, dom.getD [1]⟩ } }

/-- `add_f_node` (augmented.py) -/
def addF (c : Cfg) (w : Local) (ts : List Nat) (uniq : Bool) (dom : Option (List Nat)) : Local × Status :=
  -- len(frozenset(intervention_set)) != len(intervention_set)
  if ¬ ts.Nodup then (w, .err)
  -- require_unique and intervention_set in self.intervention_sets
  else if uniq && w.r.fs.any (fun p => sameSet p.2.targets ts) then (w, .err)
  -- every target must be a node
  else if ts.any (fun t => decide (Node.ord t ∉ w.o.nodes)) then (w, .err)
  else (addFok c w ts dom, .ok)

/-- `add_f_nodes_from`: `add_f_node` one after the other, the first exception aborts -/
def addFs (c : Cfg) (w : Local) : List (List Nat) → Local × Status
  | [] => (w, .ok)
  | ts :: rest =>
    match addF c w ts true none with
    | (w', .ok) => addFs c w' rest
    | (w', .err) => (w', .err)

/-- the part of `add_s_node` after the checks -/
def addSok (c : Cfg) (w : Local) (d : Nat × Nat) (chg : List Nat) : Local :=
  let k := nameS c w
  let w1 : Local := if c.classDoms then { w with cd := addAll w.cd [d.1, d.2] }
                    else { w with o := { w.o with doms := addAll w.o.doms [d.1, d.2] } }
  { w1 with
      o := { w1.o with nodes := addAll (insertNew w1.o.nodes (.s k)) (chg.map Node.ord),
                       aedges := w1.o.aedges ++ chg.map (fun t => (Node.s k, t)) },
      r := { w1.r with ss := dSet w1.r.ss k d } }

/-- `add_s_node` (augmented.py).  The test `domain_ids in self.domain_ids` compares a tuple
with a list of ints and never fires; `node_changes` need not be nodes (add_edge creates them). -/
def addS (c : Cfg) (w : Local) (d : Nat × Nat) (chg : List Nat) : Local × Status :=
  if ¬ chg.Nodup then (w, .err) else (addSok c w d chg, .ok)

/-- the node and its incident edges are gone -/
def dropOk (w : Local) (n : Node) : Local :=
  { w with o := { w.o with nodes := w.o.nodes.filter (fun m => m ≠ n),
                            aedges := w.o.aedges.filter (fun e => e.1 ≠ n ∧ Node.ord e.2 ≠ n) } }

/-- `MixedEdgeGraph.remove_node`: error when absent, else drop the node and its incident edges -/
def dropNode (w : Local) (n : Node) : Local × Status :=
  if n ∈ w.o.nodes then (dropOk w n, .ok) else (w, .err)

/-- `remove_node(('F', k))` of both classes -/
def rmF (w : Local) (k : Nat) : Local × Status :=
  let r1 := if k ∈ dKeys w.r.fs then { w.r with fs := dErase w.r.fs k } else w.r
  dropNode { w with r := r1 } (.f k)

/-- `remove_node(('S', k))`; the unchanged `AugmentedGraph.remove_node` has no S branch -/
def rmS (c : Cfg) (w : Local) (k : Nat) : Local × Status :=
  let r1 := if c.keepS && w.o.cls == .ag then w.r
            else if k ∈ dKeys w.r.ss then { w.r with ss := dErase w.r.ss k } else w.r
  dropNode { w with r := r1 } (.s k)

/-- loop body of `add_all_snode_combinations(..., on_error='raise')` -/
def rawS (w : Local) (k : Nat) (d : Nat × Nat) : Local × Status :=
  if k ∈ dKeys w.r.ss then (w, .err)
  else ({ w with o := { w.o with nodes := insertNew w.o.nodes (.s k) },
                 r := { w.r with ss := dSet w.r.ss k d } }, .ok)

def stepLocal (c : Cfg) (w : Local) : LOp → Local × Status
  | .addF ts u d => addF c w ts u d
  | .addFs tss => addFs c w tss
  | .addS d chg => addS c w d chg
  | .rmF k => rmF w k
  | .rmS k => rmS c w k
  | .node i => ({ w with o := { w.o with nodes := insertNew w.o.nodes (.ord i) } }, .ok)
  | .edge u v => ({ w with o := { w.o with nodes := insertNew (insertNew w.o.nodes (.ord u)) (.ord v) } }, .ok)
  | .rawS k d => rawS w k d

/-! ## the heap level -/

inductive Op where
  | new (cls : Cls)            -- AugmentedGraph() / AugmentedPAG()
  | copy (g : Nat)             -- G.copy()
  | at (g : Nat) (op : LOp)    -- a method call on object g
  | allS (g : Nat) (n : Nat)   -- add_all_snode_combinations(G, n)  (returns a new graph)
  deriving DecidableEq, Repr, Inhabited

def State.cell (s : State) (o : Obj) : Registry := s.regs.getD o.reg {}

/-- run a local operation on object `g` and write the three reachable places back -/
def stepAt (c : Cfg) (s : State) (g : Nat) (op : LOp) : State × Status :=
  match s.objs[g]? with
  | none => (s, .err)
  | some o =>
    let res := stepLocal c ⟨o, s.cell o, s.classDoms⟩ op
    ({ regs := s.regs.set o.reg res.1.r, objs := s.objs.set g res.1.o, classDoms := res.1.cd }, res.2)

/-- `copy()`.  Repaired code: the copy gets registry dicts of its own (a new heap cell with the same
contents) and its own `domains`.  Unchanged code: `G.graph.update(self.graph)` stores the *same*
dict objects in the copy. -/
def stepCopy (c : Cfg) (s : State) (g : Nat) : State × Status :=
  match s.objs[g]? with
  | none => (s, .err)
  | some o =>
    if c.sharedCopy then ({ s with objs := s.objs ++ [o] }, .ok)
    else ({ s with regs := s.regs ++ [s.cell o], objs := s.objs ++ [{ o with reg := s.regs.length }] }, .ok)

/-- all pairs `(i, j)`, `1 ≤ i < j ≤ n`, in the order of `itertools.combinations(range(1, n+1), 2)` -/
def domPairs (n : Nat) : List (Nat × Nat) :=
  (List.range n).flatMap fun i => ((List.range n).filter (fun j => i < j)).map fun j => (i + 1, j + 1)

/-- the loop of `add_all_snode_combinations` on the (new) object `g` -/
def allSLoop (c : Cfg) (s : State) (g : Nat) : List (Nat × Nat) → Nat → State × Status
  | [], _ => (s, .ok)
  | d :: rest, k =>
    match stepAt c s g (.rawS k d) with
    | (s', .ok) => allSLoop c s' g rest (k + 1)
    | (s', .err) => (s', .err)

def step (c : Cfg) (s : State) : Op → State × Status
  | .new cls => ({ s with regs := s.regs ++ [{}], objs := s.objs ++ [{ cls := cls, reg := s.regs.length }] }, .ok)
  | .copy g => stepCopy c s g
  | .at g op => stepAt c s g op
  | .allS g n =>
    match stepCopy c s g with
    | (s1, .err) => (s1, .err)
    | (s1, .ok) =>
      match allSLoop c s1 s.objs.length (domPairs n) 0 with
      | (s2, .ok) => (s2, .ok)
      -- the exception propagates: the half-built copy is garbage, but whatever it wrote through
      -- shared references stays written
      | (s2, .err) => ({ s2 with objs := s2.objs.take s.objs.length }, .err)

def run (c : Cfg) (s : State) : List Op → State
  | [] => s
  | op :: ops => run c (step c s op).1 ops

def init : State := {}

/-! ## observation -/

/-- what the public API shows of one object (names included; the harness compares it name-free) -/
structure View where
  cls : Cls
  nodes : List Node
  aedges : List (Node × Nat)
  fs : List (Nat × FEntry)
  ss : List (Nat × (Nat × Nat))
  doms : List Nat
  deriving DecidableEq, Repr, Inhabited

def viewOf (c : Cfg) (s : State) (o : Obj) : View :=
  { cls := o.cls, nodes := o.nodes, aedges := o.aedges, fs := (s.cell o).fs, ss := (s.cell o).ss,
    doms := if c.classDoms then s.classDoms else o.doms }

def view (c : Cfg) (s : State) (g : Nat) : Option View := (s.objs[g]?).map (viewOf c s)

/-- `G.children(n)` for an augmented node `n` (both classes: the only edges at `n` are `n → t`) -/
def View.children (v : View) (n : Node) : List Nat := v.aedges.filterMap fun e => if e.1 = n then some e.2 else none

end C20
