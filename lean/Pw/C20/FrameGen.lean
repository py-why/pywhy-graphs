import Pw.C20.Heap

/-!
C20 — Frame depends on the two aliasing repairs only.  In EVERY model in which `copy()` does not
share the registry and `domains` is not a class attribute (whatever the naming scheme, and whether
or not `AugmentedGraph.remove_node` forgets S-nodes), no two live objects share a registry cell and
an operation leaves every object it is not called on unchanged.  Together with
`counterexample_shared_copy_frame` and `counterexample_class_domains` this says: exactly the two
aliasing defects break Frame.
-/
namespace C20

/-- the aliasing part of the heap invariant -/
structure HSep (s : State) : Prop where
  valid : ∀ (g : Nat) (o : Obj), s.objs[g]? = some o → o.reg < s.regs.length
  sep : ∀ (g h : Nat) (o p : Obj), s.objs[g]? = some o → s.objs[h]? = some p → g ≠ h → o.reg ≠ p.reg

theorem HInv.toSep {s : State} (h : HInv s) : HSep s := ⟨h.valid, h.sep⟩

theorem HInv.of_sep {s : State} (h : HSep s) (hl : ∀ (g : Nat) (o : Obj), s.objs[g]? = some o → LInv (localOf s o)) :
    HInv s :=
  ⟨h.valid, h.sep, hl⟩

/-- the shape that a method call, an allocation and a truncation share -/
theorem HSep.of_refs {s s' : State} (hs : HSep s) (hlen : s.regs.length ≤ s'.regs.length)
    (h : ∀ j q', s'.objs[j]? = some q' → (∃ q, s.objs[j]? = some q ∧ q'.reg = q.reg) ∨
      (j = s.objs.length ∧ q'.reg = s.regs.length ∧ s.regs.length < s'.regs.length)) : HSep s' := by
  constructor
  · intro j q' hq
    rcases h j q' hq with ⟨q, hq0, e⟩ | ⟨_, e, hlt⟩ <;> rw [e]
    · exact Nat.lt_of_lt_of_le (hs.valid j q hq0) hlen
    · exact hlt
  · intro j k q' p' hq hp hne
    rcases h j q' hq with ⟨q, hq0, eq⟩ | ⟨hj, eq, _⟩ <;> rcases h k p' hp with ⟨p, hp0, ep⟩ | ⟨hk, ep, _⟩
    · rw [eq, ep]; exact hs.sep j k q p hq0 hp0 hne
    · rw [eq, ep]; exact Nat.ne_of_lt (hs.valid j q hq0)
    · rw [eq, ep]; exact Nat.ne_of_gt (hs.valid k p hp0)
    · exact absurd (hj.trans hk.symm) hne

theorem stepAt_sep (c : Cfg) {s : State} (hs : HSep s) (g : Nat) (op : LOp) : HSep (stepAt c s g op).1 := by
  cases h : s.objs[g]? with
  | none => rw [stepAt_none op h]; exact hs
  | some o =>
    refine hs.of_refs (Nat.le_of_eq (stepAt_regs_len c s g op).symm) fun j q' hq => Or.inl ?_
    rcases stepAt_objs_some op h hq with ⟨rfl, rfl⟩ | ⟨_, hq⟩
    · exact ⟨o, h, stepLocal_ref c (localOf s o) op⟩
    · exact ⟨q', hq, rfl⟩

theorem stepAt_frame_gen {c : Cfg} (hc : c.classDoms = false) {s : State} (hs : HSep s) (g : Nat) (op : LOp)
    (j : Nat) (hj : j ≠ g) : view c (stepAt c s g op).1 j = view c s j := by
  cases h : s.objs[g]? with
  | none => rw [stepAt_none op h]
  | some o =>
    exact view_congr hc (stepAt_objs_other op h hj) fun q hq => stepAt_cell_other op h (hs.sep j g q o hq h hj)

/-- after a method call the called object and the cell it points to hold the result of the local step -/
theorem stepAt_localOf_self {c : Cfg} {s : State} (hs : HSep s) {g : Nat} {o : Obj} (op : LOp) (h : s.objs[g]? = some o) :
    localOf (stepAt c s g op).1 (stepLocal c (localOf s o) op).1.o = (stepLocal c (localOf s o) op).1 := by
  rw [localOf, stepAt_cell_self op h (hs.valid g o h) (stepLocal_ref c (localOf s o) op), stepAt_some op h]

theorem stepAt_view_self {c : Cfg} (hc : c.classDoms = false) {s : State} (hs : HSep s) {g : Nat} {o : Obj}
    (op : LOp) (h : s.objs[g]? = some o) :
    view c (stepAt c s g op).1 g = some (lview (stepLocal c (localOf s o) op).1) := by
  rw [view_at hc (stepAt_objs_self op h), stepAt_localOf_self hs op h]

theorem alloc_sep {s : State} (hs : HSep s) (o : Obj) (r : Registry) : HSep (alloc s o r) := by
  have hlen := alloc_regs_len s o r
  refine hs.of_refs (hlen ▸ Nat.le_succ _) fun j q' hq => ?_
  rcases alloc_objs_some hq with ⟨_, hq⟩ | ⟨hj, rfl⟩
  · exact Or.inl ⟨q', hq, rfl⟩
  · exact Or.inr ⟨hj, rfl, hlen ▸ Nat.lt_succ_self _⟩

theorem alloc_frame {c : Cfg} (hc : c.classDoms = false) {s : State} (hs : HSep s) (o : Obj) (r : Registry)
    (j : Nat) (hj : j < s.objs.length) : view c (alloc s o r) j = view c s j :=
  view_congr hc (alloc_objs_old s o r hj) fun q hq => alloc_cell_old s o r q (hs.valid j q hq)

theorem alloc_view_new {c : Cfg} (hc : c.classDoms = false) (s : State) (o : Obj) (r : Registry) :
    view c (alloc s o r) s.objs.length = some (lview ⟨o, r, s.classDoms⟩) := by
  rw [view_at hc (alloc_objs_new s o r), localOf, alloc_cell_new s o r _ rfl]
  rfl

theorem take_sep {s : State} (hs : HSep s) (n : Nat) : HSep { s with objs := s.objs.take n } :=
  hs.of_refs (Nat.le_refl _) fun _ q' hq => Or.inl ⟨q', take_sub hq, rfl⟩

theorem take_view (c : Cfg) (s : State) (n j : Nat) (hj : j < n) :
    view c { s with objs := s.objs.take n } j = view c s j := by
  unfold view
  rw [take_objs, if_pos hj]
  rfl

theorem allSLoop_sep_frame {c : Cfg} (hc : c.classDoms = false) (g : Nat) (ds : List (Nat × Nat)) (s : State) (k : Nat)
    (hs : HSep s) :
    HSep (allSLoop c s g ds k).1 ∧ ∀ j, j ≠ g → view c (allSLoop c s g ds k).1 j = view c s j :=
  allSLoop_rel c g (fun s s' => HSep s → HSep s' ∧ ∀ j, j ≠ g → view c s' j = view c s j)
    (fun _ h => ⟨h, fun _ _ => rfl⟩)
    (fun h12 h23 h1 => ⟨(h23 (h12 h1).1).1, fun j hj => ((h23 (h12 h1).1).2 j hj).trans ((h12 h1).2 j hj)⟩)
    (fun _ _ _ h => ⟨stepAt_sep c h g _, stepAt_frame_gen hc h g _⟩) ds s k hs

/-- separation, Frame and monotone object count for one step, in every model without the two
aliasing defects -/
theorem step_gen {c : Cfg} (h1 : c.sharedCopy = false) (h2 : c.classDoms = false) {s : State} (hs : HSep s) (op : Op) :
    HSep (step c s op).1 ∧ Frame op (view c s) (view c (step c s op).1) s.objs.length ∧
    s.objs.length ≤ (step c s op).1.objs.length := by
  have halloc : ∀ o r, HSep (alloc s o r) ∧ Frame op (view c s) (view c (alloc s o r)) s.objs.length ∧
      s.objs.length ≤ (alloc s o r).objs.length :=
    fun o r => ⟨alloc_sep hs o r, fun j hj _ => alloc_frame h2 hs o r j hj, by rw [alloc_len]; omega⟩
  have hsame : HSep s ∧ Frame op (view c s) (view c s) s.objs.length ∧ s.objs.length ≤ s.objs.length :=
    ⟨hs, fun _ _ _ => rfl, Nat.le_refl _⟩
  cases op with
  | new cls => rw [step_new]; exact halloc _ _
  | copy g =>
    rw [step_copy]
    cases h : s.objs[g]? with
    | none => rw [stepCopy_none h]; exact hsame
    | some o => rw [stepCopy_some h1 h]; exact halloc _ _
  | «at» g lop =>
    rw [step_at]
    refine ⟨stepAt_sep c hs g lop, fun j _ hne => ?_, Nat.le_of_eq (stepAt_len c s g lop).symm⟩
    exact stepAt_frame_gen h2 hs g lop j fun e => hne (by rw [e]; rfl)
  | allS g n =>
    cases h : s.objs[g]? with
    | none => rw [step_allS_none n h]; exact hsame
    | some o =>
      obtain ⟨a1, a2, _⟩ := halloc o (s.cell o)
      obtain ⟨i1, fr⟩ := allSLoop_sep_frame h2 s.objs.length (domPairs n) _ 0 a1
      have len := allSLoop_len c s.objs.length (domPairs n) (alloc s o (s.cell o)) 0
      rw [alloc_len] at len
      -- no existing object is the copy the loop works on
      have fr' : ∀ j < s.objs.length, view c (allSLoop c (alloc s o (s.cell o)) s.objs.length (domPairs n) 0).1 j =
          view c s j := fun j hj => (fr j (Nat.ne_of_lt hj)).trans (a2 j hj (by simp [Op.target]))
      rcases step_allS_some h1 n h with e | e <;> rw [e]
      · exact ⟨i1, fun j hj _ => fr' j hj, len ▸ Nat.le_succ _⟩
      · refine ⟨take_sep i1 _, fun j hj _ => (take_view c _ _ j hj).trans (fr' j hj), ?_⟩
        show _ ≤ (List.take _ _).length
        rw [List.length_take, len]
        omega

theorem init_sep : HSep init :=
  ⟨fun _ _ h => (nomatch h), fun _ _ _ _ h => (nomatch h)⟩

theorem run_sep {c : Cfg} (h1 : c.sharedCopy = false) (h2 : c.classDoms = false) :
    ∀ (ops : List Op) {s : State}, HSep s → HSep (run c s ops) :=
  fun ops s => run_invariant (P := HSep) (fun _ op h => (step_gen h1 h2 h op).1) ops s

/-- **Frame holds in every model without the two aliasing defects**, over whole histories -/
theorem frame_run_gen {c : Cfg} (h1 : c.sharedCopy = false) (h2 : c.classDoms = false) :
    ∀ (ops : List Op) {s : State}, HSep s → ∀ g, g < s.objs.length →
      (∀ op ∈ ops, some g ≠ op.target) → view c (run c s ops) g = view c s g := by
  intro ops
  induction ops with
  | nil => intro s _ g _ _; rfl
  | cons op rest ih =>
    intro s hs g hg hne
    obtain ⟨s1, f1, l1⟩ := step_gen h1 h2 hs op
    have e1 := f1 g hg (hne op (List.mem_cons_self ..))
    have e2 := ih s1 g (Nat.lt_of_lt_of_le hg l1) (fun op' h' => hne op' (List.mem_cons_of_mem _ h'))
    exact e2.trans e1

/-- the naming defect and the forgotten S-branch do not break Frame -/
example (ops : List Op) (g : Nat) (hg : g < (init : State).objs.length) (h : ∀ op ∈ ops, some g ≠ op.target) :
    view ⟨true, false, true, false⟩ (run ⟨true, false, true, false⟩ init ops) g = view ⟨true, false, true, false⟩ init g :=
  frame_run_gen rfl rfl ops init_sep g hg h

end C20
