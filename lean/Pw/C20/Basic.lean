import Pw.C20.Spec

/-! C20 — lemmas about the dict / set primitives and the name generation -/
namespace C20

theorem mem_or_eq_iff {l : List α} {a x : α} (h : a ∈ l) : x ∈ l ∨ x = a ↔ x ∈ l :=
  ⟨fun hx => hx.elim id fun e => e ▸ h, Or.inl⟩

theorem mem_insertNew [DecidableEq α] {l : List α} {a x : α} : x ∈ insertNew l a ↔ x ∈ l ∨ x = a := by
  unfold insertNew
  split
  · exact (mem_or_eq_iff ‹a ∈ l›).symm
  · simp

theorem mem_addAll [DecidableEq α] {as l : List α} {x : α} : x ∈ addAll l as ↔ x ∈ l ∨ x ∈ as := by
  unfold addAll
  induction as generalizing l with
  | nil => simp
  | cons a t ih => simp only [List.foldl_cons, ih, mem_insertNew, List.mem_cons, or_assoc]

theorem mem_dKeys {d : List (Nat × α)} {k : Nat} : k ∈ dKeys d ↔ ∃ v, (k, v) ∈ d := by
  unfold dKeys
  simp only [List.mem_map]
  constructor
  · rintro ⟨p, hp, rfl⟩; exact ⟨p.2, hp⟩
  · rintro ⟨v, hv⟩; exact ⟨(k, v), hv, rfl⟩

theorem mem_dKeys_of_mem {d : List (Nat × α)} {p : Nat × α} (h : p ∈ d) : p.1 ∈ dKeys d :=
  mem_dKeys.2 ⟨p.2, h⟩

theorem mem_dErase {d : List (Nat × α)} {k : Nat} {p : Nat × α} : p ∈ dErase d k ↔ p ∈ d ∧ p.1 ≠ k := by
  unfold dErase; simp

/-- a dict made of the entries of `d` whose key passes a test has the keys of `d` that pass it -/
theorem dKeys_of_mem_iff {d d' : List (Nat × α)} {Q : Nat → Prop} (h : ∀ p, p ∈ d' ↔ p ∈ d ∧ Q p.1) {k : Nat} :
    k ∈ dKeys d' ↔ k ∈ dKeys d ∧ Q k := by
  simp only [mem_dKeys, h]
  constructor
  · rintro ⟨v, hv, hq⟩; exact ⟨⟨v, hv⟩, hq⟩
  · rintro ⟨⟨v, hv⟩, hq⟩; exact ⟨v, hv, hq⟩

theorem dKeys_dErase {d : List (Nat × α)} {k k' : Nat} : k' ∈ dKeys (dErase d k) ↔ k' ∈ dKeys d ∧ k' ≠ k :=
  dKeys_of_mem_iff (Q := fun k' => k' ≠ k) fun _ => mem_dErase

theorem dErase_of_not_mem {d : List (Nat × α)} {k : Nat} (h : k ∉ dKeys d) : dErase d k = d := by
  unfold dErase
  rw [List.filter_eq_self]
  intro p hp
  have : p.1 ≠ k := fun e => h (e ▸ mem_dKeys_of_mem hp)
  simpa using this

theorem dSet_new {d : List (Nat × α)} {k : Nat} {v : α} (h : k ∉ dKeys d) : dSet d k v = d ++ [(k, v)] := by
  unfold dSet; simp [h]

theorem mem_dSet_new {d : List (Nat × α)} {k : Nat} {v : α} (h : k ∉ dKeys d) {p : Nat × α} :
    p ∈ dSet d k v ↔ p ∈ d ∨ p = (k, v) := by
  rw [dSet_new h]; simp

theorem dKeys_dSet_eq {d : List (Nat × α)} {k : Nat} {v : α} :
    dKeys (dSet d k v) = if k ∈ dKeys d then dKeys d else dKeys d ++ [k] := by
  unfold dSet
  split
  · unfold dKeys
    rw [List.map_map]
    apply List.map_congr_left
    intro p _
    by_cases hp : p.1 = k <;> simp [hp]
  · simp [dKeys]

theorem dKeys_dSet {d : List (Nat × α)} {k k' : Nat} {v : α} : k' ∈ dKeys (dSet d k v) ↔ k' ∈ dKeys d ∨ k' = k := by
  rw [dKeys_dSet_eq]
  split
  · exact (mem_or_eq_iff ‹k ∈ dKeys d›).symm
  · simp

/-- `filterMap` along a partial inverse `f` of `g` picks the elements of the form `g b` -/
theorem mem_filterMap_inv {f : α → Option β} {g : β → α} (hfg : ∀ a b, f a = some b ↔ a = g b) {l : List α} {b : β} :
    b ∈ l.filterMap f ↔ g b ∈ l := by
  simp only [List.mem_filterMap, hfg]
  constructor
  · rintro ⟨a, ha, rfl⟩; exact ha
  · intro h; exact ⟨_, h, rfl⟩

theorem mem_fNames {ns : List Node} {k : Nat} : k ∈ fNames ns ↔ Node.f k ∈ ns :=
  mem_filterMap_inv fun a b => by cases a <;> simp [eq_comm]

theorem mem_sNames {ns : List Node} {k : Nat} : k ∈ sNames ns ↔ Node.s k ∈ ns :=
  mem_filterMap_inv fun a b => by cases a <;> simp [eq_comm]

theorem mem_children {v : View} {n : Node} {t : Nat} : t ∈ v.children n ↔ (n, t) ∈ v.aedges :=
  mem_filterMap_inv (g := fun t => (n, t)) fun e t => by
    by_cases h : e.1 = n <;> simp [h, Prod.ext_iff]

theorem sameSet_iff {a b : List Nat} : sameSet a b = true ↔ (∀ x, x ∈ a ↔ x ∈ b) := by
  unfold sameSet
  simp only [Bool.and_eq_true, List.all_eq_true, decide_eq_true_eq]
  constructor
  · rintro ⟨h1, h2⟩ x; exact ⟨h1 x, h2 x⟩
  · intro h; exact ⟨fun x hx => (h x).1 hx, fun x hx => (h x).2 hx⟩

theorem sameSet_refl (a : List Nat) : sameSet a a = true := sameSet_iff.2 fun _ => Iff.rfl

theorem sameEntry_refl (e : FEntry) : sameEntry e e = true := by
  simp [sameEntry, sameSet_refl]

theorem filter_le_lt (used : List Nat) (i : Nat) (h : i ∈ used) :
    (used.filter (fun x => decide (i + 1 ≤ x))).length < (used.filter (fun x => decide (i ≤ x))).length := by
  have e : used.filter (fun x => decide (i + 1 ≤ x)) =
      (used.filter (fun x => decide (i ≤ x))).filter (fun x => decide (i + 1 ≤ x)) := by
    rw [List.filter_filter]
    apply List.filter_congr
    intro x _
    by_cases hx : i + 1 ≤ x
    · have : i ≤ x := by omega
      simp [hx, this]
    · simp [hx]
  rw [e]
  exact List.length_filter_lt_length_iff_exists.2 ⟨i, List.mem_filter.2 ⟨h, by simp⟩, by simp⟩

theorem freshAux_spec (used : List Nat) :
    ∀ fuel i, (used.filter (fun x => decide (i ≤ x))).length < fuel →
      freshAux used fuel i ∉ used ∧ i ≤ freshAux used fuel i ∧
      ∀ j, i ≤ j → j < freshAux used fuel i → j ∈ used := by
  intro fuel
  induction fuel with
  | zero => intro i h; exact absurd h (Nat.not_lt_zero _)
  | succ n ih =>
    intro i h
    unfold freshAux
    by_cases hi : i ∈ used
    · rw [if_pos hi]
      obtain ⟨h1, h2, h3⟩ := ih (i + 1) (Nat.lt_of_lt_of_le (filter_le_lt used i hi) (Nat.le_of_lt_succ h))
      refine ⟨h1, Nat.le_of_succ_le h2, fun j hj hj2 => ?_⟩
      by_cases hji : j = i
      · exact hji ▸ hi
      · exact h3 j (Nat.lt_of_le_of_ne hj (Ne.symm hji)) hj2
    · rw [if_neg hi]
      exact ⟨hi, Nat.le_refl _, fun j h1 h2 => absurd h1 (Nat.not_le_of_gt h2)⟩

/-- exact specification of the repaired naming loop -/
theorem freshIdx_spec (used : List Nat) (i : Nat) :
    freshIdx used i ∉ used ∧ i ≤ freshIdx used i ∧ ∀ j, i ≤ j → j < freshIdx used i → j ∈ used :=
  freshAux_spec used (used.length + 1) i (Nat.lt_succ_of_le (List.length_filter_le _ _))

theorem freshIdx_not_mem (used : List Nat) (i : Nat) : freshIdx used i ∉ used := (freshIdx_spec used i).1

end C20
