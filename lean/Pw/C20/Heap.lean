import Pw.C20.Local

/-!
C20 — the heap level: what a method call (`stepAt`), an allocation (`alloc`: `new`, `copy`) and the
truncation of the object list (`add_all_snode_combinations` drops its half-built copy when it raises)
do to the objects and to the cells they point to, in every model.
-/
namespace C20

def localOf (s : State) (o : Obj) : Local := ⟨o, s.cell o, s.classDoms⟩

/-- heap invariant of the repaired code -/
structure HInv (s : State) : Prop where
  /-- registry references are valid -/
  valid : ∀ (g : Nat) (o : Obj), s.objs[g]? = some o → o.reg < s.regs.length
  /-- no two live objects share a registry cell -/
  sep : ∀ (g h : Nat) (o p : Obj), s.objs[g]? = some o → s.objs[h]? = some p → g ≠ h → o.reg ≠ p.reg
  /-- every object agrees with the cell it points to -/
  linv : ∀ (g : Nat) (o : Obj), s.objs[g]? = some o → LInv (localOf s o)

theorem cell_eq (s : State) (o : Obj) : s.cell o = (s.regs[o.reg]?).getD {} := by
  simp [State.cell, List.getD_eq_getElem?_getD]

theorem viewOf_noClass {c : Cfg} (hc : c.classDoms = false) (s : State) (o : Obj) :
    viewOf c s o = lview (localOf s o) := by
  simp [viewOf, lview, localOf, hc]

theorem view_at {c : Cfg} (hc : c.classDoms = false) {s : State} {g : Nat} {o : Obj} (h : s.objs[g]? = some o) :
    view c s g = some (lview (localOf s o)) := by
  unfold view; rw [h, Option.map_some, viewOf_noClass hc]

theorem view_some {c : Cfg} (hc : c.classDoms = false) {s : State} {g : Nat} {v : View} (h : view c s g = some v) :
    ∃ o, s.objs[g]? = some o ∧ v = lview (localOf s o) := by
  cases ho : s.objs[g]? with
  | none => rw [view, ho] at h; cases h
  | some o => rw [view_at hc ho] at h; exact ⟨o, rfl, (Option.some.inj h).symm⟩

theorem lt_of_view {c : Cfg} {s : State} {g : Nat} {v : View} (h : view c s g = some v) : g < s.objs.length := by
  unfold view at h
  cases ho : s.objs[g]? with
  | none => rw [ho] at h; cases h
  | some o => exact (List.getElem?_eq_some_iff.1 ho).1

theorem view_of_lt (c : Cfg) {s : State} {g : Nat} (hg : g < s.objs.length) : ∃ v, view c s g = some v := by
  unfold view
  rw [List.getElem?_eq_getElem hg]
  exact ⟨_, rfl⟩

theorem view_congr {c : Cfg} (hc : c.classDoms = false) {s s' : State} {j : Nat} (ho : s'.objs[j]? = s.objs[j]?)
    (hcell : ∀ q, s.objs[j]? = some q → s'.cell q = s.cell q) : view c s' j = view c s j := by
  cases hq : s.objs[j]? with
  | none => unfold view; rw [ho, hq]; rfl
  | some q =>
    rw [view_at hc hq, view_at hc (ho.trans hq)]
    simp only [lview, localOf, hcell q hq]

theorem stepAt_none {c : Cfg} {s : State} {g : Nat} (op : LOp) (h : s.objs[g]? = none) :
    stepAt c s g op = (s, .err) := by
  unfold stepAt; rw [h]

theorem stepAt_some {c : Cfg} {s : State} {g : Nat} {o : Obj} (op : LOp) (h : s.objs[g]? = some o) :
    stepAt c s g op =
      ({ regs := s.regs.set o.reg (stepLocal c (localOf s o) op).1.r,
         objs := s.objs.set g (stepLocal c (localOf s o) op).1.o,
         classDoms := (stepLocal c (localOf s o) op).1.cd }, (stepLocal c (localOf s o) op).2) := by
  unfold stepAt; rw [h]; rfl

theorem stepAt_len (c : Cfg) (s : State) (g : Nat) (op : LOp) :
    (stepAt c s g op).1.objs.length = s.objs.length := by
  cases h : s.objs[g]? with
  | none => rw [stepAt_none op h]
  | some o => rw [stepAt_some op h]; simp

theorem stepAt_regs_len (c : Cfg) (s : State) (g : Nat) (op : LOp) :
    (stepAt c s g op).1.regs.length = s.regs.length := by
  cases h : s.objs[g]? with
  | none => rw [stepAt_none op h]
  | some o => rw [stepAt_some op h]; simp

theorem stepAt_objs_self {c : Cfg} {s : State} {g : Nat} {o : Obj} (op : LOp) (h : s.objs[g]? = some o) :
    (stepAt c s g op).1.objs[g]? = some (stepLocal c (localOf s o) op).1.o := by
  rw [stepAt_some op h]
  exact List.getElem?_set_self (List.getElem?_eq_some_iff.1 h).1

theorem stepAt_objs_other {c : Cfg} {s : State} {g : Nat} {o : Obj} (op : LOp) (h : s.objs[g]? = some o) {j : Nat}
    (hj : j ≠ g) : (stepAt c s g op).1.objs[j]? = s.objs[j]? := by
  rw [stepAt_some op h]
  exact List.getElem?_set_ne (Ne.symm hj)

theorem stepAt_objs_some {c : Cfg} {s : State} {g : Nat} {o : Obj} (op : LOp) (h : s.objs[g]? = some o) {j : Nat}
    {q : Obj} (hq : (stepAt c s g op).1.objs[j]? = some q) :
    (j = g ∧ q = (stepLocal c (localOf s o) op).1.o) ∨ (j ≠ g ∧ s.objs[j]? = some q) := by
  by_cases hj : j = g
  · subst hj
    rw [stepAt_objs_self op h] at hq
    exact Or.inl ⟨rfl, (Option.some.inj hq).symm⟩
  · rw [stepAt_objs_other op h hj] at hq
    exact Or.inr ⟨hj, hq⟩

theorem stepAt_cell_self {c : Cfg} {s : State} {g : Nat} {o : Obj} (op : LOp) (h : s.objs[g]? = some o)
    (hv : o.reg < s.regs.length) {p : Obj} (hp : p.reg = o.reg) :
    (stepAt c s g op).1.cell p = (stepLocal c (localOf s o) op).1.r := by
  rw [stepAt_some op h]
  simp [cell_eq, hp, hv]

theorem stepAt_cell_other {c : Cfg} {s : State} {g : Nat} {o : Obj} (op : LOp) (h : s.objs[g]? = some o) {p : Obj}
    (hp : p.reg ≠ o.reg) : (stepAt c s g op).1.cell p = s.cell p := by
  rw [stepAt_some op h]
  simp [cell_eq, List.getElem?_set_ne (Ne.symm hp)]

/-- the loop of `add_all_snode_combinations` is a chain of method calls on the one object `g` -/
theorem allSLoop_rel (c : Cfg) (g : Nat) (R : State → State → Prop) (hr : ∀ s, R s s)
    (ht : ∀ {s₁ s₂ s₃}, R s₁ s₂ → R s₂ s₃ → R s₁ s₃) (hs : ∀ s k d, R s (stepAt c s g (.rawS k d)).1) :
    ∀ (ds : List (Nat × Nat)) (s : State) (k : Nat), R s (allSLoop c s g ds k).1 := by
  intro ds
  induction ds with
  | nil => intro s _; exact hr s
  | cons d rest ih =>
    intro s k
    unfold allSLoop
    have h1 := hs s k d
    rcases hst : stepAt c s g (.rawS k d) with ⟨s', st⟩
    rw [hst] at h1
    cases st with
    | ok => exact ht h1 (ih s' (k + 1))
    | err => exact h1

theorem allSLoop_len (c : Cfg) (g : Nat) (ds : List (Nat × Nat)) (s : State) (k : Nat) :
    (allSLoop c s g ds k).1.objs.length = s.objs.length :=
  allSLoop_rel c g (fun s s' => s'.objs.length = s.objs.length) (fun _ => rfl) (fun h12 h23 => h23.trans h12)
    (fun s _ _ => stepAt_len c s g _) ds s k

/-- append a new object pointing to a new cell -/
def alloc (s : State) (o : Obj) (r : Registry) : State :=
  { s with regs := s.regs ++ [r], objs := s.objs ++ [{ o with reg := s.regs.length }] }

theorem alloc_len (s : State) (o : Obj) (r : Registry) : (alloc s o r).objs.length = s.objs.length + 1 := by
  simp [alloc]

theorem alloc_objs_old (s : State) (o : Obj) (r : Registry) {j : Nat} (hj : j < s.objs.length) :
    (alloc s o r).objs[j]? = s.objs[j]? :=
  List.getElem?_append_left hj

theorem alloc_objs_new (s : State) (o : Obj) (r : Registry) :
    (alloc s o r).objs[s.objs.length]? = some { o with reg := s.regs.length } :=
  List.getElem?_concat_length

theorem alloc_objs_some {s : State} {o : Obj} {r : Registry} {j : Nat} {q : Obj}
    (hq : (alloc s o r).objs[j]? = some q) :
    (j < s.objs.length ∧ s.objs[j]? = some q) ∨ (j = s.objs.length ∧ q = { o with reg := s.regs.length }) := by
  have hj : j < s.objs.length + 1 := alloc_len s o r ▸ (List.getElem?_eq_some_iff.1 hq).1
  rcases Nat.lt_succ_iff_lt_or_eq.1 hj with h | rfl
  · exact Or.inl ⟨h, (alloc_objs_old s o r h).symm.trans hq⟩
  · exact Or.inr ⟨rfl, (Option.some.inj ((alloc_objs_new s o r).symm.trans hq)).symm⟩

theorem alloc_regs_len (s : State) (o : Obj) (r : Registry) : (alloc s o r).regs.length = s.regs.length + 1 :=
  List.length_append

theorem alloc_cell_old (s : State) (o : Obj) (r : Registry) (p : Obj) (hp : p.reg < s.regs.length) :
    (alloc s o r).cell p = s.cell p := by
  simp only [cell_eq, alloc, List.getElem?_append_left hp]

theorem alloc_cell_new (s : State) (o : Obj) (r : Registry) (p : Obj) (hp : p.reg = s.regs.length) :
    (alloc s o r).cell p = r := by
  simp [cell_eq, alloc, hp]

theorem step_new (c : Cfg) (s : State) (cls : Cls) :
    step c s (.new cls) = (alloc s { cls := cls, reg := 0 } {}, .ok) := rfl

theorem step_copy (c : Cfg) (s : State) (g : Nat) : step c s (.copy g) = stepCopy c s g := rfl

theorem step_at (c : Cfg) (s : State) (g : Nat) (op : LOp) : step c s (.at g op) = stepAt c s g op := rfl

theorem stepCopy_none {c : Cfg} {s : State} {g : Nat} (h : s.objs[g]? = none) : stepCopy c s g = (s, .err) := by
  unfold stepCopy; rw [h]

theorem stepCopy_some {c : Cfg} (hc : c.sharedCopy = false) {s : State} {g : Nat} {o : Obj}
    (h : s.objs[g]? = some o) : stepCopy c s g = (alloc s o (s.cell o), .ok) := by
  unfold stepCopy; rw [h]; simp [hc, alloc]

theorem step_allS_none {c : Cfg} {s : State} {g : Nat} (n : Nat) (h : s.objs[g]? = none) :
    step c s (.allS g n) = (s, .err) := by
  simp only [step]; rw [stepCopy_none h]

/-- `add_all_snode_combinations` returns the copy the loop has worked on, or raises and drops it -/
theorem step_allS_some {c : Cfg} (hc : c.sharedCopy = false) {s : State} {g : Nat} {o : Obj} (n : Nat)
    (h : s.objs[g]? = some o) :
    step c s (.allS g n) = ((allSLoop c (alloc s o (s.cell o)) s.objs.length (domPairs n) 0).1, .ok) ∨
    step c s (.allS g n) =
      ({ (allSLoop c (alloc s o (s.cell o)) s.objs.length (domPairs n) 0).1 with
          objs := (allSLoop c (alloc s o (s.cell o)) s.objs.length (domPairs n) 0).1.objs.take s.objs.length },
        .err) := by
  simp only [step]
  rw [stepCopy_some hc h]
  dsimp only
  rcases allSLoop c (alloc s o (s.cell o)) s.objs.length (domPairs n) 0 with ⟨s2, st⟩
  cases st
  · exact Or.inl rfl
  · exact Or.inr rfl

theorem take_objs (s : State) (n j : Nat) :
    ({ s with objs := s.objs.take n } : State).objs[j]? = if j < n then s.objs[j]? else none := by
  simp only [List.getElem?_take]

theorem take_sub {s : State} {n j : Nat} {q : Obj}
    (hq : ({ s with objs := s.objs.take n } : State).objs[j]? = some q) : s.objs[j]? = some q := by
  rw [take_objs] at hq
  split at hq
  · exact hq
  · cases hq

theorem run_invariant {c : Cfg} {P : State → Prop} (hstep : ∀ s op, P s → P (step c s op).1) :
    ∀ (ops : List Op) (s : State), P s → P (run c s ops) := by
  intro ops
  induction ops with
  | nil => intro s h; exact h
  | cons op rest ih => intro s h; exact ih _ (hstep s op h)

theorem run_append (c : Cfg) (s : State) (a b : List Op) : run c s (a ++ b) = run c (run c s a) b := by
  induction a generalizing s with
  | nil => rfl
  | cons op rest ih => exact ih _

end C20
