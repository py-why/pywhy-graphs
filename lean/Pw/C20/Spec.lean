import Pw.C20.Model

/-!
# C20 — specification

English statement (properties.jsonl): after any history "the registered F- and S-nodes are exactly
the augmented nodes present in the graph, each F-node is registered with exactly the targets it was
created with, which are exactly its children, and a newly created augmented node never reuses the
name of an existing node.  The registries of a copy and its original, and of two separately
constructed graphs, are independent: an edit to one is never visible in the other."

Everything is phrased over `View`s (what the public API shows of one object) and over pairs of
views before / after one operation, so the same predicates judge the model's run (theorems in
`Pw/C20/Proofs.lean`) and a trace observed on the implementation (driver command `c20v`).  All
quantifiers are bounded by lists, so every predicate is decidable *by its definition* (no separate
decider that could drift from the spec).
-/
namespace C20

/-- `Reg`: the registry of one object agrees with its graph. -/
structure Reg (v : View) : Prop where
  /-- every F-node present is registered -/
  f_present_registered : ∀ k ∈ fNames v.nodes, k ∈ dKeys v.fs
  /-- every registered F-node is present -/
  f_registered_present : ∀ k ∈ dKeys v.fs, Node.f k ∈ v.nodes
  s_present_registered : ∀ k ∈ sNames v.nodes, k ∈ dKeys v.ss
  s_registered_present : ∀ k ∈ dKeys v.ss, Node.s k ∈ v.nodes
  /-- registered targets = children -/
  children_targets : ∀ p ∈ v.fs, ∀ t ∈ v.children (.f p.1), t ∈ p.2.targets
  targets_children : ∀ p ∈ v.fs, ∀ t ∈ p.2.targets, t ∈ v.children (.f p.1)

instance (v : View) : Decidable (Reg v) :=
  if h1 : ∀ k ∈ fNames v.nodes, k ∈ dKeys v.fs then
    if h2 : ∀ k ∈ dKeys v.fs, Node.f k ∈ v.nodes then
      if h3 : ∀ k ∈ sNames v.nodes, k ∈ dKeys v.ss then
        if h4 : ∀ k ∈ dKeys v.ss, Node.s k ∈ v.nodes then
          if h5 : ∀ p ∈ v.fs, ∀ t ∈ v.children (.f p.1), t ∈ p.2.targets then
            if h6 : ∀ p ∈ v.fs, ∀ t ∈ p.2.targets, t ∈ v.children (.f p.1) then
              isTrue ⟨h1, h2, h3, h4, h5, h6⟩
            else isFalse fun h => h6 h.6
          else isFalse fun h => h5 h.5
        else isFalse fun h => h4 h.4
      else isFalse fun h => h3 h.3
    else isFalse fun h => h2 h.2
  else isFalse fun h => h1 h.1

/-- the object an operation is called on (`none`: the operation only creates a new object) -/
def Op.target : Op → Option Nat
  | .new _ => none
  | .copy _ => none
  | .at g _ => some g
  | .allS _ _ => none

/-- `Frame`: an operation leaves the observation of every object it is not called on unchanged
(for `copy` / `new` / `add_all_snode_combinations`: of every existing object, the source included). -/
def Frame (op : Op) (before after : Nat → Option View) (nObjs : Nat) : Prop :=
  ∀ g < nObjs, some g ≠ op.target → after g = before g

instance (op : Op) (b a : Nat → Option View) (n : Nat) : Decidable (Frame op b a n) :=
  inferInstanceAs (Decidable (∀ g < n, some g ≠ op.target → a g = b g))

/-- two F-entries say the same (targets and domain are Python sets) -/
def sameEntry (a b : FEntry) : Bool := sameSet a.targets b.targets && sameSet a.domain b.domain

/-- The augmented nodes that exist after the operation and did not exist before were not
names of existing nodes, and a successful `add_f_node(ts, domain)` creates exactly such a node,
registered with `ts` and the domain (as sets). -/
def CreatedF (before after : View) (e : FEntry) : Prop :=
  ∃ k ∈ dKeys after.fs, Node.f k ∉ before.nodes ∧ Node.f k ∈ after.nodes ∧
    ∃ p ∈ after.fs, p.1 = k ∧ sameEntry p.2 e = true

instance (b a : View) (e : FEntry) : Decidable (CreatedF b a e) :=
  inferInstanceAs (Decidable (∃ k ∈ dKeys a.fs, Node.f k ∉ b.nodes ∧ Node.f k ∈ a.nodes ∧
    ∃ p ∈ a.fs, p.1 = k ∧ sameEntry p.2 e = true))

def CreatedS (before after : View) (d : Nat × Nat) : Prop :=
  ∃ k ∈ dKeys after.ss, Node.s k ∉ before.nodes ∧ Node.s k ∈ after.nodes ∧ (k, d) ∈ after.ss

instance (b a : View) (d : Nat × Nat) : Decidable (CreatedS b a d) :=
  inferInstanceAs (Decidable (∃ k ∈ dKeys a.ss, Node.s k ∉ b.nodes ∧ Node.s k ∈ a.nodes ∧ (k, d) ∈ a.ss))

/-- `Stable`: every F-node registered before and not removed by this very call is still registered
with the same targets and domain, every S-node likewise: no call re-targets somebody else's entry. -/
def Stable (op : LOp) (before after : View) : Prop :=
  (∀ p ∈ before.fs, op ≠ .rmF p.1 → ∃ q ∈ after.fs, q.1 = p.1 ∧ sameEntry q.2 p.2 = true) ∧
  (∀ p ∈ before.ss, op ≠ .rmS p.1 → p ∈ after.ss)

instance (op : LOp) (b a : View) : Decidable (Stable op b a) :=
  inferInstanceAs (Decidable ((∀ p ∈ b.fs, op ≠ .rmF p.1 → ∃ q ∈ a.fs, q.1 = p.1 ∧ sameEntry q.2 p.2 = true) ∧
    (∀ p ∈ b.ss, op ≠ .rmS p.1 → p ∈ a.ss)))

/-- the same content, as sets (a copy shows what its original shows) -/
def SameContent (a b : View) : Prop :=
  (∀ n ∈ a.nodes, n ∈ b.nodes) ∧ (∀ n ∈ b.nodes, n ∈ a.nodes) ∧
  (∀ p ∈ a.fs, ∃ q ∈ b.fs, q.1 = p.1 ∧ sameEntry q.2 p.2 = true) ∧
  (∀ p ∈ b.fs, ∃ q ∈ a.fs, q.1 = p.1 ∧ sameEntry q.2 p.2 = true) ∧
  (∀ p ∈ a.ss, p ∈ b.ss) ∧ (∀ p ∈ b.ss, p ∈ a.ss)

instance (a b : View) : Decidable (SameContent a b) := by unfold SameContent; exact inferInstance

/-- what one step of a history must satisfy, given the observations of all objects before and
after it and whether the call returned (`ok`) or raised.  `nb` = number of live objects before. -/
def StepOK (op : Op) (ok : Bool) (before after : Nat → Option View) (nb na : Nat) : Prop :=
  -- Reg for every live object after the call (also after a call that raised)
  (∀ g < na, ∀ v ∈ after g, Reg v) ∧
  -- Frame
  Frame op before after nb ∧
  -- no object disappears; only new / copy / add_all_snode_combinations create one, and only one
  (match op with
   | .at _ _ => na = nb
   | _ => na = if ok then nb + 1 else nb) ∧
  -- op-specific clauses
  (match op with
   | .at g lop =>
     ∀ b ∈ before g, ∀ a ∈ after g,
       Stable lop b a ∧
       (match lop with
        | .addF ts _ dom => ok = true → CreatedF b a ⟨ts, dom.getD [1]⟩
        | .addFs tss => ok = true → ∀ ts ∈ tss, CreatedF b a ⟨ts, [1]⟩
        | .addS d _ => ok = true → CreatedS b a d
        | _ => True)
   | .copy g => ok = true → ∀ b ∈ before g, ∀ a ∈ after nb, SameContent b a
   | .allS g _ => ok = true → ∀ b ∈ before g, ∀ a ∈ after nb,
       (∀ p ∈ b.fs, ∃ q ∈ a.fs, q.1 = p.1 ∧ sameEntry q.2 p.2 = true) ∧ (∀ p ∈ b.ss, p ∈ a.ss)
   | .new _ => ok = true → ∀ a ∈ after nb, a.nodes = [] ∧ a.fs = [] ∧ a.ss = [])

instance (op : Op) (ok : Bool) (b a : Nat → Option View) (nb na : Nat) : Decidable (StepOK op ok b a nb na) := by
  unfold StepOK
  cases op with
  | «at» g lop => cases lop <;> exact inferInstance
  | _ => exact inferInstance

end C20
