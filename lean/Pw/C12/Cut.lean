import Pw.C12.Main
open Closure MG

/-! # C12, second sentence: m-separation = vertex cut in the moral graph of the anterior subgraph

Unconditional: the classical theorem (T2) is `MG.mSep_iff_moral_cut` (Pw/T2).  This file bridges the
relational moral graph of Pw/T2 (`HAdj`, `HConn`: walks inside the anterior *predicate*) to

* the specification `AntMoralCut` (paths, induced subgraph `restrict G A`), and
* the models: `anterior` (closure), `restrict`, `moral`, `vcut` (closure). -/
namespace C12

theorem mem_antStep {G : MG} {a b : Nat} :
    b ∈ G.parents a ++ G.unbrs a ↔ ∃ mb, HasEdge G b a .tail mb := by
  rw [List.mem_append, mem_parents, unbrs, mem_sym]
  constructor
  · rintro (h | h)
    · exact ⟨.head, Or.inl ⟨rfl, rfl, h⟩⟩
    · exact ⟨.tail, Or.inr (Or.inr (Or.inr ⟨rfl, rfl, h.symm⟩))⟩
  · rintro ⟨mb, h⟩
    rcases h with ⟨_, _, h⟩ | ⟨h1, _, _⟩ | ⟨h1, _, _⟩ | ⟨_, _, h⟩
    · exact Or.inl h
    · cases h1
    · cases h1
    · exact Or.inr h.symm

/-- **`_anterior` computes the anterior set** (closure characterisation, all inputs) -/
theorem mem_anterior {G : MG} (hwf : G.WF) {S : List Nat} (hS : ∀ s ∈ S, s ∈ G.nodes) {v : Nat} :
    v ∈ anterior G S ↔ InAnt G S v := by
  unfold anterior InAnt
  rw [mem_closure]
  constructor
  · rintro ⟨s, hs, _, hr⟩
    refine ⟨s, hs, ?_⟩
    induction hr with
    | refl => exact Ant.refl _
    | tail _ st ih =>
      obtain ⟨mb, he⟩ := mem_antStep.mp st.1
      exact Ant.step he ih
  · rintro ⟨s, hs, ha⟩
    refine ⟨s, hs, hS s hs, ?_⟩
    induction ha with
    | refl => exact Reach.refl _
    | step he _ ih => exact Reach.tail (ih hs) ⟨mem_antStep.mpr ⟨_, he⟩, HasEdge.mem_nodes hwf he.symm⟩

theorem anterior_sub_nodes {G : MG} {S : List Nat} {v : Nat} (h : v ∈ anterior G S) : v ∈ G.nodes := by
  obtain ⟨s, _, hs, hr⟩ := (mem_closure _ _ _ _).mp h
  exact Reach.mem hs hr

theorem subset_anterior {G : MG} {S : List Nat} {s : Nat} (hs : s ∈ S) (hn : s ∈ G.nodes) :
    s ∈ anterior G S :=
  (mem_closure _ _ _ _).mpr ⟨s, hs, hn, Reach.refl s⟩

theorem anterior_mono {G : MG} {S T : List Nat} (hST : ∀ s ∈ S, s ∈ T) {v : Nat}
    (h : v ∈ anterior G S) : v ∈ anterior G T := by
  obtain ⟨s, hs, hn, hr⟩ := (mem_closure _ _ _ _).mp h
  exact (mem_closure _ _ _ _).mpr ⟨s, hST s hs, hn, hr⟩

theorem isAntSet_of_between {G : MG} (hwf : G.WF) {S T : List Nat} (hS : ∀ s ∈ S, s ∈ G.nodes)
    (hST : ∀ s ∈ S, s ∈ T) (hTA : ∀ t ∈ T, t ∈ anterior G S) : IsAntSet G T (anterior G S) := by
  intro a
  constructor
  · intro h
    obtain ⟨s, hs, ha⟩ := (mem_anterior hwf hS).mp h
    exact ⟨anterior_sub_nodes h, s, hST s hs, ha⟩
  · rintro ⟨_, t, ht, ha⟩
    obtain ⟨s, hs, hts⟩ := (mem_anterior hwf hS).mp (hTA t ht)
    exact (mem_anterior hwf hS).mpr ⟨s, hs, ha.trans hts⟩

theorem anterior_isAntSet {G : MG} (hwf : G.WF) {S : List Nat} (hS : ∀ s ∈ S, s ∈ G.nodes) :
    IsAntSet G S (anterior G S) :=
  isAntSet_of_between hwf hS (fun _ h => h) fun s hs => subset_anterior hs (hS s hs)

theorem hasEdge_restrict {G : MG} {A : List Nat} {a b : Nat} {ma mb : Mark} :
    HasEdge (restrict G A) a b ma mb ↔ (HasEdge G a b ma mb ∧ a ∈ A ∧ b ∈ A) := by
  simp only [HasEdge, restrict, List.mem_filter, decide_eq_true_eq]
  by_cases ha : a ∈ A <;> by_cases hb : b ∈ A <;> simp [ha, hb]

theorem restrict_wf {G : MG} (hwf : G.WF) {A : List Nat} : (restrict G A).WF := by
  have layer : ∀ es : List (Nat × Nat), (∀ e ∈ es, e.1 ∈ G.nodes ∧ e.2 ∈ G.nodes) →
      ∀ e ∈ es.filter (fun e => e.1 ∈ A ∧ e.2 ∈ A),
        e.1 ∈ (restrict G A).nodes ∧ e.2 ∈ (restrict G A).nodes := by
    intro es h e he
    simp only [restrict, List.mem_filter, decide_eq_true_eq] at he ⊢
    exact ⟨⟨(h e he.1).1, he.2.1⟩, (h e he.1).2, he.2.2⟩
  exact ⟨layer _ hwf.1, layer _ hwf.2.1, layer _ hwf.2.2⟩

theorem restrict_nsl {G : MG} (hsl : NoSelfLoop G) {A : List Nat} : NoSelfLoop (restrict G A) :=
  fun a ma mb h => hsl a ma mb (hasEdge_restrict.mp h).1

theorem mem_restrict_nodes {G : MG} {A : List Nat} {v : Nat} :
    v ∈ (restrict G A).nodes ↔ (v ∈ G.nodes ∧ v ∈ A) := by
  simp [restrict, List.mem_filter]

theorem validW_restrict {G : MG} {A : List Nat} : ∀ (hs : List Hop) (u : Nat),
    (ValidW (restrict G A) u hs ∧ u ∈ A) ↔ (ValidW G u hs ∧ ∀ w ∈ nodesOf u hs, w ∈ A)
  | [], u => by simp [ValidW, nodesOf]
  | h :: t, u => by
    have ih := validW_restrict (G := G) (A := A) t h.nx
    show _ ↔ (_ ∧ ∀ w ∈ u :: nodesOf h.nx t, w ∈ A)
    simp only [ValidW, hasEdge_restrict, List.forall_mem_cons]
    constructor
    · rintro ⟨⟨⟨he, hu, hn⟩, hvr⟩, _⟩
      obtain ⟨hvg, hall⟩ := ih.mp ⟨hvr, hn⟩
      exact ⟨⟨he, hvg⟩, hu, hall⟩
    · rintro ⟨⟨he, hvg⟩, hu, hall⟩
      obtain ⟨hvr, hn⟩ := ih.mpr ⟨hvg, hall⟩
      exact ⟨⟨⟨he, hu, hn⟩, hvr⟩, hu⟩

theorem ant_of_restrict {G : MG} {A : List Nat} {a s : Nat} (h : Ant (restrict G A) a s) : Ant G a s := by
  induction h with
  | refl => exact Ant.refl _
  | step e _ ih => exact Ant.step (hasEdge_restrict.mp e).1 ih

theorem anterior_restrict {G : MG} (hwf : G.WF) {S : List Nat} (hS : ∀ s ∈ S, s ∈ G.nodes) {a : Nat} :
    a ∈ anterior (restrict G (anterior G S)) S ↔ a ∈ anterior G S := by
  have hS' : ∀ s ∈ S, s ∈ (restrict G (anterior G S)).nodes :=
    fun s hs => mem_restrict_nodes.mpr ⟨hS s hs, subset_anterior hs (hS s hs)⟩
  rw [mem_anterior (restrict_wf hwf) hS', mem_anterior hwf hS]
  constructor
  · rintro ⟨s, hs, ha⟩; exact ⟨s, hs, ant_of_restrict ha⟩
  · rintro ⟨s, hs, ha⟩
    refine ⟨s, hs, ?_⟩
    -- every node of an anterior walk to `s` lies in the anterior set
    induction ha with
    | refl => exact Ant.refl _
    | @step a b c mb e hbc ih =>
      have hA : ∀ {v}, Ant G v c → v ∈ anterior G S := fun h => (mem_anterior hwf hS).mpr ⟨c, hs, h⟩
      exact Ant.step (hasEdge_restrict.mpr ⟨e, hA (Ant.step e hbc), hA hbc⟩) (ih hs)

/-- adjacency in the relational moral graph of Pw/T2 = collider-connectedness in the induced subgraph -/
theorem hadj_iff_cc {G : MG} (hwf : G.WF) {A : List Nat} {u v : Nat} (hne : u ≠ v) :
    HAdj G (· ∈ A) u v ↔ ColliderConnected (restrict G A) u v := by
  rw [← walk_iff_cc (restrict_wf hwf) hne]
  unfold HAdj
  constructor
  · rintro ⟨hs, hn, hv, hend, hc, hall⟩
    exact ⟨hs, hn, ((validW_restrict hs u).mpr ⟨hv, hall⟩).1, hend, hc⟩
  · rintro ⟨hs, hn, hv, hend, hc⟩
    have hu : u ∈ A := (mem_restrict_nodes.mp (walk_nodes_mem (restrict_wf hwf) hn hv u List.mem_cons_self)).2
    obtain ⟨hv', hall⟩ := (validW_restrict hs u).mp ⟨hv, hu⟩
    exact ⟨hs, hn, hv', hend, hc, hall⟩

/-- only the nodes of `G` matter in the node predicate of `HAdj` -/
theorem hadj_mono {G : MG} (hwf : G.WF) {P Q : Nat → Prop} (hPQ : ∀ w ∈ G.nodes, P w → Q w) {u v : Nat}
    (h : HAdj G P u v) : HAdj G Q u v := by
  obtain ⟨hs, hn, hv, hend, hc, hall⟩ := h
  exact ⟨hs, hn, hv, hend, hc, fun w hw => hPQ w (walk_nodes_mem hwf hn hv w hw) (hall w hw)⟩

theorem HConn.tail {G : MG} {A : Nat → Prop} {Z : List Nat} {a b c : Nat}
    (h : HConn G A Z a b) (he : HAdj G A b c) (hc : c ∉ Z) : HConn G A Z a c := by
  induction h with
  | refl => exact HConn.step he hc (HConn.refl c)
  | step e hb _ ih => exact HConn.step e hb (ih he)

theorem hadj_right {G : MG} {A : Nat → Prop} {u v : Nat} (h : HAdj G A u v) : A v := by
  obtain ⟨hs, _, _, hend, _, hall⟩ := h
  rw [← hend]; exact hall _ (endNode_mem_nodesOf hs u)

section
variable {V : Nat → Prop} {E : Nat → Nat → Prop} {Z : List Nat}

theorem PathAvoid.left_mem {a b : Nat} (h : PathAvoid V E Z a b) : V a ∧ a ∉ Z := by
  induction h with
  | refl ha haZ => exact ⟨ha, haZ⟩
  | tail _ _ _ _ ih => exact ih

theorem PathAvoid.right_mem {a b : Nat} (h : PathAvoid V E Z a b) : V b ∧ b ∉ Z := by
  cases h with
  | refl ha haZ => exact ⟨ha, haZ⟩
  | tail _ _ hc hcZ => exact ⟨hc, hcZ⟩

theorem PathAvoid.trans {a b c : Nat} (h1 : PathAvoid V E Z a b) (h2 : PathAvoid V E Z b c) :
    PathAvoid V E Z a c := by
  induction h2 with
  | refl _ _ => exact h1
  | tail _ e hc hcZ ih => exact PathAvoid.tail ih e hc hcZ

theorem PathAvoid.head {a b c : Nat} (ha : V a) (haZ : a ∉ Z) (he : E a b) (h : PathAvoid V E Z b c) :
    PathAvoid V E Z a c :=
  (PathAvoid.tail (PathAvoid.refl a ha haZ) he h.left_mem.1 h.left_mem.2).trans h

theorem PathAvoid.symm {a b : Nat} (hE : ∀ a b, E a b → E b a) (h : PathAvoid V E Z a b) :
    PathAvoid V E Z b a := by
  induction h with
  | refl ha haZ => exact PathAvoid.refl _ ha haZ
  | tail _ e hc hcZ ih => exact PathAvoid.head hc hcZ (hE _ _ e) ih

end

theorem PathAvoid.mono {V V' : Nat → Prop} {E E' : Nat → Nat → Prop} {Z Z' : List Nat}
    (hV : ∀ a, V a → V' a) (hE : ∀ a b, E a b → E' a b) (hZ : ∀ a, V a → a ∈ Z' → a ∈ Z) {a b : Nat}
    (h : PathAvoid V E Z a b) : PathAvoid V' E' Z' a b := by
  induction h with
  | refl ha haZ => exact PathAvoid.refl _ (hV _ ha) (fun h => haZ (hZ _ ha h))
  | tail _ e hc hcZ ih => exact PathAvoid.tail ih (hE _ _ e) (hV _ hc) (fun h => hcZ (hZ _ hc h))

theorem PathAvoid.mono_Z {V : Nat → Prop} {E : Nat → Nat → Prop} {Z1 Z2 : List Nat} {a b : Nat}
    (hz : ∀ v, V v → v ∈ Z2 → v ∈ Z1) (h : PathAvoid V E Z1 a b) : PathAvoid V E Z2 a b :=
  h.mono (fun _ h => h) (fun _ _ h => h) hz

/-- reachability in the relational moral graph over a node predicate `P` = reachability in any graph on a
    list `A` of the nodes of `G` that satisfy `P`, with the same adjacency between different nodes -/
theorem hconn_iff_pathAvoid {G : MG} (hwf : G.WF) {P : Nat → Prop} {A : List Nat}
    (hPA : ∀ w ∈ G.nodes, (P w ↔ w ∈ A)) {E : Nat → Nat → Prop} {Z : List Nat}
    (hE : ∀ u v, E u v ↔ (u ≠ v ∧ HAdj G (· ∈ A) u v)) {x y : Nat} (hx : x ∈ A) (hxZ : x ∉ Z) :
    HConn G P Z x y ↔ PathAvoid (· ∈ A) E Z x y := by
  constructor
  · intro h
    induction h with
    | refl a => exact PathAvoid.refl a hx hxZ
    | @step a b c he hbZ _ ih =>
      have he' : HAdj G (· ∈ A) a b := hadj_mono hwf (fun w hw => (hPA w hw).mp) he
      by_cases hab : a = b
      · subst hab; exact ih hx hxZ
      · exact PathAvoid.head hx hxZ ((hE a b).mpr ⟨hab, he'⟩) (ih (hadj_right he') hbZ)
  · intro h
    induction h with
    | refl => exact HConn.refl _
    | tail _ e _ hcZ ih =>
      exact HConn.tail ih (hadj_mono hwf (fun w hw => (hPA w hw).mpr) ((hE _ _).mp e).2) hcZ

theorem mem_ugNbrs {H : UG} {a b : Nat} : b ∈ H.nbrs a ↔ UAdj H.edges a b := mem_sym

theorem mem_reachAvoid {H : UG} {X Z : List Nat} {v : Nat} :
    v ∈ reachAvoid H X Z ↔ ∃ x ∈ X, PathAvoid (· ∈ H.nodes) (UAdj H.edges) Z x v := by
  have hU : ∀ {a}, a ∈ H.nodes.filter (· ∉ Z) ↔ (a ∈ H.nodes ∧ a ∉ Z) := by simp [List.mem_filter]
  unfold reachAvoid
  rw [mem_closure]
  refine exists_congr fun x => and_congr_right fun _ => ⟨?_, fun h => ?_⟩
  · rintro ⟨hx, hr⟩
    induction hr with
    | refl => exact PathAvoid.refl _ (hU.mp hx).1 (hU.mp hx).2
    | tail _ s ih => exact PathAvoid.tail ih (mem_ugNbrs.mp s.1) (hU.mp s.2).1 (hU.mp s.2).2
  · induction h with
    | refl ha haZ => exact ⟨hU.mpr ⟨ha, haZ⟩, Reach.refl _⟩
    | tail _ e hc hcZ ih => exact ⟨ih.1, Reach.tail ih.2 ⟨mem_ugNbrs.mpr e, hU.mpr ⟨hc, hcZ⟩⟩⟩

theorem cutR_singleton {V : Nat → Prop} {E : Nat → Nat → Prop} {Z : List Nat} {x y : Nat} :
    CutR V E [x] [y] Z ↔ ¬ PathAvoid V E Z x y := by
  simp [CutR]

theorem vcut_iff (H : UG) (X Y Z : List Nat) : vcut H X Y Z = true ↔ VCut H X Y Z := by
  unfold vcut VCut CutR
  simp only [Bool.not_eq_true', List.any_eq_false, decide_eq_true_eq, mem_reachAvoid]
  exact ⟨fun h x hx y hy hp => h y ⟨x, hx, hp⟩ hy, fun h v ⟨x, hx, hp⟩ hv => h x hx v hv hp⟩

/-- T2 transported to a list `A` that represents the anterior set and to path-level
    collider-connectedness inside the induced subgraph -/
theorem sep_iff_cutR (G : MG) (hwf : G.WF) (hb : NoUndirAtHead G) (hsl : NoSelfLoop G)
    (X Y Z : List Nat) (hX : ∀ x ∈ X, x ∈ G.nodes) (hZ : ∀ z ∈ Z, z ∈ G.nodes)
    (hXZ : ∀ x ∈ X, x ∉ Z) (hYZ : ∀ y ∈ Y, y ∉ Z) (A : List Nat) (hA : IsAntSet G (X ++ Y ++ Z) A) :
    MSep G X Y Z ↔
      CutR (· ∈ A) (fun u v => u ≠ v ∧ ColliderConnected (restrict G A) u v) X Y Z := by
  unfold CutR
  rw [mSep_iff_moral_cut G hwf hb hsl X Y Z hZ hXZ hYZ]
  have bridge : ∀ x ∈ X, ∀ y,
      (HConn G (AntSet G X Y Z) Z x y ↔
        PathAvoid (· ∈ A) (fun u v => u ≠ v ∧ ColliderConnected (restrict G A) u v) Z x y) := fun x hx y =>
    hconn_iff_pathAvoid hwf (fun w hw => ⟨fun hP => (hA w).mpr ⟨hw, hP⟩, fun h => ((hA w).mp h).2⟩)
      (fun u v => and_congr_right fun hne => (hadj_iff_cc hwf hne).symm)
      ((hA x).mpr ⟨hX x hx, x, by simp [hx], Ant.refl x⟩) (hXZ x hx)
  exact ⟨fun h x hx y hy hp => h ⟨x, hx, y, hy, (bridge x hx y).mpr hp⟩,
    fun h ⟨x, hx, y, hy, hc⟩ => h x hx y hy ((bridge x hx y).mp hc)⟩

theorem mem_union3 {G : MG} {X Y Z : List Nat} (hX : ∀ x ∈ X, x ∈ G.nodes) (hY : ∀ y ∈ Y, y ∈ G.nodes)
    (hZ : ∀ z ∈ Z, z ∈ G.nodes) : ∀ s ∈ X ++ Y ++ Z, s ∈ G.nodes :=
  List.forall_mem_append.mpr ⟨List.forall_mem_append.mpr ⟨hX, hY⟩, hZ⟩

/-- **C12, second sentence (specification level), unconditional.** On the domain of C01, for
    X, Y, Z ⊆ V with X, Y disjoint from Z: X and Y are m-separated given Z iff Z cuts X from Y in the
    graph on the anterior set of X ∪ Y ∪ Z whose adjacency is collider-connectedness inside the
    induced subgraph. -/
theorem sep_iff_antMoralCut (G : MG) (hwf : G.WF) (hb : NoUndirAtHead G) (hsl : NoSelfLoop G)
    (X Y Z : List Nat) (hX : ∀ x ∈ X, x ∈ G.nodes) (hY : ∀ y ∈ Y, y ∈ G.nodes)
    (hZ : ∀ z ∈ Z, z ∈ G.nodes) (hXZ : ∀ x ∈ X, x ∉ Z) (hYZ : ∀ y ∈ Y, y ∉ Z) : SepIffCut G X Y Z :=
  ⟨fun h A hA => (sep_iff_cutR G hwf hb hsl X Y Z hX hZ hXZ hYZ A hA).mp h, fun h =>
    have hA := anterior_isAntSet hwf (mem_union3 hX hY hZ)
    (sep_iff_cutR G hwf hb hsl X Y Z hX hZ hXZ hYZ _ hA).mpr (h _ hA)⟩

theorem pa_moral_restrict {G : MG} (hwf : G.WF) (hsl : NoSelfLoop G) {A : List Nat}
    (hA : ∀ a ∈ A, a ∈ G.nodes) {Z : List Nat} {a b : Nat} :
    PathAvoid (· ∈ (moral (restrict G A)).nodes) (UAdj (moral (restrict G A)).edges) Z a b ↔
      PathAvoid (· ∈ A) (fun u v => u ≠ v ∧ ColliderConnected (restrict G A) u v) Z a b := by
  have hadj := moral_adj_iff (restrict G A) (restrict_wf hwf) (restrict_nsl hsl)
  have hn : ∀ a, a ∈ (moral (restrict G A)).nodes ↔ a ∈ A := fun a =>
    mem_restrict_nodes.trans ⟨And.right, fun h => ⟨hA a h, h⟩⟩
  exact ⟨PathAvoid.mono (fun a => (hn a).mp) (fun a b => (hadj a b).mp) (fun _ _ h => h),
    PathAvoid.mono (fun a => (hn a).mpr) (fun a b => (hadj a b).mpr) (fun _ _ h => h)⟩

theorem pa_moral_mono {G : MG} (hwf : G.WF) (hsl : NoSelfLoop G) {A B : List Nat} (hAB : ∀ a ∈ A, a ∈ B)
    {Z : List Nat} {a b : Nat}
    (h : PathAvoid (· ∈ (moral (restrict G A)).nodes) (UAdj (moral (restrict G A)).edges) Z a b) :
    PathAvoid (· ∈ (moral (restrict G B)).nodes) (UAdj (moral (restrict G B)).edges) Z a b := by
  refine h.mono (fun v hv => ?_) (fun u v he => ?_) (fun _ _ h => h)
  · exact mem_restrict_nodes.mpr ⟨(mem_restrict_nodes.mp hv).1, hAB v (mem_restrict_nodes.mp hv).2⟩
  · rw [moral_adj_iff _ (restrict_wf hwf) (restrict_nsl hsl)] at he ⊢
    exact ⟨he.1, (hadj_iff_cc hwf he.1).mp (hadj_mono hwf (fun w _ => hAB w) ((hadj_iff_cc hwf he.1).mpr he.2))⟩

theorem sep_iff_vcut_of_antSet (G : MG) (hwf : G.WF) (hb : NoUndirAtHead G) (hsl : NoSelfLoop G)
    (X Y Z : List Nat) (hX : ∀ x ∈ X, x ∈ G.nodes) (hZ : ∀ z ∈ Z, z ∈ G.nodes)
    (hXZ : ∀ x ∈ X, x ∉ Z) (hYZ : ∀ y ∈ Y, y ∉ Z) (A : List Nat) (hA : IsAntSet G (X ++ Y ++ Z) A) :
    MSep G X Y Z ↔ VCut (moral (restrict G A)) X Y Z := by
  rw [sep_iff_cutR G hwf hb hsl X Y Z hX hZ hXZ hYZ A hA]
  unfold VCut CutR
  simp only [pa_moral_restrict hwf hsl fun a ha => ((hA a).mp ha).1]

/-- **C12, second sentence for the models.** m-separation ⟺ `Z` is a vertex cut between `X` and `Y`
    in `moral (restrict G (anterior G (X ∪ Y ∪ Z)))` – the graph the code builds. -/
theorem sep_iff_vcut (G : MG) (hwf : G.WF) (hb : NoUndirAtHead G) (hsl : NoSelfLoop G)
    (X Y Z : List Nat) (hX : ∀ x ∈ X, x ∈ G.nodes) (hY : ∀ y ∈ Y, y ∈ G.nodes)
    (hZ : ∀ z ∈ Z, z ∈ G.nodes) (hXZ : ∀ x ∈ X, x ∉ Z) (hYZ : ∀ y ∈ Y, y ∉ Z) :
    MSep G X Y Z ↔ VCut (moral (restrict G (anterior G (X ++ Y ++ Z)))) X Y Z :=
  sep_iff_vcut_of_antSet G hwf hb hsl X Y Z hX hZ hXZ hYZ _ (anterior_isAntSet hwf (mem_union3 hX hY hZ))

/-- **C12, second sentence, executable form**: the verified m-separation model of C01 and the
    vertex-cut decider on the model's moral graph of the model's anterior subgraph agree. -/
theorem mSeparated_eq_moralSep (G : MG) (hwf : G.WF) (hb : NoUndirAtHead G) (hsl : NoSelfLoop G)
    (X Y Z : List Nat) (hX : ∀ x ∈ X, x ∈ G.nodes) (hY : ∀ y ∈ Y, y ∈ G.nodes)
    (hZ : ∀ z ∈ Z, z ∈ G.nodes) (hXZ : ∀ x ∈ X, x ∉ Z) (hYZ : ∀ y ∈ Y, y ∉ Z) :
    mSeparated G X Y Z = moralSep G X Y Z := by
  rw [Bool.eq_iff_iff, mSeparated_iff_MSep G hwf hb hsl X Y Z hX hZ hXZ,
    sep_iff_vcut G hwf hb hsl X Y Z hX hY hZ hXZ hYZ, ← vcut_iff]
  rfl

/-- non-vacuity of the hypotheses (G1 of Main.lean, X = {0}, Y = {1}, Z = {4}) -/
example : G1.WF ∧ NoUndirAtHead G1 ∧ NoSelfLoop G1 ∧ (∀ x ∈ [0], x ∈ G1.nodes) ∧
    (∀ y ∈ [1], y ∈ G1.nodes) ∧ (∀ z ∈ [4], z ∈ G1.nodes) ∧ (∀ x ∈ [0], x ∉ [4]) ∧ (∀ y ∈ [1], y ∉ [4]) :=
  ⟨G1_wf, noUndirAtHead_of_un_nil G1 rfl, G1_nsl, by decide, by decide, by decide, by decide, by decide⟩

end C12
