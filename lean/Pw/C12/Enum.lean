import Pw.C12.Main
import Pw.C19.Dec
open Closure MG

/-! # C12: the brute-force path enumerator `ccDec` decides `ColliderConnected`

Not needed for the main theorems; it makes the *independent* oracle of the harness (`specEdges`, an
enumeration of all simple paths) a verified decider of the specification as well. -/
namespace C12

/-- skipping the visited hops one by one or filtering them out beforehand gives the same list -/
theorem flatMap_ite_eq_filter {α β : Type} (p : α → Prop) [DecidablePred p] (g : α → List β) :
    ∀ l : List α, (l.flatMap fun x => if p x then [] else g x) = (l.filter (¬ p ·)).flatMap g
  | [] => rfl
  | x :: l => by
    by_cases hp : p x <;> simp [hp, flatMap_ite_eq_filter p g l]

theorem pathsFrom_eq (G : MG) : ∀ (f : Nat) (vis : List Nat) (a : Nat),
    pathsFrom G f vis a = C19.pathsFrom G f vis a
  | 0, _, _ => rfl
  | f + 1, vis, a => by
    simp only [pathsFrom, C19.pathsFrom, pathsFrom_eq G f]
    exact congrArg _ (flatMap_ite_eq_filter (fun h : Hop => h.nx ∈ vis) _ _)

theorem mem_hopsFrom {G : MG} {a : Nat} {h : Hop} :
    h ∈ hopsFrom G a ↔ HasEdge G a h.nx h.mp h.mn :=
  C19.mem_hopsFrom

theorem mem_pathsFrom {G : MG} (f : Nat) (vis : List Nat) (a : Nat) (hs : List Hop) :
    hs ∈ pathsFrom G f vis a ↔
      (ValidW G a hs ∧ hs.length ≤ f ∧ (hs.map (·.nx)).Nodup ∧ ∀ n ∈ hs.map (·.nx), n ∉ vis) :=
  pathsFrom_eq G f vis a ▸ C19.mem_pathsFrom G f vis a hs

theorem allCollB_iff : ∀ hs : List Hop, allCollB hs = true ↔ AllColl hs
  | [] => by simp [allCollB, AllColl]
  | [_] => by simp [allCollB, AllColl]
  | h1 :: h2 :: t => by
    simp only [allCollB, AllColl, Bool.and_eq_true, decide_eq_true_eq, allCollB_iff (h2 :: t), and_assoc]

theorem adjB_iff {G : MG} {u v : Nat} : adjB G u v = true ↔ Adj G u v := by
  simp only [adjB, Bool.or_eq_true, decide_eq_true_eq, mem_children, mem_parents, spouses, unbrs, mem_sym,
    adj_iff, UAdj]

theorem ccDec_iff (G : MG) (hwf : G.WF) (u v : Nat) : ccDec G u v = true ↔ ColliderConnected G u v := by
  unfold ccDec ColliderConnected
  rw [Bool.or_eq_true, adjB_iff, List.any_eq_true]
  constructor
  · rintro (h | ⟨hs, hmem, hcond⟩)
    · exact Or.inl h
    · simp only [Bool.and_eq_true, Bool.not_eq_true', decide_eq_true_eq, allCollB_iff] at hcond
      obtain ⟨hv, _, hn, hnv⟩ := (mem_pathsFrom _ _ _ _).mp hmem
      refine Or.inr ⟨hs, ?_, hv, hcond.1.2, ?_, hcond.2⟩
      · intro h; rw [h] at hcond; simp at hcond
      · simp only [nodesOf, List.nodup_cons]
        exact ⟨fun hm => hnv u hm (by simp), hn⟩
  · rintro (h | ⟨hs, hne, hv, hend, hnd, hc⟩)
    · exact Or.inl h
    · right
      refine ⟨hs, (mem_pathsFrom _ _ _ _).mpr ⟨hv, ?_, ?_, ?_⟩, ?_⟩
      · have := hnd.length_le_of_subset fun w hw => walk_nodes_mem hwf hne hv w hw
        simp only [nodesOf, List.length_cons, List.length_map] at this
        omega
      · simp only [nodesOf, List.nodup_cons] at hnd; exact hnd.2
      · simp only [nodesOf, List.nodup_cons] at hnd
        intro n hn hnu
        simp only [List.mem_singleton] at hnu
        subst hnu
        exact hnd.1 hn
      · simp only [Bool.and_eq_true, Bool.not_eq_true', decide_eq_true_eq, allCollB_iff]
        refine ⟨⟨?_, hend⟩, hc⟩
        cases hs with
        | nil => exact absurd rfl hne
        | cons _ _ => rfl

end C12
