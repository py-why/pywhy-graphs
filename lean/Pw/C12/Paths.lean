import Pw.C12.District
open Closure MG

/-! # C12, part 2: collider-connectedness, by walks and by paths, is the district relation

* a walk all of whose inner nodes are colliders stays inside one district and ends in the district or
  in one of its parents (`district_of_walk`);
* conversely two different nodes of district ∪ parents are joined by a *path* (no repeated node) whose
  inner nodes are all colliders (`cc_of_district`) – loop cutting inside the bidirected layer. -/
namespace C12

theorem hasEdge_head_head {G : MG} {a b : Nat} : HasEdge G a b .head .head ↔ UAdj G.bi a b := by
  simp [HasEdge, UAdj]

theorem walk_nodes_mem {G : MG} (hwf : G.WF) {hs : List Hop} {u : Nat} (hne : hs ≠ []) (hv : ValidW G u hs) :
    ∀ w ∈ nodesOf u hs, w ∈ G.nodes :=
  match hs, hne, hv with
  | _ :: _, _, hv => nodesOf_mem_nodes hwf (HasEdge.mem_nodes hwf hv.1.symm) hv

theorem allColl_iff_collW : ∀ hs : List Hop, AllColl hs ↔ CollW none hs
  | [] => by simp [AllColl, CollW]
  | [_] => by simp [AllColl, CollW]
  | h1 :: h2 :: t => by
    have ih := allColl_iff_collW (h2 :: t)
    simp only [AllColl, CollW, and_assoc] at ih ⊢
    rw [ih]

theorem inDP_of_collW {G : MG} (hwf : G.WF) : ∀ (hs : List Hop) (a : Nat), ValidW G a hs →
    CollW (some .head) hs → InDP G a (endNode a hs)
  | [], a, _, _ => Or.inl (Reach.refl a)
  | h :: t, a, hv, hc => by
    obtain ⟨hv1, hv2⟩ := hv
    obtain ⟨⟨_, hmp⟩, hc2⟩ := hc
    rw [hmp] at hv1
    cases hmn : h.mn with
    | head =>
      rw [hmn] at hv1 hc2
      exact (inDP_of_collW hwf t h.nx hv2 hc2).of_reach (breach_step hwf (hasEdge_head_head.mp hv1))
    | tail =>
      -- a hop into a parent of the district ends the walk
      rw [hmn] at hv1 hc2
      cases t with
      | nil => exact Or.inr ⟨a, Reach.refl a, hv1.symm.dir_of_tail_head⟩
      | cons h2 t2 => cases hc2.1.1

theorem district_of_walk {G : MG} (hwf : G.WF) {u v : Nat} {hs : List Hop} (hne : hs ≠ [])
    (hv : ValidW G u hs) (hend : endNode u hs = v) (hc : CollW none hs) :
    Adj G u v ∨ ∃ r ∈ G.nodes, InDP G r u ∧ InDP G r v := by
  match hs, hne, hv, hend, hc with
  | [h], _, hv, hend, _ =>
    simp only [endNode] at hend
    subst hend
    exact Or.inl ⟨h.mp, h.mn, hv.1⟩
  | h :: h2 :: t, _, hv, hend, hc =>
    obtain ⟨hv1, hv2⟩ := hv
    simp only [CollW] at hc
    rw [hc.1.1] at hv1
    -- both ends are seen from `h.nx`: `u` along the first hop taken backwards
    exact Or.inr ⟨h.nx, HasEdge.mem_nodes hwf hv1,
      inDP_of_collW hwf [⟨.head, h.mp, u⟩] h.nx ⟨hv1.symm, trivial⟩ ⟨⟨rfl, rfl⟩, trivial⟩,
      hend ▸ inDP_of_collW hwf (h2 :: t) h.nx hv2 ⟨⟨rfl, hc.1.2⟩, hc.2⟩⟩

def AllBi (hs : List Hop) : Prop := ∀ h ∈ hs, h.mp = .head ∧ h.mn = .head

theorem split_at (hs : List Hop) (b n : Nat) (h : n ∈ nodesOf b hs) :
    ∃ pre suf, hs = pre ++ suf ∧ endNode b pre = n := by
  rcases List.mem_cons.mp h with rfl | h
  · exact ⟨[], hs, rfl, rfl⟩
  · obtain ⟨hop, hh, rfl⟩ := List.mem_map.mp h
    obtain ⟨s, t, rfl⟩ := List.append_of_mem hh
    exact ⟨s ++ [hop], t, by simp, endNode_snoc s b hop⟩

/-- loop cutting: reachability in the bidirected layer gives a bidirected *path* (back to the start) -/
theorem exists_bipath {G : MG} {a b : Nat} (ha : a ∈ G.nodes) (h : BReach G a b) :
    ∃ hs, ValidW G b hs ∧ endNode b hs = a ∧ (nodesOf b hs).Nodup ∧ AllBi hs ∧
      ∀ n ∈ nodesOf b hs, BReach G a n := by
  induction h with
  | refl =>
    exact ⟨[], trivial, rfl, by simp [nodesOf], (by intro h hh; cases hh),
      (by intro n hn; simp [nodesOf] at hn; subst hn; exact Reach.refl _)⟩
  | @tail b c hr s ih =>
    obtain ⟨hs, hv, hend, hnd, hbi, hre⟩ := ih
    have hbc : UAdj G.bi c b := uadj_symm (mem_spouses.mp s.1)
    by_cases hc : c ∈ nodesOf b hs
    · obtain ⟨pre, suf, rfl, hpre⟩ := split_at hs b c hc
      rw [validW_append, hpre] at hv
      rw [endNode_append, hpre] at hend
      rw [nodesOf_append, List.nodup_append] at hnd
      have hcpre : c ∈ nodesOf b pre := by rw [← hpre]; exact endNode_mem_nodesOf pre b
      refine ⟨suf, hv.2, hend, ?_, fun h hh => hbi h (List.mem_append_right _ hh), ?_⟩
      · simp only [nodesOf, List.nodup_cons]
        exact ⟨fun hmem => hnd.2.2 c hcpre c hmem rfl, hnd.2.1⟩
      · intro n hn
        apply hre n
        rw [nodesOf_append]
        simp only [nodesOf, List.mem_cons] at hn
        rcases hn with rfl | hn
        · exact List.mem_append_left _ hcpre
        · exact List.mem_append_right _ hn
    · refine ⟨⟨.head, .head, b⟩ :: hs, ⟨hasEdge_head_head.mpr hbc, hv⟩, hend,
        List.nodup_cons.mpr ⟨hc, hnd⟩, ?_, ?_⟩
      · intro h hh
        rcases List.mem_cons.mp hh with rfl | hh
        · exact ⟨rfl, rfl⟩
        · exact hbi h hh
      · intro n hn
        rcases List.mem_cons.mp hn with rfl | hn
        · exact Reach.tail hr s
        · exact hre n hn

theorem collW_none_of_some : ∀ {hs : List Hop} {m : Mark}, CollW (some m) hs → CollW none hs
  | [], _, _ => trivial
  | _ :: _, _, h => h.2

/-- bidirected hops in front of a collider walk that is entered through an arrowhead -/
theorem collW_allBi_append : ∀ (hs Q : List Hop), AllBi hs → CollW (some .head) Q →
    CollW (some .head) (hs ++ Q)
  | [], _, _, hQ => hQ
  | h :: t, Q, hb, hQ => by
    obtain ⟨hmp, hmn⟩ := hb h List.mem_cons_self
    refine ⟨⟨rfl, hmp⟩, ?_⟩
    rw [hmn]
    exact collW_allBi_append t Q (fun h hh => hb h (List.mem_cons_of_mem _ hh)) hQ

theorem cc_of_district {G : MG} (hwf : G.WF) {u v r : Nat} (hne : u ≠ v) (hr : r ∈ G.nodes)
    (hu : InDP G r u) (hv : InDP G r v) : ColliderConnected G u v := by
  -- normal form: either in the district, or a parent outside the district
  have norm : ∀ w, InDP G r w → BReach G r w ∨ (¬ BReach G r w ∧ ∃ c, BReach G r c ∧ (w, c) ∈ G.dir) :=
    fun w hw => (Classical.em (BReach G r w)).imp_right fun h => ⟨h, Or.resolve_left hw h⟩
  -- from any node `c` of the district a collider path leads to `v`: a bidirected path inside the
  -- district, followed by the hop to `v` if `v` is a parent outside
  have toV : ∀ c, BReach G r c → ∃ P, ValidW G c P ∧ endNode c P = v ∧ (nodesOf c P).Nodup ∧
      CollW (some .head) P ∧ ∀ n ∈ nodesOf c P, n = v ∨ BReach G r n := by
    intro c hc
    rcases norm v hv with hDv | ⟨hnv, cv, hcv, hdv⟩
    · obtain ⟨hs, hval, hend, hnd, hbi, hre⟩ :=
        exists_bipath (Reach.mem hr hDv) (Reach.trans (breach_symm hr hDv) hc)
      exact ⟨hs, hval, hend, hnd, List.append_nil hs ▸ collW_allBi_append hs [] hbi trivial,
        fun n hn => Or.inr (Reach.trans hDv (hre n hn))⟩
    · obtain ⟨hs, hval, hend, hnd, hbi, hre⟩ :=
        exists_bipath (Reach.mem hr hcv) (Reach.trans (breach_symm hr hcv) hc)
      have hin : ∀ n ∈ nodesOf c hs, BReach G r n := fun n hn => Reach.trans hcv (hre n hn)
      refine ⟨hs ++ [⟨.head, .tail, v⟩], ?_, endNode_snoc _ _ _, ?_,
        collW_allBi_append hs _ hbi ⟨⟨rfl, rfl⟩, trivial⟩, ?_⟩
      · rw [validW_append, hend]; exact ⟨hval, (hasEdge_dir.mp hdv).symm, trivial⟩
      · rw [nodesOf_append, List.nodup_append]
        refine ⟨hnd, by simp, fun a ha b hb => ?_⟩
        simp only [List.map_cons, List.map_nil, List.mem_singleton] at hb
        subst hb
        rintro rfl
        exact hnv (hin _ ha)
      · intro n hn
        rw [nodesOf_append] at hn
        exact (List.mem_append.mp hn).elim (fun h => Or.inr (hin n h)) fun h => Or.inl (List.mem_singleton.mp h)
  rcases norm u hu with hDu | ⟨hnu, cu, hcu, hdu⟩
  · obtain ⟨P, hval, hend, hnd, hc, _⟩ := toV u hDu
    exact Or.inr ⟨P, fun h => hne (by subst h; exact hend), hval, hend, hnd,
      (allColl_iff_collW P).mpr (collW_none_of_some hc)⟩
  · obtain ⟨P, hval, hend, hnd, hc, hn⟩ := toV cu hcu
    exact Or.inr ⟨⟨.tail, .head, cu⟩ :: P, List.cons_ne_nil _ _, ⟨hasEdge_dir.mp hdu, hval⟩, hend,
      List.nodup_cons.mpr ⟨fun hmem => (hn u hmem).elim hne hnu, hnd⟩, (allColl_iff_collW _).mpr hc⟩

end C12
