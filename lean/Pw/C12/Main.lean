import Pw.C12.Paths
open Closure MG

/-! # C12, first sentence: the model of `mixed_edge_moral_graph` is the moral graph

* `moral_adj_iff` : `(u,v)` is an edge of the model ⟺ `u ≠ v` and u, v are adjacent or joined by a path
  whose inner nodes are all colliders (all well-formed loop-free mixed graphs – no size bound, no
  acyclicity or ancestrality needed);
* `moral_nodes` : the node set is preserved;
* `moral_dag` : on a plain DAG the result is skeleton + married parents (`networkx.moral_graph`);
* `moralUnfixed_counterexample` : the code before the fix violates the first sentence on `0 -> 2 <- 1`. -/
namespace C12

theorem cc_iff_district {G : MG} (hwf : G.WF) {u v : Nat} (hne : u ≠ v) :
    ColliderConnected G u v ↔ (Adj G u v ∨ ∃ r ∈ G.nodes, InDP G r u ∧ InDP G r v) := by
  constructor
  · rintro (h | ⟨hs, hn, hv, hend, _, hc⟩)
    · exact Or.inl h
    · exact district_of_walk hwf hn hv hend ((allColl_iff_collW hs).mp hc)
  · rintro (h | ⟨r, hr, hu, hv⟩)
    · exact Or.inl h
    · exact cc_of_district hwf hne hr hu hv

theorem adj_ne {G : MG} (hsl : NoSelfLoop G) {u v : Nat} (h : Adj G u v) : u ≠ v := by
  rintro rfl
  obtain ⟨mu, mv, h⟩ := h
  exact hsl u mu mv h

/-- **C12, first sentence (adjacency).** For every well-formed mixed graph without self loops:
    `u — v` in the model's moral graph iff `u ≠ v` and u, v are adjacent in G or joined by a path on
    which every inner node is a collider. -/
theorem moral_adj_iff (G : MG) (hwf : G.WF) (hsl : NoSelfLoop G) (u v : Nat) :
    UAdj (moral G).edges u v ↔ (u ≠ v ∧ ColliderConnected G u v) := by
  show UAdj (moralEdges G) u v ↔ _
  rw [moral_adj_district]
  constructor
  · rintro (h | ⟨hne, h⟩)
    · exact ⟨adj_ne hsl h, Or.inl h⟩
    · exact ⟨hne, (cc_iff_district hwf hne).mpr (Or.inr h)⟩
  · rintro ⟨hne, h⟩
    exact ((cc_iff_district hwf hne).mp h).imp_right fun h => ⟨hne, h⟩

/-- **C12, first sentence (nodes).** -/
theorem moral_nodes (G : MG) : (moral G).nodes = G.nodes := rfl

/-- **C12, first sentence.** -/
theorem moral_isMoralOf (G : MG) (hwf : G.WF) (hsl : NoSelfLoop G) : IsMoralOf G (moral G) :=
  ⟨fun _ => Iff.rfl, moral_adj_iff G hwf hsl⟩

theorem walk_iff_cc {G : MG} (hwf : G.WF) {u v : Nat} (hne : u ≠ v) :
    (∃ hs, hs ≠ [] ∧ ValidW G u hs ∧ endNode u hs = v ∧ CollW none hs) ↔ ColliderConnected G u v := by
  constructor
  · rintro ⟨hs, hn, hv, hend, hc⟩
    exact (cc_iff_district hwf hne).mpr (district_of_walk hwf hn hv hend hc)
  · rintro (⟨mu, mv, he⟩ | ⟨hs, hn, hv, hend, _, hc⟩)
    · exact ⟨[⟨mu, mv, v⟩], by simp, ⟨he, trivial⟩, rfl, by simp [CollW]⟩
    · exact ⟨hs, hn, hv, hend, (allColl_iff_collW hs).mp hc⟩

theorem breach_eq_of_bi_nil {G : MG} (hbi : G.bi = []) {r u : Nat} (h : BReach G r u) : r = u := by
  induction h with
  | refl => rfl
  | tail _ s _ =>
    have := s.1
    simp [spouses, sym, hbi] at this

theorem inDP_iff_of_bi_nil {G : MG} (hbi : G.bi = []) {r w : Nat} :
    InDP G r w ↔ (w = r ∨ (w, r) ∈ G.dir) := by
  constructor
  · rintro (h | ⟨c, hc, hd⟩)
    · exact Or.inl (breach_eq_of_bi_nil hbi h).symm
    · rw [← breach_eq_of_bi_nil hbi hc] at hd; exact Or.inr hd
  · rintro (rfl | h)
    · exact Or.inl (Reach.refl _)
    · exact Or.inr ⟨r, Reach.refl _, h⟩

/-- **C12 on plain DAGs.** Without bidirected and undirected edges the model's moral graph is the
    skeleton plus an edge between any two parents of a common child – the definition of
    `networkx.moral_graph`. -/
theorem moral_dag (G : MG) (hwf : G.WF) (hsl : NoSelfLoop G) (hbi : G.bi = []) (hun : G.un = [])
    (u v : Nat) : UAdj (moral G).edges u v ↔ DagMoralAdj G u v := by
  show UAdj (moralEdges G) u v ↔ _
  rw [moral_adj_district]
  unfold DagMoralAdj
  have hadj : Adj G u v ↔ ((u, v) ∈ G.dir ∨ (v, u) ∈ G.dir) := by
    rw [adj_iff, hbi, hun]; simp [UAdj]
  simp only [inDP_iff_of_bi_nil hbi]
  constructor
  · rintro (h | ⟨hne, r, _, hu, hv⟩)
    · exact ⟨adj_ne hsl h, (hadj.mp h).elim Or.inl (fun h => Or.inr (Or.inl h))⟩
    · refine ⟨hne, ?_⟩
      rcases hu with rfl | hu <;> rcases hv with rfl | hv
      · exact absurd rfl hne
      · exact Or.inr (Or.inl hv)
      · exact Or.inl hu
      · exact Or.inr (Or.inr ⟨r, hu, hv⟩)
  · rintro ⟨hne, h | h | ⟨c, hu, hv⟩⟩
    · exact Or.inl (hadj.mpr (Or.inl h))
    · exact Or.inl (hadj.mpr (Or.inr h))
    · exact Or.inr ⟨hne, c, (hwf.1 _ hu).2, Or.inr hu, Or.inr hv⟩

/-! ## the defect that was repaired, and non-vacuity -/

/-- `0 -> 2 <- 1` -/
def G0 : MG := { nodes := [0, 1, 2], dir := [(0, 2), (1, 2)] }

/-- `0 -> 2 <-> 3 <- 1`, `4 -> 0` -/
def G1 : MG := { nodes := [0, 1, 2, 3, 4], dir := [(0, 2), (1, 3), (4, 0)], bi := [(2, 3)] }

theorem G0_wf : G0.WF := by unfold MG.WF; decide

theorem G0_nsl : NoSelfLoop G0 := noSelfLoop_of_ne (by decide)

theorem G1_wf : G1.WF := by unfold MG.WF; decide

theorem G1_nsl : NoSelfLoop G1 := noSelfLoop_of_ne (by decide)

/-- the parents 0 and 1 of the common child 2 are collider connected … -/
theorem G0_cc : ColliderConnected G0 0 1 :=
  Or.inr ⟨[⟨.tail, .head, 2⟩, ⟨.head, .tail, 1⟩], List.cons_ne_nil _ _,
    ⟨hasEdge_dir.mp (by decide), (hasEdge_dir.mp (by decide)).symm, trivial⟩, rfl, by decide,
    ⟨rfl, rfl, trivial⟩⟩

theorem mem_compEdgesUnfixed {G : MG} {c : List Nat} {u v : Nat} :
    (u, v) ∈ compEdgesUnfixed G c → u ∈ c ∧ (v ∈ c ∨ v ∈ allParents G c) := by
  simp only [compEdgesUnfixed, List.mem_append, mem_pairsOf, mem_nodeParent]
  rintro (⟨h1, h2, _⟩ | ⟨h1, h2, _⟩)
  · exact ⟨h1, Or.inl h2⟩
  · exact ⟨h1, Or.inr h2⟩

/-- what the unrepaired loop can produce: one end point always lies *in* the district -/
theorem moralUnfixed_adj {G : MG} {u v : Nat} (h : UAdj (moralUnfixed G).edges u v) :
    Adj G u v ∨ ∃ r ∈ G.nodes, (BReach G r u ∧ InDP G r v) ∨ (BReach G r v ∧ InDP G r u) := by
  rcases uadj_append.mp h with h | h
  · exact Or.inl (adj_iff_base.mpr h)
  · obtain ⟨c, hc, h⟩ := uadj_flatMap.mp h
    obtain ⟨r, hr, rfl⟩ := (comps_spec G).1 c hc
    have key : ∀ {a b}, (a, b) ∈ compEdgesUnfixed G (bicomp G r) → BReach G r a ∧ InDP G r b := fun he =>
      have ⟨h1, h2⟩ := mem_compEdgesUnfixed he
      ⟨(mem_bicomp.mp h1).2, (mem_district_iff hr).mp h2⟩
    exact Or.inr ⟨r, hr, h.imp key key⟩

/-- … but the code before the fix did not join them: it violated C12. -/
theorem moralUnfixed_counterexample : ¬ IsMoralOf G0 (moralUnfixed G0) := by
  rintro ⟨_, h⟩
  have hadj := (h 0 1).mpr ⟨by decide, G0_cc⟩
  rcases moralUnfixed_adj hadj with ⟨mu, mv, he⟩ | ⟨r, _, ⟨h1, h2⟩ | ⟨h1, h2⟩⟩
  · simp [HasEdge, G0] at he
  · cases breach_eq_of_bi_nil (G := G0) rfl h1
    have := (inDP_iff_of_bi_nil rfl).mp h2
    simp [G0] at this
  · cases breach_eq_of_bi_nil (G := G0) rfl h1
    have := (inDP_iff_of_bi_nil rfl).mp h2
    simp [G0] at this

/-- non-vacuity: the hypotheses of `moral_adj_iff` hold for a graph with a two-node district with two
    parents, and the theorem then yields the marriage 0 — 1 of the parents of the district {2,3} -/
example : G1.WF ∧ NoSelfLoop G1 ∧ UAdj (moral G1).edges 0 1 :=
  ⟨G1_wf, G1_nsl, (moral_adj_iff G1 G1_wf G1_nsl 0 1).mpr ⟨by decide,
    Or.inr ⟨[⟨.tail, .head, 2⟩, ⟨.head, .head, 3⟩, ⟨.head, .tail, 1⟩], List.cons_ne_nil _ _,
      ⟨hasEdge_dir.mp (by decide), hasEdge_head_head.mpr (by decide), (hasEdge_dir.mp (by decide)).symm, trivial⟩,
      rfl, by decide, ⟨rfl, rfl, rfl, rfl, trivial⟩⟩⟩⟩

example : G0.WF ∧ NoSelfLoop G0 ∧ G0.bi = [] ∧ G0.un = [] ∧ DagMoralAdj G0 0 1 :=
  ⟨G0_wf, G0_nsl, rfl, rfl, by decide, Or.inr (Or.inr ⟨2, by simp [G0], by simp [G0]⟩)⟩

end C12
