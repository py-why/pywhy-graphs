import Pw.C12.Spec
open Closure MG

/-! # C12, part 1: what the model's edge list contains

`UAdj (moralEdges G) u v ↔ Adj G u v ∨ (u ≠ v ∧ ∃ r, u and v lie in the district of r or are parents of
it)` – pure list/closure reasoning about the model. -/
namespace C12

theorem uadj_symm {es : List (Nat × Nat)} {a b : Nat} (h : UAdj es a b) : UAdj es b a := Or.symm h

theorem mem_spouses {G : MG} {a b : Nat} : b ∈ G.spouses a ↔ UAdj G.bi a b := mem_sym

abbrev BReach (G : MG) : Nat → Nat → Prop := Reach G.nodes G.spouses

theorem breach_symm {G : MG} {a b : Nat} (ha : a ∈ G.nodes) (h : BReach G a b) : BReach G b a := by
  induction h with
  | refl => exact Reach.refl _
  | @tail b c hr s ih =>
    have hb : b ∈ G.nodes := Reach.mem ha hr
    exact Reach.head ⟨mem_spouses.mpr (uadj_symm (mem_spouses.mp s.1)), hb⟩ ih

theorem breach_step {G : MG} (hwf : G.WF) {a b : Nat} (h : UAdj G.bi a b) : BReach G a b := by
  refine Reach.tail (Reach.refl a) ⟨mem_spouses.mpr h, ?_⟩
  rcases h with h | h
  · exact (hwf.2.1 _ h).2
  · exact (hwf.2.1 _ h).1

/-- `u` lies in the district of `r` or is a parent of a node of that district -/
def InDP (G : MG) (r u : Nat) : Prop := BReach G r u ∨ ∃ c, BReach G r c ∧ (u, c) ∈ G.dir

theorem InDP.of_reach {G : MG} {r r' u : Nat} (h : BReach G r' r) (hu : InDP G r u) : InDP G r' u := by
  rcases hu with hu | ⟨c, hc, hd⟩
  · exact Or.inl (Reach.trans h hu)
  · exact Or.inr ⟨c, Reach.trans h hc, hd⟩

theorem mem_bicomp {G : MG} {r u : Nat} : u ∈ bicomp G r ↔ r ∈ G.nodes ∧ BReach G r u := by
  simp only [bicomp, mem_closure, List.mem_singleton, exists_eq_left]

theorem mem_allParents {G : MG} {c : List Nat} {p : Nat} :
    p ∈ allParents G c ↔ ∃ n ∈ c, (p, n) ∈ G.dir := by
  simp only [allParents, List.mem_flatMap, mem_parents]

theorem mem_nodeParent {c ps : List Nat} {u v : Nat} :
    (u, v) ∈ nodeParent c ps ↔ u ∈ c ∧ v ∈ ps ∧ v ≠ u := by
  simp only [nodeParent, List.mem_flatMap, List.mem_map, List.mem_filter, decide_eq_true_eq, Prod.mk.injEq]
  constructor
  · rintro ⟨a, ha, b, ⟨hb, hne⟩, rfl, rfl⟩; exact ⟨ha, hb, hne⟩
  · rintro ⟨hu, hv, hne⟩; exact ⟨u, hu, v, ⟨hv, hne⟩, rfl, rfl⟩

theorem mem_pairsOf {S : List Nat} {u v : Nat} : (u, v) ∈ pairsOf S ↔ u ∈ S ∧ v ∈ S ∧ v ≠ u :=
  mem_nodeParent (c := S) (ps := S)

theorem uadj_append {es es' : List (Nat × Nat)} {u v : Nat} :
    UAdj (es ++ es') u v ↔ (UAdj es u v ∨ UAdj es' u v) := by
  simp only [UAdj, List.mem_append]
  exact or_or_or_comm

theorem uadj_flatMap {α : Type} {l : List α} {f : α → List (Nat × Nat)} {u v : Nat} :
    UAdj (l.flatMap f) u v ↔ ∃ c ∈ l, UAdj (f c) u v := by
  simp only [UAdj, List.mem_flatMap, ← exists_or, ← and_or_left]

/-- one pass of the component loop joins any two different nodes of component ∪ parents; the pair
    (parent, member) is stored as (member, parent) only -/
theorem uadj_compEdges {G : MG} {c : List Nat} {u v : Nat} :
    UAdj (compEdges G c) u v ↔
      u ≠ v ∧ (u ∈ c ∨ u ∈ allParents G c) ∧ (v ∈ c ∨ v ∈ allParents G c) := by
  simp only [UAdj, compEdges, List.mem_append, mem_pairsOf, mem_nodeParent]
  constructor
  · rintro (((⟨h1, h2, h3⟩ | ⟨h1, h2, h3⟩) | ⟨h1, h2, h3⟩) |
      ((⟨h1, h2, h3⟩ | ⟨h1, h2, h3⟩) | ⟨h1, h2, h3⟩))
    · exact ⟨Ne.symm h3, Or.inl h1, Or.inl h2⟩
    · exact ⟨Ne.symm h3, Or.inl h1, Or.inr h2⟩
    · exact ⟨Ne.symm h3, Or.inr h1, Or.inr h2⟩
    · exact ⟨h3, Or.inl h2, Or.inl h1⟩
    · exact ⟨h3, Or.inr h2, Or.inl h1⟩
    · exact ⟨h3, Or.inr h2, Or.inr h1⟩
  · rintro ⟨hne, hu | hu, hv | hv⟩
    · exact Or.inl (Or.inl (Or.inl ⟨hu, hv, Ne.symm hne⟩))
    · exact Or.inl (Or.inl (Or.inr ⟨hu, hv, Ne.symm hne⟩))
    · exact Or.inr (Or.inl (Or.inr ⟨hv, hu, hne⟩))
    · exact Or.inl (Or.inr ⟨hu, hv, Ne.symm hne⟩)

theorem compsFrom_sub (G : MG) : ∀ (l seen : List Nat) (c : List Nat),
    c ∈ compsFrom G l seen → ∃ v ∈ l, c = bicomp G v
  | [], _, c, h => by simp [compsFrom] at h
  | v :: rest, seen, c, h => by
    unfold compsFrom at h
    split at h
    · obtain ⟨w, hw, hc⟩ := compsFrom_sub G rest seen c h
      exact ⟨w, List.mem_cons_of_mem _ hw, hc⟩
    · rcases List.mem_cons.mp h with rfl | h
      · exact ⟨v, List.mem_cons_self, rfl⟩
      · obtain ⟨w, hw, hc⟩ := compsFrom_sub G rest _ c h
        exact ⟨w, List.mem_cons_of_mem _ hw, hc⟩

theorem compsFrom_cover (G : MG) : ∀ (l seen : List Nat) (v : Nat), v ∈ l → v ∈ G.nodes →
    v ∈ seen ∨ ∃ c ∈ compsFrom G l seen, v ∈ c
  | [], _, v, h, _ => by cases h
  | w :: rest, seen, v, h, hv => by
    unfold compsFrom
    rcases List.mem_cons.mp h with rfl | h
    · split
      · rename_i hs; exact Or.inl hs
      · exact Or.inr ⟨bicomp G v, List.mem_cons_self, mem_bicomp.mpr ⟨hv, Reach.refl v⟩⟩
    · split
      · exact compsFrom_cover G rest seen v h hv
      · rcases compsFrom_cover G rest (bicomp G w ++ seen) v h hv with h1 | ⟨c, hc, hvc⟩
        · rcases List.mem_append.mp h1 with h1 | h1
          · exact Or.inr ⟨bicomp G w, List.mem_cons_self, h1⟩
          · exact Or.inl h1
        · exact Or.inr ⟨c, List.mem_cons_of_mem _ hc, hvc⟩

theorem comps_spec (G : MG) :
    (∀ c ∈ comps G, ∃ r ∈ G.nodes, c = bicomp G r) ∧
    (∀ v ∈ G.nodes, ∃ c ∈ comps G, v ∈ c) := by
  refine ⟨fun c hc => compsFrom_sub G _ _ c hc, fun v hv => ?_⟩
  rcases compsFrom_cover G G.nodes [] v hv hv with h | h
  · cases h
  · exact h

theorem mem_district_iff {G : MG} {r u : Nat} (hr : r ∈ G.nodes) :
    (u ∈ bicomp G r ∨ u ∈ allParents G (bicomp G r)) ↔ InDP G r u := by
  simp only [InDP, mem_allParents, mem_bicomp, hr, true_and]

theorem compLoop_adj {G : MG} {u v : Nat} :
    UAdj ((comps G).flatMap (compEdges G)) u v ↔
      u ≠ v ∧ ∃ r ∈ G.nodes, InDP G r u ∧ InDP G r v := by
  obtain ⟨hsub, hcov⟩ := comps_spec G
  rw [uadj_flatMap]
  constructor
  · rintro ⟨c, hc, h⟩
    obtain ⟨r, hr, rfl⟩ := hsub c hc
    obtain ⟨hne, hu, hv⟩ := uadj_compEdges.mp h
    exact ⟨hne, r, hr, (mem_district_iff hr).mp hu, (mem_district_iff hr).mp hv⟩
  · rintro ⟨hne, r, hr, hu, hv⟩
    -- the scan may have entered the district of `r` at another node `r'`
    obtain ⟨c, hc, hrc⟩ := hcov r hr
    obtain ⟨r', hr', rfl⟩ := hsub c hc
    have hreach : BReach G r' r := (mem_bicomp.mp hrc).2
    exact ⟨_, hc, uadj_compEdges.mpr ⟨hne, (mem_district_iff hr').mpr (hu.of_reach hreach),
      (mem_district_iff hr').mpr (hv.of_reach hreach)⟩⟩

theorem adj_iff {G : MG} {u v : Nat} :
    Adj G u v ↔ ((UAdj G.dir u v ∨ UAdj G.bi u v) ∨ UAdj G.un u v) := by
  constructor
  · rintro ⟨mu, mv, ⟨_, _, h⟩ | ⟨_, _, h⟩ | ⟨_, _, h⟩ | ⟨_, _, h⟩⟩
    · exact Or.inl (Or.inl (Or.inl h))
    · exact Or.inl (Or.inl (Or.inr h))
    · exact Or.inl (Or.inr h)
    · exact Or.inr h
  · rintro (((h | h) | h) | h)
    · exact ⟨.tail, .head, Or.inl ⟨rfl, rfl, h⟩⟩
    · exact ⟨.head, .tail, Or.inr (Or.inl ⟨rfl, rfl, h⟩)⟩
    · exact ⟨.head, .head, Or.inr (Or.inr (Or.inl ⟨rfl, rfl, h⟩))⟩
    · exact ⟨.tail, .tail, Or.inr (Or.inr (Or.inr ⟨rfl, rfl, h⟩))⟩

theorem adj_iff_base {G : MG} {u v : Nat} : Adj G u v ↔ UAdj (baseEdges G) u v := by
  rw [adj_iff, or_comm, ← or_assoc, baseEdges, uadj_append, uadj_append]

theorem moral_adj_district {G : MG} {u v : Nat} :
    UAdj (moralEdges G) u v ↔
      (Adj G u v ∨ (u ≠ v ∧ ∃ r ∈ G.nodes, InDP G r u ∧ InDP G r v)) := by
  rw [adj_iff_base, ← compLoop_adj]
  exact uadj_append

end C12
