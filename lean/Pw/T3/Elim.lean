import Pw.T3.Bucket
open Closure

/-! # T3: sinks relative to a set `A` of alive nodes; the key lemma `qc`

`GSink G A t`: `t ∈ A` has no `G`-child in `A`.  `Elig G A t`: moreover the neighbours of `t` in `A`
are pairwise adjacent (an "eligible sink" of the induced subgraph in the Dor–Tarsi sense, in a graph
without v-structures). -/
namespace T3
open C08 MG

variable {G D : MG}

def GSink (G : MG) (A : List Nat) (t : Nat) : Prop := t ∈ A ∧ ∀ c ∈ A, (t, c) ∉ G.dir

def Elig (G : MG) (A : List Nat) (t : Nat) : Prop :=
  GSink G A t ∧ ∀ u ∈ A, ∀ w ∈ A, Skel G t u → Skel G t w → u ≠ w → Skel G u w

theorem GSink.parent_or_un {A : List Nat} {t u : Nat} (ht : GSink G A t) (hu : u ∈ A) (hs : Skel G t u) :
    (u, t) ∈ G.dir ∨ HasUn G t u :=
  (skel_cases hs).resolve_left (ht.2 u hu)

def NoV (G : MG) (A : List Nat) : Prop :=
  ∀ p ∈ A, ∀ x ∈ A, ∀ p' ∈ A, ¬ C08.VStruct G p x p'

def rm (A : List Nat) (s : Nat) : List Nat := A.filter (· != s)

theorem mem_rm {A : List Nat} {s v : Nat} : v ∈ rm A s ↔ v ∈ A ∧ v ≠ s := by
  simp [rm]

theorem length_rm_lt {A : List Nat} {s : Nat} (h : s ∈ A) : (rm A s).length < A.length :=
  List.length_filter_lt_length_iff_exists.mpr ⟨s, h, by simp⟩

theorem rm_induction {P : List Nat → Prop} (step : ∀ A, (∀ s ∈ A, P (rm A s)) → P A) (A : List Nat) :
    P A :=
  step A fun s _ => rm_induction step (rm A s)
termination_by A.length
decreasing_by exact length_rm_lt ‹_›

theorem NoV.rm {A : List Nat} (h : NoV G A) (s : Nat) : NoV G (rm A s) :=
  fun p hp x hx p' hp' => h p (mem_rm.mp hp).1 x (mem_rm.mp hx).1 p' (mem_rm.mp hp').1

theorem Elig.of_rm {A : List Nat} {s t : Nat} (h : Elig G (rm A s) t) (hn : ¬ Skel G t s) :
    Elig G A t := by
  have back : ∀ u ∈ A, Skel G t u → u ∈ rm A s := fun u hu htu =>
    mem_rm.mpr ⟨hu, fun e => hn (e ▸ htu)⟩
  exact ⟨⟨(mem_rm.mp h.1.1).1, fun c hc e => h.1.2 c (back c hc (skel_of_dir e)) e⟩,
    fun u hu w hw htu htw => h.2 u (back u hu htu) w (back w hw htw) htu htw⟩

/-- a sink of `D` within `A`: its neighbours in `A` are its `D`-parents, and two non-adjacent ones would
    form a v-structure -/
theorem Ctx.exists_elig (h : Ctx G D) {A : List Nat} (hv : NoV G A) (hne : A ≠ []) :
    ∃ s, Elig G A s := by
  obtain ⟨s, hs, hsink⟩ := C05.exists_sink D h.ext.acyclic A hne
  refine ⟨s, ⟨hs, fun c hc e => hsink c hc (h.sub e)⟩, ?_⟩
  intro u hu w hw hsu hsw huw
  have into : ∀ y ∈ A, Skel G s y → (y, s) ∈ D.dir := fun y hy hsy =>
    (ext_dir_of_skel h.ext hsy).resolve_left (hsink y hy)
  exact Classical.byContradiction fun hn =>
    hv u hu s hs w hw (h.vstruct_of_ext (into u hu hsu) (into w hw hsw) huw hn)

def drIn (G : MG) (A : List Nat) (a b : Nat) : Prop := (a, b) ∈ G.dir ∧ b ∈ A

theorem tc_drIn_mem {A : List Nat} {a b : Nat} (h : TC (drIn G A) a b) : b ∈ A := by
  cases h with
  | base e => exact e.2
  | snoc _ e => exact e.2

theorem tc_drIn_dr {A : List Nat} {a b : Nat} (h : TC (drIn G A) a b) : TC (dr G) a b :=
  h.mono fun _ _ e => e.1

open Classical in
theorem Ctx.reach_sink (h : Ctx G D) {A : List Nat} {u : Nat} (hu : u ∈ A) :
    ∃ t, GSink G A t ∧ (u = t ∨ TC (drIn G A) u t) := by
  -- a sink of `G` among the nodes reachable from `u`
  let R := A.filter fun v => decide (u = v ∨ TC (drIn G A) u v)
  have hR : ∀ v, v ∈ R ↔ v ∈ A ∧ (u = v ∨ TC (drIn G A) u v) := fun v => by
    simp only [R, List.mem_filter, decide_eq_true_eq]
  have huR : u ∈ R := (hR u).mpr ⟨hu, Or.inl rfl⟩
  obtain ⟨t, ht, hsink⟩ := C05.exists_sink G (acyclic_of_ext h.ext) R (List.ne_nil_of_mem huR)
  obtain ⟨htA, hr⟩ := (hR t).mp ht
  exact ⟨t, ⟨htA, fun c hc e => hsink c ((hR c).mpr ⟨hc, Or.inr (TC.snoc' hr ⟨e, hc⟩)⟩) e⟩, hr⟩

theorem crossing {A : List Nat} {P : Nat → Prop} {u t : Nat} (hu : u ∈ A) (hp : TC (drIn G A) u t)
    (hnu : ¬ P u) (ht : P t) :
    ∃ w l, (u = w ∨ TC (dr G) u w) ∧ w ∈ A ∧ l ∈ A ∧ ¬ P w ∧ P l ∧ (w, l) ∈ G.dir := by
  obtain ⟨w, l, huw, hw, hl, e⟩ := hp.crossing hnu ht
  refine ⟨w, l, huw.imp_right tc_drIn_dr, ?_, e.2, hw, hl, e.1⟩
  rcases huw with rfl | huw
  · exact hu
  · exact tc_drIn_mem huw

/-- for the second case of `qc`: the neighbours in `A` of the sink `t0` are neighbours of `s` -/
theorem Ctx.caseB (h : Ctx G D) {A : List Nat} {s t0 u : Nat} (hs : GSink G A s)
    (hall : ∀ t1, GSink G (rm A s) t1 → Skel G s t1) (ht0 : GSink G A t0) (hst : HasUn G s t0)
    (huA : u ∈ A) (hus : u ≠ s) (htu : Skel G t0 u) : Skel G s u := by
  apply Classical.byContradiction
  intro hn
  have hn' : ¬ Skel G u s := fun a => hn a.symm
  have htu' : HasUn G t0 u := (ht0.parent_or_un huA htu).resolve_left fun a => hn' (h.r1 a hst.symm)
  -- walk from `u` inside `A − s` to a sink `t'`, which is adjacent to `s`; `w -> l` is the step at
  -- which the walk first meets a neighbour of `s`
  have hu' : u ∈ rm A s := mem_rm.mpr ⟨huA, hus⟩
  obtain ⟨t', ht', hr⟩ := h.reach_sink hu'
  rcases hr with rfl | hr
  · exact hn (hall _ ht')
  obtain ⟨w, l, huw, hw, hl, hnw, hsl, hwl⟩ := crossing (P := fun v => Skel G s v) hu' hr hn (hall _ ht')
  have hnw' : ¬ Skel G w s := fun a => hnw a.symm
  have hul : TC (dr G) u l := TC.snoc' huw hwl
  have hls : (l, s) ∈ G.dir :=
    (hs.parent_or_un (mem_rm.mp hl).1 hsl).resolve_right fun a => hnw' (h.r1 hwl a.symm)
  rcases h.parent_or_un hls hst with a | a
  · rcases h.parent_or_un a htu' with b | b
    · exact h.no_cycle u (TC.snoc hul b)
    · exact h.chain hul b.symm
  · rcases h.parent_or_un hwl a with b | b
    · exact hnw' (h.r1 b hst.symm)
    · exact h.r4 (mem_rm.mp hw).2 b.symm hwl hls hnw' hst.symm

/-- In a set `A` without v-structures, if some `G`-sink of `A` lies outside the clique
    `C`, then some eligible sink of `A` lies outside `C`. -/
theorem Ctx.qc (h : Ctx G D) {A : List Nat} (hv : NoV G A) {C : Nat → Prop}
    (hC : ∀ u w, C u → C w → u ≠ w → Skel G u w) {t0 : Nat} (ht0 : GSink G A t0) (hCt0 : ¬ C t0) :
    ∃ t, Elig G A t ∧ ¬ C t := by
  induction A using rm_induction generalizing C t0 with
  | step A ih =>
    obtain ⟨s, hsE⟩ := h.exists_elig hv (List.ne_nil_of_mem ht0.1)
    by_cases hCs : C s
    case neg => exact ⟨s, hsE, hCs⟩
    have hs0 : t0 ≠ s := fun e => hCt0 (e ▸ hCs)
    by_cases hA : ∃ t1, GSink G (rm A s) t1 ∧ ¬ Skel G s t1
    · -- an eligible sink of `A − s` outside the neighbourhood of `s` is eligible in `A`
      obtain ⟨t1, ht1, hn1⟩ := hA
      obtain ⟨t, htE, hCt⟩ := ih s hsE.1.1 (hv.rm s) (C := fun v => v ∈ A ∧ Skel G s v)
        (fun u w hu hw huw => hsE.2 u hu.1 w hw.1 hu.2 hw.2 huw) ht1 (fun a => hn1 a.2)
      obtain ⟨htA, hts⟩ := mem_rm.mp htE.1.1
      have hnts : ¬ Skel G t s := fun a => hCt ⟨htA, a.symm⟩
      exact ⟨t, htE.of_rm hnts, fun a => hnts (hC t s a hCs hts)⟩
    · -- all sinks of `A − s` are neighbours of `s`: `t0` itself is eligible
      have hall : ∀ t1, GSink G (rm A s) t1 → Skel G s t1 := fun t1 ht1 =>
        Classical.byContradiction fun hn => hA ⟨t1, ht1, hn⟩
      have ht0' : GSink G (rm A s) t0 :=
        ⟨mem_rm.mpr ⟨ht0.1, hs0⟩, fun c hc => ht0.2 c (mem_rm.mp hc).1⟩
      have hst : HasUn G s t0 :=
        (hsE.1.parent_or_un ht0.1 (hall t0 ht0')).resolve_left (ht0.2 s hsE.1.1)
      have nb : ∀ u ∈ A, u ≠ s → Skel G t0 u → Skel G s u := fun u hu hus htu =>
        h.caseB hsE.1 hall ht0 hst hu hus htu
      refine ⟨t0, ⟨ht0, ?_⟩, hCt0⟩
      intro u hu w hw htu htw huw
      by_cases hus : u = s
      · exact hus ▸ nb w hw (fun e => huw (hus.trans e.symm)) htw
      · by_cases hws : w = s
        · exact hws ▸ (nb u hu hus htu).symm
        · exact hsE.2 u hu w hw (nb u hu hus htu) (nb w hw hws htw) huw

end T3
