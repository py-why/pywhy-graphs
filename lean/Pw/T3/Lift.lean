import Pw.T3.Ext
open Closure

/-! # T3: re-orienting one bucket of a consistent extension

`Estar`: inside the bucket of `a0` use the orientation `E`, elsewhere keep `D`. -/
namespace T3
open C08 MG

variable {G D : MG}

def Estar (G D : MG) (a0 : Nat) (E : Nat → Nat → Prop) (x y : Nat) : Prop :=
  (UnConn G a0 x ∧ UnConn G a0 y ∧ E x y) ∨ (¬ (UnConn G a0 x ∧ UnConn G a0 y) ∧ (x, y) ∈ D.dir)

/-- an edge of `D` that enters the bucket is not undirected in `G`, hence directed, and parents from
    outside are uniform -/
theorem Ctx.enter_all (h : Ctx G D) {a0 p q q' : Nat} (hp : ¬ UnConn G a0 p) (hq : UnConn G a0 q)
    (e : (p, q) ∈ D.dir) (hq' : UnConn G a0 q') : (p, q') ∈ G.dir :=
  h.parent_bucket ((h.edge_cases e).resolve_right fun a => hp (hq.snoc a.symm))
    (fun c => hp (hq.trans c)) (hq.symm.trans hq')

theorem Ctx.estar_out (h : Ctx G D) {a0 : Nat} {E : Nat → Nat → Prop} {x y : Nat}
    (hx : ¬ UnConn G a0 x) (hp : TC (Estar G D a0 E) x y) : TC (dr D) x y := by
  induction hp with
  | base e =>
    rcases e with ⟨a, _, _⟩ | ⟨_, e⟩
    · exact absurd a hx
    · exact TC.base e
  | @snoc c y hxc e ih =>
    rcases e with ⟨hc, hy, _⟩ | ⟨_, e⟩
    · obtain ⟨p, q, hxp, hp, hq, hpq⟩ := ih.crossing hx hc
      exact TC.snoc' hxp (h.sub (h.enter_all hp hq hpq hy))
    · exact TC.snoc ih e

theorem estar_in {a0 : Nat} {E : Nat → Nat → Prop} {x y : Nat} (hx : UnConn G a0 x)
    (hp : TC (Estar G D a0 E) x y) :
    (UnConn G a0 y ∧ TC E x y) ∨
    ∃ w, ¬ UnConn G a0 w ∧ TC (Estar G D a0 E) x w ∧ (w = y ∨ TC (Estar G D a0 E) w y) := by
  have inside : ∀ {c y}, UnConn G a0 c → UnConn G a0 y → Estar G D a0 E c y → E c y :=
    fun hc hy e => (e.resolve_right fun n => n.1 ⟨hc, hy⟩).2.2
  induction hp with
  | @base y e =>
    by_cases hy : UnConn G a0 y
    · exact Or.inl ⟨hy, TC.base (inside hx hy e)⟩
    · exact Or.inr ⟨y, hy, TC.base e, Or.inl rfl⟩
  | @snoc c y hxc e ih =>
    rcases ih with ⟨hc, hlt⟩ | ⟨w, hw, hxw, hwc⟩
    · by_cases hy : UnConn G a0 y
      · exact Or.inl ⟨hy, TC.snoc hlt (inside hc hy e)⟩
      · exact Or.inr ⟨y, hy, TC.snoc hxc e, Or.inl rfl⟩
    · exact Or.inr ⟨w, hw, hxw, Or.inr (TC.snoc' hwc e)⟩

/-- a cycle through a node outside the bucket is a cycle of `D`, one inside the bucket a cycle of `E` -/
theorem Ctx.estar_acyclic (h : Ctx G D) {a0 : Nat} {E : Nat → Nat → Prop}
    (hac : ∀ x, ¬ TC E x x) (x : Nat) : ¬ TC (Estar G D a0 E) x x := by
  intro hp
  by_cases hx : UnConn G a0 x
  · rcases estar_in hx hp with ⟨_, hlt⟩ | ⟨w, hw, hxw, hwx⟩
    · exact hac x hlt
    · have hww : TC (Estar G D a0 E) w w := by
        rcases hwx with rfl | hwx
        · exact hxw
        · exact hwx.trans hxw
      exact h.no_cycleD w (h.estar_out hw hww)
  · exact h.no_cycleD x (h.estar_out hx hp)

/-- an acyclic, collider-free orientation of the skeleton inside the bucket of `a0` -/
structure BOr (G : MG) (a0 : Nat) (E : Nat → Nat → Prop) : Prop where
  dom : ∀ x y, E x y → Skel G x y
  total : ∀ x y, UnConn G a0 x → UnConn G a0 y → Skel G x y → E x y ∨ E y x
  acyc : ∀ x, ¬ TC E x x
  nocoll : ∀ x y z, E x z → E y z → x ≠ y → Skel G x y

theorem tc_rank {E : Nat → Nat → Prop} {r : Nat → Nat} (hr : ∀ x y, E x y → r y < r x) {x y : Nat}
    (h : TC E x y) : r y < r x := by
  induction h with
  | base e => exact hr _ _ e
  | snoc _ e ih => exact Nat.lt_trans (hr _ _ e) ih

theorem ExtOn.bor {a0 : Nat} {A : List Nat} {E : Nat → Nat → Prop} (hE : ExtOn G A E)
    (hA : ∀ x y, UnConn G a0 x → UnConn G a0 y → Skel G x y → x ∈ A ∧ y ∈ A) : BOr G a0 E := by
  obtain ⟨r, hr⟩ := hE.rank
  exact ⟨fun x y e => (hE.dom x y e).2.2,
    fun x y hx hy hs => hE.total x (hA x y hx hy hs).1 y (hA x y hx hy hs).2 hs,
    fun x c => Nat.lt_irrefl _ (tc_rank hr c), hE.nocoll⟩

section
variable {a0 : Nat} {E : Nat → Nat → Prop}

theorem Ctx.estar_skel (h : Ctx G D) (hE : BOr G a0 E) {x y : Nat} (e : Estar G D a0 E x y) :
    Skel G x y := by
  rcases e with ⟨_, _, e⟩ | ⟨_, e⟩
  · exact hE.dom x y e
  · exact h.skelD e

theorem Ctx.estar_total (h : Ctx G D) (hE : BOr G a0 E) {x y : Nat} (hs : Skel G x y) :
    Estar G D a0 E x y ∨ Estar G D a0 E y x := by
  by_cases hb : UnConn G a0 x ∧ UnConn G a0 y
  · rcases hE.total x y hb.1 hb.2 hs with e | e
    · exact Or.inl (Or.inl ⟨hb.1, hb.2, e⟩)
    · exact Or.inr (Or.inl ⟨hb.2, hb.1, e⟩)
  · rcases ext_dir_of_skel h.ext hs with e | e
    · exact Or.inl (Or.inr ⟨hb, e⟩)
    · exact Or.inr (Or.inr ⟨fun c => hb ⟨c.2, c.1⟩, e⟩)

theorem Ctx.estar_coll (h : Ctx G D) (hE : BOr G a0 E) {x y z : Nat} (e1 : Estar G D a0 E x z)
    (e2 : Estar G D a0 E y z) (hxy : x ≠ y) (hn : ¬ Skel G x y) : C08.VStruct G x z y := by
  rcases e1 with ⟨hx, hz, e1⟩ | ⟨n1, e1⟩ <;> rcases e2 with ⟨hy, hz', e2⟩ | ⟨n2, e2⟩
  · exact absurd (hE.nocoll x y z e1 e2 hxy) hn
  · have hy : ¬ UnConn G a0 y := fun c => n2 ⟨c, hz⟩
    exact absurd (skel_of_dir' (h.enter_all hy hz e2 hx)) hn
  · have hx : ¬ UnConn G a0 x := fun c => n1 ⟨c, hz'⟩
    exact absurd (skel_of_dir (h.enter_all hx hz' e1 hy)) hn
  · exact h.vstruct_of_ext e1 e2 hxy hn

open Classical in
/-- the DAG whose edges are the pairs in `Estar` -/
noncomputable def liftDag (G D : MG) (a0 : Nat) (E : Nat → Nat → Prop) : MG :=
  { nodes := G.nodes
    dir := (D.dir ++ D.dir.map Prod.swap).filter fun e => decide (Estar G D a0 E e.1 e.2) }

theorem Ctx.mem_lift (h : Ctx G D) (hE : BOr G a0 E) {x y : Nat} :
    (x, y) ∈ (liftDag G D a0 E).dir ↔ Estar G D a0 E x y := by
  simp only [liftDag, List.mem_filter, decide_eq_true_eq, List.mem_append, List.mem_map]
  constructor
  · exact fun c => c.2
  · intro e
    refine ⟨?_, e⟩
    rcases ext_dir_of_skel h.ext (h.estar_skel hE e) with c | c
    · exact Or.inl c
    · exact Or.inr ⟨(y, x), c, rfl⟩

theorem Ctx.lift_skel (h : Ctx G D) (hE : BOr G a0 E) (x y : Nat) :
    Skel (liftDag G D a0 E) x y ↔ Skel G x y := by
  constructor
  · intro c
    rcases skel_cases c with c | c | c
    · exact h.estar_skel hE ((h.mem_lift hE).mp c)
    · exact (h.estar_skel hE ((h.mem_lift hE).mp c)).symm
    · rcases c with c | c <;> cases c
  · intro c
    rcases h.estar_total hE c with e | e
    · exact Or.inl ((h.mem_lift hE).mpr e)
    · exact Or.inr (Or.inl ((h.mem_lift hE).mpr e))

theorem Ctx.lift_ext_gen (h : Ctx G D) (hE : BOr G a0 E) (P : MG) (hnodes : P.nodes = G.nodes)
    (hskel : ∀ a b, Skel P a b ↔ Skel G a b)
    (hvs : ∀ a c b, C08.VStruct P a c b ↔ C08.VStruct G a c b)
    (hkeep : ∀ x y, (x, y) ∈ P.dir → Estar G D a0 E x y) :
    ConsistentExt P (liftDag G D a0 E) := by
  refine ⟨hnodes.symm, rfl, ?_, fun a b => (h.lift_skel hE a b).trans (hskel a b).symm,
    fun e he => (h.mem_lift hE).mpr (hkeep e.1 e.2 he), ?_⟩
  · exact acyclic_of_no_cycle fun a hp =>
      h.estar_acyclic hE.acyc a (hp.mono fun _ _ c => (h.mem_lift hE).mp c)
  · intro a c b
    rw [hvs a c b]
    constructor
    · rintro ⟨h1, h2, hab, hn⟩
      exact h.estar_coll hE ((h.mem_lift hE).mp h1) ((h.mem_lift hE).mp h2) hab
        fun s => hn ((h.lift_skel hE a b).mpr s)
    · intro hv
      obtain ⟨h1, h2, hab, hn⟩ := (hvs a c b).mpr hv
      exact ⟨(h.mem_lift hE).mpr (hkeep _ _ h1), (h.mem_lift hE).mpr (hkeep _ _ h2),
        hab, fun s => hv.2.2.2 ((h.lift_skel hE a b).mp s)⟩

theorem Ctx.lift_ext (h : Ctx G D) {A : List Nat} (hE : ExtOn G A E)
    (hA : ∀ x y, UnConn G a0 x → UnConn G a0 y → Skel G x y → x ∈ A ∧ y ∈ A) :
    ConsistentExt G (liftDag G D a0 E) := by
  refine h.lift_ext_gen (hE.bor hA) G rfl (fun _ _ => Iff.rfl) (fun _ _ _ => Iff.rfl) ?_
  intro x y e
  by_cases hb : UnConn G a0 x ∧ UnConn G a0 y
  · obtain ⟨hx, hy⟩ := hA x y hb.1 hb.2 (skel_of_dir e)
    exact Or.inl ⟨hb.1, hb.2, hE.keeps x hx y hy e⟩
  · exact Or.inr ⟨hb, h.sub e⟩

end

end T3
