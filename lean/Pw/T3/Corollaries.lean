import Pw.T3.C04
import Pw.C05.RoundTrip
import Pw.C09.Cond
import Pw.C08.Full
import Pw.C04.Decider

/-! # The theorems of C04, C05, C08, C09 that are conditional on T3, with the hypothesis discharged -/
namespace T3

/-- C05: `pdag_to_dag (dag_to_cpdag D)` is a DAG Markov equivalent to D. -/
theorem c05_roundtrip : type_of% (@C05.roundtrip_of_T3 T3.c04_T3) := @C05.roundtrip_of_T3 T3.c04_T3

/-- C05: `pdag_to_cpdag` maps the CPDAG of a DAG to itself. -/
theorem c05_pdagToCpdag_fixpoint : type_of% (@C05.pdagToCpdag_fixpoint_of_T3 T3.c04_T3) := @C05.pdagToCpdag_fixpoint_of_T3 T3.c04_T3

/-- C04: equal CPDAGs iff Markov equivalent. -/
theorem c04_markov' : type_of% (@C04.C04_markov_of_T3 T3.c04_T3) := @C04.C04_markov_of_T3 T3.c04_T3

/-- C04: the model equals the brute-force essential-graph decider. -/
theorem c04_model_eq_essentialDec : type_of% (@C04.model_eq_essentialDec_of_T3 T3.c04_T3) := @C04.model_eq_essentialDec_of_T3 T3.c04_T3

/-- C08: the full statement (soundness + completeness on patterns + termination). -/
theorem c08_full : C08.C08_full := C08.C08_full_of_T3 T3.meekT3

/-- C09: the orient-one-edge / Meek-closure loop returns an acyclic orientation without unshielded
    colliders whenever the circle component admits one. -/
theorem c09_orientLoop_dag : type_of% (@C09.orientLoop_dag_of_T3 T3.meekT3) := @C09.orientLoop_dag_of_T3 T3.meekT3

theorem c09_circle_component : type_of% (@C09.pagToMag_circle_component_of_T3 T3.meekT3) := @C09.pagToMag_circle_component_of_T3 T3.meekT3

end T3
