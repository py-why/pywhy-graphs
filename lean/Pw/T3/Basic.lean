import Pw.C08.Complete
import Pw.C05.Complete
open Closure

/-! # T3 (Meek's completeness theorem): structural lemmas about a closed PDAG

Throughout (`Ctx G D`): a simple PDAG `G` closed under R1–R4 together with a consistent extension `D`.
Directed paths are `TC (dr G)`, the transitive closure of the edge relation. -/
namespace T3
open C08 MG

structure Ctx (G D : MG) : Prop where
  simple : Simple G
  ext : ConsistentExt G D
  closed : MeekClosed G

variable {G D : MG}

theorem Ctx.irrefl (h : Ctx G D) (a : Nat) : ¬ Skel G a a := irrefl_of_ext h.ext a

theorem Ctx.sub (h : Ctx G D) {a b : Nat} (e : (a, b) ∈ G.dir) : (a, b) ∈ D.dir := h.ext.dir _ e

theorem Ctx.skelD (h : Ctx G D) {a b : Nat} (e : (a, b) ∈ D.dir) : Skel G a b :=
  (h.ext.skel a b).mp (Or.inl e)

theorem Ctx.asymD (h : Ctx G D) {a b : Nat} (e : (a, b) ∈ D.dir) : (b, a) ∉ D.dir :=
  no_two_cycle h.ext.acyclic e

theorem Ctx.asym (h : Ctx G D) {a b : Nat} (e : (a, b) ∈ G.dir) : (b, a) ∉ G.dir :=
  fun e' => h.asymD (h.sub e) (h.sub e')

theorem Ctx.dir_not_un (h : Ctx G D) {a b : Nat} (e : (a, b) ∈ G.dir) : ¬ HasUn G a b := by
  rintro (u | u)
  · exact (h.simple a b e).1 u
  · exact (h.simple a b e).2 u

theorem Ctx.dir_not_un' (h : Ctx G D) {a b : Nat} (e : (a, b) ∈ G.dir) : ¬ HasUn G b a :=
  fun u => h.dir_not_un e u.symm

theorem skel_cases {a b : Nat} (h : Skel G a b) : (a, b) ∈ G.dir ∨ (b, a) ∈ G.dir ∨ HasUn G a b := h

theorem skel_of_dir {a b : Nat} (h : (a, b) ∈ G.dir) : Skel G a b := Or.inl h
theorem skel_of_dir' {a b : Nat} (h : (a, b) ∈ G.dir) : Skel G b a := Or.inr (Or.inl h)

theorem Ctx.r1 (h : Ctx G D) {k i j : Nat} (hk : (k, i) ∈ G.dir) (hu : HasUn G i j) : Skel G k j :=
  Classical.byContradiction fun hn => (h.closed i j hu).1 ⟨k, hk, hn⟩

theorem Ctx.r2 (h : Ctx G D) {i k j : Nat} (h1 : (i, k) ∈ G.dir) (h2 : (k, j) ∈ G.dir) : ¬ HasUn G i j :=
  fun hu => (h.closed i j hu).2.1 ⟨k, h1, h2⟩

theorem Ctx.r3 (h : Ctx G D) {i j k l : Nat} (hkl : k ≠ l) (h1 : HasUn G i k) (h2 : HasUn G i l)
    (h3 : (k, j) ∈ G.dir) (h4 : (l, j) ∈ G.dir) (hn : ¬ Skel G k l) : ¬ HasUn G i j :=
  fun hu => (h.closed i j hu).2.2.1 ⟨k, l, hkl, h1, h2, h3, h4, hn⟩

theorem Ctx.r4 (h : Ctx G D) {i j k l : Nat} (hkj : k ≠ j) (h1 : HasUn G i k)
    (h2 : (k, l) ∈ G.dir) (h3 : (l, j) ∈ G.dir) (hn : ¬ Skel G k j) : ¬ HasUn G i j :=
  fun hu => (h.closed i j hu).2.2.2 ⟨k, l, hkj, h1, h2, h3, hn⟩

/-- R1 and R2 together -/
theorem Ctx.parent_or_un (h : Ctx G D) {k i j : Nat} (hk : (k, i) ∈ G.dir) (hu : HasUn G i j) :
    (k, j) ∈ G.dir ∨ HasUn G k j := by
  rcases skel_cases (h.r1 hk hu) with a | a | a
  · exact Or.inl a
  · exact absurd hu.symm (h.r2 a hk)
  · exact Or.inr a

theorem Ctx.edge_cases (h : Ctx G D) {a b : Nat} (e : (a, b) ∈ D.dir) :
    (a, b) ∈ G.dir ∨ HasUn G a b := by
  rcases skel_cases (h.skelD e) with c | c | c
  · exact Or.inl c
  · exact absurd (h.sub c) (h.asymD e)
  · exact Or.inr c

theorem Ctx.vstruct_of_ext (h : Ctx G D) {a c b : Nat} (e1 : (a, c) ∈ D.dir) (e2 : (b, c) ∈ D.dir)
    (hab : a ≠ b) (hn : ¬ Skel G a b) : C08.VStruct G a c b :=
  (h.ext.vstruct a c b).mp ⟨e1, e2, hab, fun s => hn ((h.ext.skel a b).mp s)⟩

inductive TC (R : Nat → Nat → Prop) : Nat → Nat → Prop
  | base {a b : Nat} : R a b → TC R a b
  | snoc {a b c : Nat} : TC R a b → R b c → TC R a c

theorem TC.trans {R : Nat → Nat → Prop} {a b c : Nat} (h1 : TC R a b) (h2 : TC R b c) : TC R a c := by
  induction h2 with
  | base e => exact TC.snoc h1 e
  | snoc _ e ih => exact TC.snoc ih e

theorem TC.cons {R : Nat → Nat → Prop} {a b c : Nat} (e : R a b) (h : TC R b c) : TC R a c :=
  (TC.base e).trans h

theorem TC.mono {R S : Nat → Nat → Prop} (hRS : ∀ a b, R a b → S a b) {a b : Nat} (h : TC R a b) :
    TC S a b := by
  induction h with
  | base e => exact TC.base (hRS _ _ e)
  | snoc _ e ih => exact TC.snoc ih (hRS _ _ e)

theorem TC.snoc' {R : Nat → Nat → Prop} {a b c : Nat} (h : a = b ∨ TC R a b) (e : R b c) : TC R a c := by
  rcases h with rfl | h
  · exact TC.base e
  · exact TC.snoc h e

theorem TC.crossing {R : Nat → Nat → Prop} {P : Nat → Prop} {u t : Nat} (hp : TC R u t) (hu : ¬ P u)
    (ht : P t) : ∃ w l, (u = w ∨ TC R u w) ∧ ¬ P w ∧ P l ∧ R w l := by
  induction hp with
  | base e => exact ⟨u, _, Or.inl rfl, hu, ht, e⟩
  | @snoc b c hub e ih =>
    by_cases hb : P b
    · exact ih hb
    · exact ⟨b, c, Or.inr hub, hb, ht, e⟩

def dr (G : MG) (a b : Nat) : Prop := (a, b) ∈ G.dir

theorem tc_anc {H : MG} {a b : Nat} (h : TC (dr H) a b) : Anc H a b := by
  induction h with
  | base e => exact Anc.step e (Anc.refl _)
  | snoc _ e ih => exact ih.tail e

theorem anc_tc {H : MG} {a b : Nat} (h : Anc H a b) : a = b ∨ TC (dr H) a b := by
  induction h with
  | refl => exact Or.inl rfl
  | step e _ ih =>
    rcases ih with rfl | ih
    · exact Or.inr (TC.base e)
    · exact Or.inr (TC.cons e ih)

theorem no_cycle_of_acyclic {H : MG} (hac : Acyclic H) (a : Nat) : ¬ TC (dr H) a a := by
  intro h
  cases h with
  | base e => exact hac a a e (Anc.refl _)
  | snoc hab e => exact hac _ a e (tc_anc hab)

theorem acyclic_of_no_cycle {H : MG} (h : ∀ a, ¬ TC (dr H) a a) : Acyclic H := by
  intro a b e hba
  rcases anc_tc hba with rfl | hp
  · exact h _ (TC.base e)
  · exact h a (TC.cons e hp)

theorem Ctx.no_cycleD (h : Ctx G D) (a : Nat) : ¬ TC (dr D) a a := no_cycle_of_acyclic h.ext.acyclic a

theorem Ctx.no_cycle (h : Ctx G D) (a : Nat) : ¬ TC (dr G) a a :=
  fun hc => h.no_cycleD a (hc.mono fun _ _ e => h.sub e)

theorem Ctx.chain (h : Ctx G D) {a x : Nat} (hp : TC (dr G) a x) : ¬ HasUn G a x := by
  induction hp with
  | base e => exact h.dir_not_un e
  | @snoc c x hac e ih =>
    intro hu
    rcases h.parent_or_un e hu.symm with hca | hu'
    · exact h.no_cycle a (TC.snoc hac hca)
    · exact ih hu'.symm

end T3
