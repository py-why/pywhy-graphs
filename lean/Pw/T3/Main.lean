import Pw.T3.Lift
open Closure

/-! # T3: Meek's completeness theorem (`C08.MeekT3`) and the unconditional corollaries -/
namespace T3
open C08 MG

variable {G D : MG}

open Classical in
/-- **both orientations**: in a closed PDAG with a consistent extension, every undirected edge
    `a - b` is oriented `b -> a` by some consistent extension -/
theorem Ctx.both_plain (h : Ctx G D) {a b : Nat} (hab : HasUn G a b) :
    ∃ D', ConsistentExt G D' ∧ (b, a) ∈ D'.dir ∧ D'.bi = [] ∧ D'.circ = [] := by
  -- the alive set: the nodes of the bucket of `a` that have an edge
  let A := (D.dir.flatMap fun e => [e.1, e.2]).filter fun v => decide (UnConn G a v)
  have hA : ∀ x y, UnConn G a x → UnConn G a y → Skel G x y → x ∈ A ∧ y ∈ A := by
    intro x y hx hy hs
    simp only [A, List.mem_filter, List.mem_flatMap, List.mem_cons, List.not_mem_nil, or_false,
      decide_eq_true_eq]
    rcases ext_dir_of_skel h.ext hs with e | e
    · exact ⟨⟨⟨_, e, Or.inl rfl⟩, hx⟩, ⟨⟨_, e, Or.inr rfl⟩, hy⟩⟩
    · exact ⟨⟨⟨_, e, Or.inr rfl⟩, hx⟩, ⟨⟨_, e, Or.inl rfl⟩, hy⟩⟩
  have hB : ∀ v ∈ A, UnConn G a v := fun v hv => of_decide_eq_true (List.mem_filter.mp hv).2
  have hv : NoV G A := fun p hp x hx p' _ hvs =>
    h.no_vstruct_bucket hvs ((hB x hx).symm.trans (hB p hp))
  have hBa : UnConn G a a := UnConn.refl a
  have hBb : UnConn G a b := UnConn.single hab
  obtain ⟨haA, hbA⟩ := hA a b hBa hBb hab.skel
  obtain ⟨E, hE, hba⟩ := (h.ext_rel hv).2 a haA b hbA hab
  exact ⟨liftDag G D a E, h.lift_ext hE hA, (h.mem_lift (hE.bor hA)).mpr (Or.inl ⟨hBb, hBa, hba⟩),
    rfl, rfl⟩

theorem Ctx.both (h : Ctx G D) {a b : Nat} (hab : HasUn G a b) :
    ∃ D', ConsistentExt G D' ∧ (b, a) ∈ D'.dir := by
  obtain ⟨D', h1, h2, _⟩ := h.both_plain hab
  exact ⟨D', h1, h2⟩

theorem ext_transfer {P G D : MG} (hD : ConsistentExt P D) (hnodes : G.nodes = P.nodes)
    (hskel : ∀ a b, Skel G a b ↔ Skel P a b) (hvs : ∀ a c b, C08.VStruct G a c b ↔ C08.VStruct P a c b)
    (hdir : ∀ e ∈ G.dir, e ∈ D.dir) : ConsistentExt G D :=
  ⟨hD.nodes.trans hnodes.symm, hD.noUn, hD.acyclic, fun a b => (hD.skel a b).trans (hskel a b).symm, hdir,
    fun a c b => (hD.vstruct a c b).trans (hvs a c b).symm⟩

/-- **Meek's completeness theorem** (Meek 1995, Thm 4; with background knowledge), in the form of
    the hypothesis `C08.MeekT3`. -/
theorem meekT3 : C08.MeekT3 := by
  intro P G _ ⟨D, hD⟩ hnodes hskel hsG hsub hcomp hclosed a b hu hc
  -- `D` extends `G` as well: the edges `G` adds to `P` are compelled, so they lie in `D` and form
  -- no new v-structure
  have hGsub : ∀ e ∈ G.dir, e ∈ D.dir := fun e he => (hcomp e he).elim (hD.dir e) fun c => c D hD
  have hvs : ∀ x z y, C08.VStruct G x z y ↔ C08.VStruct P x z y := by
    intro x z y
    constructor
    · rintro ⟨h1, h2, hxy, hn⟩
      exact (hD.vstruct x z y).mp
        ⟨hGsub _ h1, hGsub _ h2, hxy, fun s => hn ((hskel x y).mpr ((hD.skel x y).mp s))⟩
    · rintro ⟨h1, h2, hxy, hn⟩
      exact ⟨hsub _ h1, hsub _ h2, hxy, fun s => hn ((hskel x y).mp s)⟩
  have ctx : Ctx G D := ⟨hsG, ext_transfer hD hnodes hskel hvs hGsub, hclosed⟩
  obtain ⟨D', hD', hba⟩ := ctx.both hu
  have hPD' : ConsistentExt P D' := ext_transfer hD' hnodes.symm (fun x y => (hskel x y).symm)
    (fun x z y => (hvs x z y).symm) fun e he => hD'.dir e (hsub e he)
  exact no_two_cycle hD'.acyclic (hc D' hPD') hba

/-! ## unconditional versions of the conditional theorems of `C08/Complete.lean` -/

/-- **completeness of the Meek closure**: for a PDAG with a consistent extension the closure orients
    exactly the compelled undirected edges -/
theorem meek_complete (P : MG) (inner : List Nat) (hs : Simple P) (hwf : P.WF)
    (hext : ∃ D, ConsistentExt P D) (hin : inner.Nodup) (hcov : ∀ v ∈ P.nodes, v ∈ inner) (a b : Nat) :
    (a, b) ∈ (meek P inner).dir ↔ (a, b) ∈ P.dir ∨ (HasUn P a b ∧ Compelled P a b) :=
  meek_complete_of_T3 meekT3 P inner hs hwf hext hin hcov a b

/-- **C08, first sentence**: on the pattern of a DAG the closure returns the essential graph -/
theorem meek_pattern_essential (D Pt : MG) (inner : List Nat) (hd : IsDAG D) (hp : IsPattern D Pt)
    (hwf : Pt.WF) (hin : inner.Nodup) (hcov : ∀ v ∈ Pt.nodes, v ∈ inner) :
    IsEssential D Pt (meek Pt inner) :=
  meek_pattern_essential_of_T3 meekT3 D Pt inner hd hp hwf hin hcov

/-- **order independence** of the result of the closure -/
theorem meek_order_independent (P : MG) (inner₁ inner₂ : List Nat) (hs : Simple P) (hwf : P.WF)
    (hext : ∃ D, ConsistentExt P D) (h1 : inner₁.Nodup) (h2 : inner₂.Nodup)
    (c1 : ∀ v ∈ P.nodes, v ∈ inner₁) (c2 : ∀ v ∈ P.nodes, v ∈ inner₂) (a b : Nat) :
    ((a, b) ∈ (meek P inner₁).dir ↔ (a, b) ∈ (meek P inner₂).dir) ∧
    (HasUn (meek P inner₁) a b ↔ HasUn (meek P inner₂) a b) :=
  meek_order_independent_of_T3 meekT3 P inner₁ inner₂ hs hwf hext h1 h2 c1 c2 a b

end T3
