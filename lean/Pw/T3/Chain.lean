import Pw.T3.Main
open Closure

/-! # T3: the essential graph of a pattern is a chain graph

If all directed edges of the closed graph `G` are compelled in a *pattern* `P` (every directed edge of
`P` lies in a v-structure), then no directed edge of `G` joins two nodes of one bucket; hence
`w -> x - y` implies `w -> y` (Meek's Lemma 1), obtained here semantically from `Ctx.both`. -/
namespace T3
open C08 MG

variable {G D : MG}

open Classical in
/-- the edges of `D` inside the bucket of `a0`, as a DAG -/
noncomputable def bucketDag (G D : MG) (a0 : Nat) : MG :=
  { nodes := G.nodes, dir := D.dir.filter fun e => decide (UnConn G a0 e.1 ∧ UnConn G a0 e.2) }

/-- the same edges, undirected -/
noncomputable def bucketUn (G D : MG) (a0 : Nat) : MG :=
  { nodes := G.nodes, un := (bucketDag G D a0).dir }

theorem mem_bucketDag {a0 x y : Nat} :
    (x, y) ∈ (bucketDag G D a0).dir ↔ (x, y) ∈ D.dir ∧ UnConn G a0 x ∧ UnConn G a0 y := by
  simp [bucketDag]

theorem mem_bucketUn {a0 x y : Nat} :
    (x, y) ∈ (bucketUn G D a0).un ↔ (x, y) ∈ D.dir ∧ UnConn G a0 x ∧ UnConn G a0 y :=
  mem_bucketDag

theorem skel_bucketUn (h : Ctx G D) {a0 x y : Nat} :
    Skel (bucketUn G D a0) x y ↔ Skel G x y ∧ UnConn G a0 x ∧ UnConn G a0 y := by
  have hd : (bucketUn G D a0).dir = [] := rfl
  simp only [Skel, hd, List.not_mem_nil, false_or, mem_bucketUn]
  constructor
  · rintro (⟨e, hx, hy⟩ | ⟨e, hy, hx⟩)
    · exact ⟨h.skelD e, hx, hy⟩
    · exact ⟨(h.skelD e).symm, hx, hy⟩
  · rintro ⟨hs, hx, hy⟩
    rcases ext_dir_of_skel h.ext hs with e | e
    · exact Or.inl ⟨e, hx, hy⟩
    · exact Or.inr ⟨e, hy, hx⟩

theorem skel_bucketDag {a0 x y : Nat} :
    Skel (bucketDag G D a0) x y ↔ Skel (bucketUn G D a0) x y := by
  have h1 : (bucketDag G D a0).un = [] := rfl
  have h2 : (bucketUn G D a0).dir = [] := rfl
  simp only [Skel, h1, h2, List.not_mem_nil, or_false, false_or, mem_bucketDag, mem_bucketUn]

theorem not_mem_bucketUn_dir {a0 : Nat} (e : Nat × Nat) : e ∉ (bucketUn G D a0).dir :=
  List.not_mem_nil

/-- the undirected bucket with the restriction of `D` is again a closed PDAG with an extension: it has no
    directed edge, so nothing to keep and no rule to apply, and `D` has no v-structure inside a bucket -/
theorem Ctx.bucket_ctx (h : Ctx G D) (a0 : Nat) : Ctx (bucketUn G D a0) (bucketDag G D a0) := by
  refine ⟨fun a b e => absurd e (not_mem_bucketUn_dir _),
    ⟨rfl, rfl, ?_, fun a b => skel_bucketDag, fun e he => absurd he (not_mem_bucketUn_dir _), ?_⟩, ?_⟩
  · exact h.ext.acyclic.mono fun e he => (List.mem_filter.mp he).1
  · intro a c b
    constructor
    · rintro ⟨h1, h2, hab, hn⟩
      obtain ⟨e1, ha, hc⟩ := mem_bucketDag.mp h1
      obtain ⟨e2, hb, _⟩ := mem_bucketDag.mp h2
      have hv := h.vstruct_of_ext e1 e2 hab fun s =>
        hn (skel_bucketDag.mpr ((skel_bucketUn h).mpr ⟨s, ha, hb⟩))
      exact (h.no_vstruct_bucket hv (hc.symm.trans ha)).elim
    · exact fun hv => absurd hv.1 (not_mem_bucketUn_dir _)
  · intro i j _
    refine ⟨?_, ?_, ?_, ?_⟩
    · rintro ⟨_, e, _⟩; exact not_mem_bucketUn_dir _ e
    · rintro ⟨_, e, _⟩; exact not_mem_bucketUn_dir _ e
    · rintro ⟨_, _, _, _, _, e, _⟩; exact not_mem_bucketUn_dir _ e
    · rintro ⟨_, _, _, _, e, _⟩; exact not_mem_bucketUn_dir _ e

theorem Ctx.bor_of_bucket_ext (h : Ctx G D) {a0 : Nat} {D' : MG}
    (hD' : ConsistentExt (bucketUn G D a0) D') : BOr G a0 (dr D') := by
  have sk : ∀ x y, Skel D' x y → Skel G x y := fun x y s =>
    ((skel_bucketUn h).mp ((hD'.skel x y).mp s)).1
  refine ⟨fun x y e => sk x y (Or.inl e), ?_, no_cycle_of_acyclic hD'.acyclic, ?_⟩
  · intro x y hx hy hs
    exact ext_dir_of_skel hD' ((skel_bucketUn h).mpr ⟨hs, hx, hy⟩)
  · intro x y z e1 e2 hxy
    apply Classical.byContradiction
    intro hn
    exact not_mem_bucketUn_dir _ ((hD'.vstruct x z y).mp ⟨e1, e2, hxy, fun s => hn (sk x y s)⟩).1

theorem Ctx.no_dir_in_bucket (h : Ctx G D) {P : MG} (hP : ConsistentExt P D)
    (hnodes : P.nodes = G.nodes) (hskel : ∀ a b, Skel P a b ↔ Skel G a b)
    (hpat : ∀ a c, (a, c) ∈ P.dir → ∃ b, C08.VStruct P a c b)
    (hcomp : ∀ a b, (a, b) ∈ G.dir → Compelled P a b) {w x : Nat} (e : (w, x) ∈ G.dir) :
    ¬ UnConn G w x := by
  intro hc
  have hvs : ∀ a c b, C08.VStruct P a c b ↔ C08.VStruct G a c b := fun a c b =>
    (hP.vstruct a c b).symm.trans (h.ext.vstruct a c b)
  have hw : UnConn G w w := UnConn.refl w
  have hu : HasUn (bucketUn G D w) w x := Or.inl (mem_bucketUn.mpr ⟨h.sub e, hw, hc⟩)
  obtain ⟨D', hD', hxw⟩ := (h.bucket_ctx w).both hu
  have hB := h.bor_of_bucket_ext hD'
  have hext : ConsistentExt P (liftDag G D w (dr D')) := by
    refine h.lift_ext_gen hB P hnodes hskel hvs ?_
    intro a c hac
    obtain ⟨b, hv⟩ := hpat a c hac
    refine Or.inr ⟨fun hb => ?_, hP.dir _ hac⟩
    exact h.no_vstruct_bucket ((hvs a c b).mp hv) ((UnConn.symm hb.2).trans hb.1)
  have h1 : (w, x) ∈ (liftDag G D w (dr D')).dir := hcomp w x e _ hext
  have h2 : (x, w) ∈ (liftDag G D w (dr D')).dir := (h.mem_lift hB).mpr (Or.inl ⟨hc, hw, hxw⟩)
  exact no_two_cycle hext.acyclic h1 h2

/-- Meek's Lemma 1 for the essential graph of a pattern -/
theorem Ctx.chain_graph (h : Ctx G D) {P : MG} (hP : ConsistentExt P D)
    (hnodes : P.nodes = G.nodes) (hskel : ∀ a b, Skel P a b ↔ Skel G a b)
    (hpat : ∀ a c, (a, c) ∈ P.dir → ∃ b, C08.VStruct P a c b)
    (hcomp : ∀ a b, (a, b) ∈ G.dir → Compelled P a b) {w x y : Nat} (e : (w, x) ∈ G.dir)
    (hu : HasUn G x y) : (w, y) ∈ G.dir :=
  (h.parent_or_un e hu).resolve_right fun a =>
    h.no_dir_in_bucket hP hnodes hskel hpat hcomp e ((UnConn.single a).snoc hu.symm)

end T3
