import Pw.T3.LabelComplete
import Pw.C08.DecCorrect
open Closure

/-! # Soundness of `label_edges`: edges labelled compelled are compelled

The Meek closure `M` of the pattern of the DAG is its essential graph (by `T3.meekT3`); every edge labelled
compelled is directed in `M`. -/
namespace T3
open C04

variable {G : MG} {topo : List Nat}

theorem isDAG (hd : IsDag G) : C08.IsDAG G := ⟨hd.plain.1, hd.acyclic⟩

/-- the essential graph: Meek closure of the pattern -/
def ess (G : MG) (topo : List Nat) : MG := C08.meek (C08.patternOf G) topo

theorem patt_isPattern (hd : IsDag G) (hwf : G.WF) : C08.IsPattern G (C08.patternOf G) :=
  C08.patternOf_isPattern (isDAG hd) hwf

theorem patt_ext (hd : IsDag G) (hwf : G.WF) : C08.ConsistentExt (C08.patternOf G) G :=
  C08.ext_of_pattern (isDAG hd) (patt_isPattern hd hwf)

section
variable (hd : IsDag G) (hwf : G.WF) (ht : IsTopo G topo)
include hd hwf ht

theorem ess_steps : C08.Steps (C08.patternOf G) (ess G topo) :=
  C08.meek_steps (patt_isPattern hd hwf).simple ht.nodup

theorem ess_essential : C08.IsEssential G (C08.patternOf G) (ess G topo) :=
  meek_pattern_essential G (C08.patternOf G) topo (isDAG hd) (patt_isPattern hd hwf)
    (C08.patternOf_wf hwf) ht.nodup (fun v hv => (ht.nodes v).mpr hv)

theorem ess_ctx : Ctx (ess G topo) G := by
  have st := ess_steps hd hwf ht
  have hext := st.ext (patt_ext hd hwf)
  refine ⟨st.simple (patt_isPattern hd hwf).simple, hext, ?_⟩
  exact C08.closed_of_pass_false (inner := topo) (st.wf (C08.patternOf_wf hwf))
    (by rw [st.nodes]; exact fun v hv => (ht.nodes v).mpr hv) (C08.acyclic_of_ext hext)
    (C08.irrefl_of_ext hext) (by rw [ess, C08.meek_fixpoint (patt_isPattern hd hwf).simple ht.nodup])

theorem ess_chain {w x y : Nat} (e : (w, x) ∈ (ess G topo).dir) (hu : C08.HasUn (ess G topo) x y) :
    (w, y) ∈ (ess G topo).dir := by
  have st := ess_steps hd hwf ht
  refine (ess_ctx hd hwf ht).chain_graph (patt_ext hd hwf) st.nodes.symm (fun a b => (st.skel a b).symm)
    ?_ (fun a b hab => (((ess_essential hd hwf ht).dirIff a b).mp hab).2) e hu
  intro a c hac
  obtain ⟨b, hv⟩ := ((patt_isPattern hd hwf).dirIff a c).mp hac
  exact ⟨b, ((patt_ext hd hwf).vstruct a c b).mp hv⟩

end

section
open C08
variable {M D : MG}

theorem Ctx.into_last (h : Ctx M D) {x y z : Nat} (hxy : (x, y) ∈ M.dir) (ezy : (z, y) ∈ D.dir)
    (hlast : (x, z) ∉ D.dir) (hun : HasUn M z x → HasUn M z y → False) : (z, y) ∈ M.dir := by
  rcases h.edge_cases ezy with c | hu
  · exact c
  exfalso
  by_cases hzx : z = x
  · subst hzx; exact h.dir_not_un hxy hu
  by_cases hs : Skel M z x
  · rcases h.edge_cases ((ext_dir_of_skel h.ext hs).resolve_right hlast) with c | c
    · exact h.r2 c hxy hu
    · -- `z — x` and `z — y` both undirected: the one case the caller has to exclude
      exact hun c hu
  · exact h.dir_not_un (h.vstruct_of_ext ezy (h.sub hxy) hzx hs).1 hu

/-- first case of `NodeChar.cases`, in the essential graph `M` -/
theorem Ctx.sound_I (h : Ctx M D) {w x y z : Nat} (hwx : (w, x) ∈ M.dir) (hn : ¬ Skel M w y)
    (exy : (x, y) ∈ D.dir) (ezy : (z, y) ∈ D.dir) (hlast : (x, z) ∉ D.dir) : (z, y) ∈ M.dir := by
  have hxy : (x, y) ∈ M.dir := (h.edge_cases exy).resolve_right fun c => hn (h.r1 hwx c)
  refine h.into_last hxy ezy hlast fun c hu => ?_
  rcases h.parent_or_un hwx c.symm with d | d
  · exact hn (h.r1 d hu)
  · have hwy : w ≠ y := by
      rintro rfl; exact h.asymD (h.sub hwx) exy
    exact h.r4 hwy d.symm hwx hxy hn hu

/-- second case of `NodeChar.cases` -/
theorem Ctx.sound_II (h : Ctx M D) {x y z0 z : Nat} (exy : (x, y) ∈ D.dir) (ez0 : (z0, y) ∈ D.dir)
    (hne : z0 ≠ x) (hn : ¬ Skel M z0 x) (ezy : (z, y) ∈ D.dir) (hlast : (x, z) ∉ D.dir) :
    (z, y) ∈ M.dir := by
  have hn' : ¬ Skel M x z0 := fun s => hn s.symm
  obtain ⟨hz0y, hxy, _⟩ := h.vstruct_of_ext ez0 exy hne hn
  refine h.into_last hxy ezy hlast fun c hu => ?_
  by_cases hzz : z = z0
  · subst hzz; exact h.dir_not_un hz0y hu
  by_cases hs0 : Skel M z z0
  · rcases skel_cases hs0 with d | d | d
    · exact h.r2 d hz0y hu
    · exact hn (h.r1 d c)
    · exact h.r3 (Ne.symm hne) c d hxy hz0y hn' hu
  · exact h.dir_not_un (h.vstruct_of_ext ezy ez0 hzz hs0).1 hu

end

theorem cp_in_ess (hd : IsDag G) (hwf : G.WF) (ht : IsTopo G topo) {z y : Nat}
    (hcp : Cp G topo z y) : (z, y) ∈ (ess G topo).dir := by
  have h := ess_ctx hd hwf ht
  induction y using topo_induction ht generalizing z with
  | step y ih =>
    obtain ⟨x, hc⟩ := labels_char G topo ht hcp.1
    have hpx : pos topo x < pos topo y := ht.forward x y hc.xy
    have hlast : ∀ z', (z', y) ∈ G.dir → (x, z') ∉ G.dir := fun z' hz' e =>
      Nat.lt_irrefl _ (Nat.lt_of_lt_of_le (ht.forward x z' e) (hc.last z' hz'))
    have ihx : ∀ w, Cp G topo w x → (w, x) ∈ (ess G topo).dir := fun w hw => ih x hc.xy hw
    rcases hc.cases with ⟨⟨w, hw, hnwy⟩, _⟩ | ⟨_, ⟨z0, hz0y, hz0x, hnz0x⟩, _⟩ | ⟨hp, _, hall⟩
    · have hn : ¬ C08.Skel (ess G topo) w y := by
        intro s
        rcases C08.ext_dir_of_skel h.ext s with c | c
        · exact hnwy c
        · have h1 := ht.forward y w c
          have h2 := ht.forward w x hw.1
          omega
      exact h.sound_I (ihx w hw) hn hc.xy hcp.1 (hlast z hcp.1)
    · have hn : ¬ C08.Skel (ess G topo) z0 x := fun s =>
        (C08.ext_dir_of_skel h.ext s).elim hnz0x (hlast z0 hz0y)
      exact h.sound_II hc.xy hz0y hz0x hn hcp.1 (hlast z hcp.1)
    · have hcx : Cp G topo z x := Classical.byContradiction fun hn =>
        not_cp_rv hcp ⟨hcp.1, (hall z hcp.1).2 hn⟩
      have hzx := ihx z hcx
      rcases h.edge_cases hc.xy with c | c
      · exact (h.edge_cases hcp.1).resolve_right (h.r2 hzx c)
      · exact ess_chain hd hwf ht hzx c

/-- a DAG Markov equivalent to `G`, with `G`'s node list, is a consistent extension of the pattern -/
theorem ext_patt_of_markov (hd : IsDag G) (hwf : G.WF) {D' : MG} (hd' : IsDag D')
    (hm : MarkovEquiv G D') : C08.ConsistentExt (C08.patternOf G) { D' with nodes := G.nodes } := by
  have hp := patt_isPattern hd hwf
  refine ⟨rfl, hd'.plain.1, ?_, ?_, ?_, ?_⟩
  · exact MG.Acyclic.mono (D := D') (fun _ he => he) hd'.acyclic
  · intro a b
    exact (hm.skel a b).trans (hp.skel a b).symm
  · rintro ⟨a, c⟩ he
    obtain ⟨b, hv⟩ := (hp.dirIff a c).mp he
    exact ((hm.vstructs a c b).mpr hv).1
  · intro a c b
    exact (hm.vstructs a c b).trans ((patt_ext hd hwf).vstruct a c b)

/-- **soundness of `label_edges`**: an edge labelled compelled is compelled -/
theorem cp_compelled (hd : IsDag G) (hwf : G.WF) (ht : IsTopo G topo) {a b : Nat}
    (hc : Cp G topo a b) : Compelled G a b := by
  have hcomp := (((ess_essential hd hwf ht).dirIff a b).mp (cp_in_ess hd hwf ht hc)).2
  intro D' hd' hm
  exact hcomp { D' with nodes := G.nodes } (ext_patt_of_markov hd hwf hd' hm)

/-- **Chickering's theorem** (`C04.T3`): `label_edges` labels an edge compelled iff it is compelled -/
theorem c04_T3 : C04.T3 := by
  intro G topo hd hwf _ ht a b he
  constructor
  · intro hl; exact cp_compelled hd hwf ht ⟨he, hl⟩
  · intro hc
    rcases cp_or_rv (topo := topo) he with h | h
    · exact h.2
    · exact absurd hc (rv_not_compelled ht hd h)

end T3
