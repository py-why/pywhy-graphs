import Pw.T3.Basic
open Closure

/-! # T3: undirected components ("buckets") of a closed PDAG

Parents from outside a bucket are parents of the whole bucket; no v-structure of `G` has its collider
and one tail in the same bucket. -/
namespace T3
open C08 MG

variable {G D : MG}

inductive UnConn (G : MG) : Nat → Nat → Prop
  | refl (a : Nat) : UnConn G a a
  | snoc {a b c : Nat} : UnConn G a b → HasUn G b c → UnConn G a c

theorem UnConn.trans {a b c : Nat} (h1 : UnConn G a b) (h2 : UnConn G b c) : UnConn G a c := by
  induction h2 with
  | refl => exact h1
  | snoc _ e ih => exact UnConn.snoc ih e

theorem UnConn.single {a b : Nat} (h : HasUn G a b) : UnConn G a b := UnConn.snoc (UnConn.refl a) h

theorem UnConn.symm {a b : Nat} (h : UnConn G a b) : UnConn G b a := by
  induction h with
  | refl => exact UnConn.refl _
  | snoc _ e ih => exact (UnConn.single e.symm).trans ih

theorem Ctx.parent_bucket (h : Ctx G D) {y z z' : Nat} (e : (y, z) ∈ G.dir) (hy : ¬ UnConn G z y)
    (hz : UnConn G z z') : (y, z') ∈ G.dir := by
  induction hz with
  | refl => exact e
  | @snoc b c hzb hbc ih =>
    exact (h.parent_or_un ih hbc).resolve_right fun hyc => hy ((hzb.snoc hbc).snoc hyc.symm)

theorem Ctx.vstruct_bucket (h : Ctx G D) {p x p' u : Nat} (hv : C08.VStruct G p x p')
    (hu : UnConn G x u) : C08.VStruct G p u p' := by
  induction hu with
  | refl => exact hv
  | @snoc v u _ hvu ih =>
    obtain ⟨h1, h2, hne, hna⟩ := ih
    rcases h.parent_or_un h1 hvu with a | a <;> rcases h.parent_or_un h2 hvu with b | b
    · exact ⟨a, b, hne, hna⟩
    · exact absurd (h.r1 a b.symm) hna
    · exact absurd (h.r1 b a.symm).symm hna
    · exact absurd hvu.symm (h.r3 hne a.symm b.symm h1 h2 hna)

theorem Ctx.no_vstruct_bucket (h : Ctx G D) {p x p' : Nat} (hv : C08.VStruct G p x p')
    (hc : UnConn G x p) : False :=
  h.irrefl p (skel_of_dir (h.vstruct_bucket hv hc).1)

end T3
