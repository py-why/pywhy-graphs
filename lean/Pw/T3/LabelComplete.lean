import Pw.T3.Label
import Pw.T3.Chain
open Closure

/-! # Completeness of `label_edges`: the labelled graph is closed under Meek's rules, so edges labelled
reversible are reversible -/
namespace T3
open C04

/-- `k -> x` is an edge labelled compelled / reversible by `label_edges` -/
def Cp (G : MG) (topo : List Nat) (k x : Nat) : Prop := CpAt G (labels G topo) x k
def Rv (G : MG) (topo : List Nat) (k x : Nat) : Prop := (k, x) ∈ G.dir ∧ labels G topo (k, x) = .reversible

variable {G : MG} {topo : List Nat}

theorem cp_or_rv {a b : Nat} (h : (a, b) ∈ G.dir) : Cp G topo a b ∨ Rv G topo a b := by
  have := labels_known G topo _ h
  cases hl : labels G topo (a, b) with
  | unknown => exact absurd hl this
  | compelled => exact Or.inl ⟨h, hl⟩
  | reversible => exact Or.inr ⟨h, hl⟩

theorem not_cp_rv {a b : Nat} (h1 : Cp G topo a b) (h2 : Rv G topo a b) : False := by
  have := h1.2.symm.trans h2.2
  cases this

theorem topo_induction (ht : IsTopo G topo) {P : Nat → Prop}
    (step : ∀ y, (∀ x, (x, y) ∈ G.dir → P x) → P y) (y : Nat) : P y :=
  step y fun x _ => topo_induction ht step x
termination_by pos topo y
decreasing_by exact ht.forward x y ‹_›

theorem rv_cp (ht : IsTopo G topo) {u v : Nat} (hr : Rv G topo u v) (k : Nat) :
    Cp G topo k u ↔ Cp G topo k v := by
  induction v using topo_induction ht generalizing u k with
  | step v ih =>
    obtain ⟨x, hc⟩ := labels_char G topo ht hr.1
    rcases hc.cases with ⟨_, hall⟩ | ⟨_, _, hall⟩ | ⟨hp, hz, hall⟩
    · exact (not_cp_rv ⟨hr.1, hall u hr.1⟩ hr).elim
    · exact (not_cp_rv ⟨hr.1, hall u hr.1⟩ hr).elim
    · -- `v` has the compelled parents of its last parent `x`, and `u` is `x` or `u -> x` is reversible
      have hvx : ∀ k, Cp G topo k v ↔ Cp G topo k x := fun k =>
        ⟨fun hk => Classical.byContradiction fun hn => not_cp_rv hk ⟨hk.1, (hall k hk.1).2 hn⟩,
         fun hk => ⟨hp k hk, (hall k (hp k hk)).1 hk⟩⟩
      by_cases hux : u = x
      · rw [hux]; exact (hvx k).symm
      · have hru : Rv G topo u x := (cp_or_rv ((hz u hr.1).resolve_left hux)).resolve_left
          fun c => not_cp_rv ⟨hr.1, (hall u hr.1).1 c⟩ hr
        exact (ih x hc.xy hru k).trans (hvx k).symm

theorem mem_cpdag_dir {a b : Nat} : (a, b) ∈ (dagToCpdag G topo).dir ↔ Cp G topo a b := by
  simp [dagToCpdag, Cp, CpAt]

theorem mem_cpdag_un {a b : Nat} : (a, b) ∈ (dagToCpdag G topo).un ↔ Rv G topo a b := by
  simp [dagToCpdag, Rv]

theorem hasUn_cpdag {a b : Nat} :
    C08.HasUn (dagToCpdag G topo) a b ↔ Rv G topo a b ∨ Rv G topo b a := by
  simp only [C08.HasUn, mem_cpdag_un]

theorem hasUn_cp (ht : IsTopo G topo) {i j : Nat} (hu : C08.HasUn (dagToCpdag G topo) i j) (k : Nat) :
    Cp G topo k i ↔ Cp G topo k j := by
  rcases hasUn_cpdag.mp hu with h | h
  · exact rv_cp ht h k
  · exact (rv_cp ht h k).symm

theorem no2 (hd : IsDag G) {a b : Nat} (h1 : (a, b) ∈ G.dir) (h2 : (b, a) ∈ G.dir) : False :=
  MG.no_two_cycle hd.acyclic h1 h2

theorem cpdag_closed (ht : IsTopo G topo) (hd : IsDag G) : C08.MeekClosed (dagToCpdag G topo) := by
  intro i j hu
  refine ⟨?_, ?_, ?_, ?_⟩
  · rintro ⟨k, hk, hn⟩
    have := (hasUn_cp ht hu k).mp (mem_cpdag_dir.mp hk)
    exact hn (Or.inl (mem_cpdag_dir.mpr this))
  · rintro ⟨k, hik, hkj⟩
    have := (hasUn_cp ht hu k).mpr (mem_cpdag_dir.mp hkj)
    exact no2 hd this.1 (mem_cpdag_dir.mp hik).1
  · rintro ⟨k, l, _, hik, _, hkj, _, _⟩
    have hki : Cp G topo k i := (hasUn_cp ht hu k).mpr (mem_cpdag_dir.mp hkj)
    rcases hasUn_cpdag.mp hik with h | h
    · exact no2 hd h.1 hki.1
    · exact not_cp_rv hki h
  · rintro ⟨k, l, _, hik, hkl, hlj, _⟩
    have hli : Cp G topo l i := (hasUn_cp ht hu l).mpr (mem_cpdag_dir.mp hlj)
    have hlk : Cp G topo l k := (hasUn_cp ht hik l).mp hli
    exact no2 hd hlk.1 (mem_cpdag_dir.mp hkl).1

theorem cpdag_simple (hd : IsDag G) : C08.Simple (dagToCpdag G topo) := by
  intro a b h
  have h' := mem_cpdag_dir.mp h
  exact ⟨fun u => not_cp_rv h' (mem_cpdag_un.mp u), fun u => no2 hd h'.1 (mem_cpdag_un.mp u).1⟩

theorem cpdag_ext (ht : IsTopo G topo) (hd : IsDag G) : C08.ConsistentExt (dagToCpdag G topo) G := by
  obtain ⟨_, _, _, _, _, _, hskel⟩ := dagToCpdag_struct G topo hd.plain.1
  refine ⟨rfl, hd.plain.1, hd.acyclic, fun a b => (hskel a b).symm, ?_, ?_⟩
  · rintro ⟨a, b⟩ he; exact (mem_cpdag_dir.mp he).1
  · intro a c b
    constructor
    · intro hv
      have hv' : C05.VStruct G a c b := hv
      exact ⟨mem_cpdag_dir.mpr ⟨hv.1, vstruct_labelled_compelled G topo ht hv'⟩,
        mem_cpdag_dir.mpr ⟨hv.2.1, vstruct_labelled_compelled G topo ht (vstruct_symm hv')⟩,
        hv.2.2.1, fun s => hv.2.2.2 ((hskel a b).mp s)⟩
    · rintro ⟨h1, h2, hab, hn⟩
      exact ⟨(mem_cpdag_dir.mp h1).1, (mem_cpdag_dir.mp h2).1, hab, fun s => hn ((hskel a b).mpr s)⟩

theorem cpdag_ctx (ht : IsTopo G topo) (hd : IsDag G) : Ctx (dagToCpdag G topo) G :=
  ⟨cpdag_simple hd, cpdag_ext ht hd, cpdag_closed ht hd⟩

theorem markov_of_ext (ht : IsTopo G topo) (hd : IsDag G) {D' : MG}
    (hD' : C08.ConsistentExt (dagToCpdag G topo) D') : MarkovEquiv G D' := by
  have hG := cpdag_ext ht hd
  refine ⟨fun v => by rw [hD'.nodes]; exact Iff.rfl, ?_, ?_⟩
  · intro a b; exact (hD'.skel a b).trans (hG.skel a b).symm
  · intro a c b; exact (hD'.vstruct a c b).trans (hG.vstruct a c b).symm

/-- **completeness of `label_edges`**: an edge labelled reversible is not compelled -/
theorem rv_not_compelled (ht : IsTopo G topo) (hd : IsDag G) {a b : Nat} (hr : Rv G topo a b) :
    ¬ Compelled G a b := by
  intro hc
  have hu : C08.HasUn (dagToCpdag G topo) a b := Or.inl (mem_cpdag_un.mpr hr)
  obtain ⟨D', hD', hba, hbi, hci⟩ := (cpdag_ctx ht hd).both_plain hu
  have hdag : IsDag D' := ⟨⟨hD'.noUn, hbi, hci⟩, hD'.acyclic⟩
  have hab := hc D' hdag (markov_of_ext ht hd hD')
  exact MG.no_two_cycle hD'.acyclic hab hba

end T3
