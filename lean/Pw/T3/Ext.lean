import Pw.T3.Elim
open Closure

/-! # T3: orientations of a v-structure-free set of nodes

`ExtOn G A E`: the relation `E` orients exactly the skeleton edges inside `A`, keeps the directed
edges of `G`, is acyclic (has a rank function) and has no unshielded collider. -/
namespace T3
open C08 MG

variable {G D : MG}

structure ExtOn (G : MG) (A : List Nat) (E : Nat → Nat → Prop) : Prop where
  dom : ∀ x y, E x y → x ∈ A ∧ y ∈ A ∧ Skel G x y
  total : ∀ x ∈ A, ∀ y ∈ A, Skel G x y → E x y ∨ E y x
  keeps : ∀ x ∈ A, ∀ y ∈ A, (x, y) ∈ G.dir → E x y
  rank : ∃ r : Nat → Nat, ∀ x y, E x y → r y < r x
  nocoll : ∀ x y z, E x z → E y z → x ≠ y → Skel G x y

theorem extOn_nil (G : MG) : ExtOn G [] (fun _ _ => False) :=
  ⟨fun _ _ e => False.elim e, fun _ hx => (by cases hx), fun _ hx => (by cases hx),
   ⟨fun _ => 0, fun _ _ e => False.elim e⟩, fun _ _ _ e => False.elim e⟩

theorem Ctx.add_sink (h : Ctx G D) {A : List Nat} {t : Nat} (ht : Elig G A t) {E : Nat → Nat → Prop}
    (hE : ExtOn G (rm A t) E) :
    ExtOn G A (fun x y => E x y ∨ (y = t ∧ x ∈ A ∧ x ≠ t ∧ Skel G x t)) := by
  refine ⟨?_, ?_, ?_, ?_, ?_⟩
  · rintro x y (e | ⟨rfl, hx, _, hs⟩)
    · obtain ⟨a, b, c⟩ := hE.dom x y e
      exact ⟨(mem_rm.mp a).1, (mem_rm.mp b).1, c⟩
    · exact ⟨hx, ht.1.1, hs⟩
  · intro x hx y hy hs
    have hxy : x ≠ y := by
      rintro rfl; exact h.irrefl _ hs
    by_cases hyt : y = t
    · exact Or.inl (Or.inr ⟨hyt, hx, fun hxt => hxy (hxt.trans hyt.symm), hyt ▸ hs⟩)
    by_cases hxt : x = t
    · exact Or.inr (Or.inr ⟨hxt, hy, hyt, hxt ▸ hs.symm⟩)
    rcases hE.total x (mem_rm.mpr ⟨hx, hxt⟩) y (mem_rm.mpr ⟨hy, hyt⟩) hs with e | e
    · exact Or.inl (Or.inl e)
    · exact Or.inr (Or.inl e)
  · intro x hx y hy e
    have hxt : x ≠ t := fun hxt => ht.1.2 y hy (hxt ▸ e)
    by_cases hyt : y = t
    · exact Or.inr ⟨hyt, hx, hxt, hyt ▸ skel_of_dir e⟩
    · exact Or.inl (hE.keeps x (mem_rm.mpr ⟨hx, hxt⟩) y (mem_rm.mpr ⟨hy, hyt⟩) e)
  · obtain ⟨r, hr⟩ := hE.rank
    refine ⟨fun x => if x = t then 0 else r x + 1, ?_⟩
    rintro x y (e | ⟨rfl, _, hxt, _⟩)
    · obtain ⟨a, b, _⟩ := hE.dom x y e
      simp only [if_neg (mem_rm.mp a).2, if_neg (mem_rm.mp b).2]
      exact Nat.succ_lt_succ (hr x y e)
    · simp only [if_neg hxt, if_true]
      exact Nat.succ_pos _
  · rintro x y z (e1 | ⟨rfl, hx, _, hs1⟩) (e2 | ⟨hz, hy, _, hs2⟩) hxy
    · exact hE.nocoll x y z e1 e2 hxy
    · exact absurd hz (mem_rm.mp (hE.dom x z e1).2.1).2
    · exact absurd rfl (mem_rm.mp (hE.dom y z e2).2.1).2
    · exact ht.2 x hx y hy hs1.symm hs2.symm hxy

theorem Ctx.ext_rel (h : Ctx G D) {A : List Nat} (hv : NoV G A) :
    (∃ E, ExtOn G A E) ∧ ∀ a ∈ A, ∀ b ∈ A, HasUn G a b → ∃ E, ExtOn G A E ∧ E b a := by
  induction A using rm_induction with
  | step A ih =>
    constructor
    · by_cases hA : A = []
      · subst hA; exact ⟨_, extOn_nil G⟩
      · obtain ⟨s, hs⟩ := h.exists_elig hv hA
        obtain ⟨E, hE⟩ := (ih s hs.1.1 (hv.rm s)).1
        exact ⟨_, h.add_sink hs hE⟩
    · intro a ha b hb hab
      -- remove an eligible sink `t ≠ b`: if `t = a` the new edges contain `b -> a`, otherwise `a - b`
      -- survives in `A − t`
      have hne : a ≠ b := by
        rintro rfl; exact h.irrefl _ hab.skel
      obtain ⟨t0, ht0, hr⟩ := h.reach_sink ha
      have ht0b : t0 ≠ b := by
        rintro rfl
        rcases hr with e | hr
        · exact hne e
        · exact h.chain (tc_drIn_dr hr) hab
      obtain ⟨t, htE, htb⟩ := h.qc hv (C := fun v => v = b)
        (fun u w hu hw huw => absurd (hu.trans hw.symm) huw) ht0 ht0b
      by_cases hta : t = a
      · subst hta
        obtain ⟨E, hE⟩ := (ih t htE.1.1 (hv.rm t)).1
        exact ⟨_, h.add_sink htE hE, Or.inr ⟨rfl, hb, fun e => htb e.symm, hab.symm.skel⟩⟩
      · obtain ⟨E, hE, hba⟩ := (ih t htE.1.1 (hv.rm t)).2 a
          (mem_rm.mpr ⟨ha, fun e => hta e.symm⟩) b (mem_rm.mpr ⟨hb, fun e => htb e.symm⟩) hab
        exact ⟨_, h.add_sink htE hE, Or.inl hba⟩

end T3
