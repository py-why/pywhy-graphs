import Pw.C04.VStruct
open Closure

/-! # Chickering's `label_edges` (C04 model): exact description of one iteration and of the result -/
namespace T3
open C04

/-- the `for node in w_nodes` loop breaks iff some `w` is not a parent of `y`; it labels `w -> y` compelled for
    the `w` it passes, and every edge into `y` when it breaks -/
theorem wLoop_spec (E : List Edge) (y : Nat) : ∀ (ws : List Nat) (lab : Edge → Label),
    ((wLoop E y ws lab).2 = true ↔ ∃ w ∈ ws, (w, y) ∉ E) ∧
    ∀ e : Edge, (wLoop E y ws lab).1 e =
      if e.2 = y ∧ (e.1 ∈ ws ∨ (wLoop E y ws lab).2 = true) then .compelled else lab e := by
  intro ws
  induction ws with
  | nil => intro lab; simp [wLoop]
  | cons w ws ih =>
    intro lab
    by_cases hc : E.contains (w, y) = true
    · rw [wLoop, if_pos hc]
      obtain ⟨ih1, ih2⟩ := ih (setEdge (w, y) .compelled lab)
      refine ⟨?_, fun e => ?_⟩
      · simp only [ih1, List.mem_cons, exists_eq_or_imp, List.contains_iff_mem.mp hc, not_true, false_or]
      · rw [ih2]
        obtain ⟨a, b⟩ := e
        simp only [setEdge, Prod.mk.injEq, List.mem_cons]
        by_cases hb : b = y <;> by_cases ha : a = w <;> simp [ha, hb]
    · rw [wLoop, if_neg hc]
      exact ⟨⟨fun _ => ⟨w, List.mem_cons_self, fun h => hc (List.contains_iff_mem.mpr h)⟩, fun _ => rfl⟩,
        fun e => by simp [setInto]⟩

/-- `w` is a parent of `x` whose edge is labelled compelled -/
def CpAt (G : MG) (lab : Edge → Label) (x w : Nat) : Prop := (w, x) ∈ G.dir ∧ lab (w, x) = .compelled

open Classical in
/-- one iteration of the `while` loop of `label_edges`; `(x, y)` is the edge it selects -/
theorem labelStep_full {G : MG} {ord : List Edge} {lab lab' : Edge → Label}
    (h : labelStep G ord lab = some lab') :
    ∃ x y, (ord.filter fun e => lab e == .unknown).getLast? = some (x, y) ∧
      (∀ e : Edge, e.2 ≠ y → lab' e = lab e) ∧
      ∀ z, lab (z, y) = .unknown →
        lab' (z, y) =
          if (∃ w, CpAt G lab x w ∧ (w, y) ∉ G.dir) ∨
              (∃ z', (z', y) ∈ G.dir ∧ z' ≠ x ∧ (z', x) ∉ G.dir) ∨ CpAt G lab x z
          then .compelled else .reversible := by
  unfold labelStep at h
  split at h
  · cases h
  · rename_i x y hlast
    refine ⟨x, y, hlast, ?_⟩
    have hws : ∀ w, w ∈ (G.parents x).filter (fun w => lab (w, x) == .compelled) ↔ CpAt G lab x w :=
      fun w => by simp only [List.mem_filter, MG.mem_parents, beq_iff_eq, CpAt]
    obtain ⟨hF, hL⟩ := wLoop_spec G.dir y ((G.parents x).filter fun w => lab (w, x) == .compelled) lab
    simp only [hws] at hF hL
    have hZ : ((G.parents y).any fun z => z != x && !G.dir.contains (z, x)) = true ↔
        ∃ z, (z, y) ∈ G.dir ∧ z ≠ x ∧ (z, x) ∉ G.dir := by
      simp only [List.contains_eq_mem, List.any_eq_true, MG.mem_parents, Bool.and_eq_true, bne_iff_ne, ne_eq,
        Bool.not_eq_eq_eq_not, Bool.not_true, decide_eq_false_iff_not]
    dsimp only at h
    split at h
    · -- the `w`-loop broke: every edge into `y` is compelled
      rename_i lab1 heq
      cases h
      rw [heq] at hF hL
      dsimp only at hF hL
      refine ⟨fun e he => ?_, fun z _ => ?_⟩
      · rw [hL, if_neg fun c => he c.1]
      · rw [hL, if_pos ⟨rfl, Or.inr rfl⟩, if_pos (Or.inl (hF.mp rfl))]
    · -- it ran through: `lab1` has `w -> y` compelled for the compelled parents `w` of `x`
      rename_i lab1 heq
      cases h
      rw [heq] at hF hL
      simp only [Bool.false_eq_true, or_false, false_iff] at hF hL
      refine ⟨fun e he => ?_, fun z hz => ?_⟩
      · simp only [he, false_and, if_false, hL]
      · by_cases hc : CpAt G lab x z
        · have h1 : lab1 (z, y) = .compelled := by rw [hL, if_pos ⟨rfl, hc⟩]
          simp only [h1, reduceCtorEq, and_false, if_false, hc, or_true, if_true]
        · have h1 : lab1 (z, y) = .unknown := by rw [hL, if_neg fun c => hc c.2, hz]
          simp only [h1, and_self, if_true, hZ, hF, hc, false_or, or_false]

/-- the labels of the edges into `y` in terms of the labels of the edges into its last parent `x` -/
structure NodeChar (G : MG) (topo : List Nat) (lab : Edge → Label) (x y : Nat) : Prop where
  xy : (x, y) ∈ G.dir
  last : ∀ z, (z, y) ∈ G.dir → pos topo z ≤ pos topo x
  xknown : ∀ w, (w, x) ∈ G.dir → lab (w, x) ≠ .unknown
  cases :
    ((∃ w, CpAt G lab x w ∧ (w, y) ∉ G.dir) ∧ ∀ z, (z, y) ∈ G.dir → lab (z, y) = .compelled) ∨
    ((∀ w, CpAt G lab x w → (w, y) ∈ G.dir) ∧ (∃ z, (z, y) ∈ G.dir ∧ z ≠ x ∧ (z, x) ∉ G.dir) ∧
      ∀ z, (z, y) ∈ G.dir → lab (z, y) = .compelled) ∨
    ((∀ w, CpAt G lab x w → (w, y) ∈ G.dir) ∧ (∀ z, (z, y) ∈ G.dir → z = x ∨ (z, x) ∈ G.dir) ∧
      ∀ z, (z, y) ∈ G.dir → (CpAt G lab x z → lab (z, y) = .compelled) ∧
        (¬ CpAt G lab x z → lab (z, y) = .reversible))

theorem NodeChar.congr {G : MG} {topo : List Nat} {lab lab' : Edge → Label} {x y : Nat}
    (hx : ∀ w, lab' (w, x) = lab (w, x)) (hy : ∀ z, lab' (z, y) = lab (z, y))
    (h : NodeChar G topo lab x y) : NodeChar G topo lab' x y := by
  obtain ⟨hxy, hlast, hxk, hc⟩ := h
  refine ⟨hxy, hlast, ?_, ?_⟩
  · simpa only [hx] using hxk
  · simpa only [CpAt, hx, hy] using hc

open Classical in
theorem NodeChar.of_eq {G : MG} {topo : List Nat} {lab : Edge → Label} {x y : Nat} (hxy : (x, y) ∈ G.dir)
    (hlast : ∀ z, (z, y) ∈ G.dir → pos topo z ≤ pos topo x)
    (hxk : ∀ w, (w, x) ∈ G.dir → lab (w, x) ≠ .unknown)
    (hy : ∀ z, (z, y) ∈ G.dir → lab (z, y) =
      if (∃ w, CpAt G lab x w ∧ (w, y) ∉ G.dir) ∨
          (∃ z', (z', y) ∈ G.dir ∧ z' ≠ x ∧ (z', x) ∉ G.dir) ∨ CpAt G lab x z
      then .compelled else .reversible) : NodeChar G topo lab x y := by
  refine ⟨hxy, hlast, hxk, ?_⟩
  by_cases hF : ∃ w, CpAt G lab x w ∧ (w, y) ∉ G.dir
  · exact Or.inl ⟨hF, fun z hz => by rw [hy z hz, if_pos (Or.inl hF)]⟩
  have hp : ∀ w, CpAt G lab x w → (w, y) ∈ G.dir := fun w hw =>
    Classical.byContradiction fun hn => hF ⟨w, hw, hn⟩
  by_cases hZ : ∃ z', (z', y) ∈ G.dir ∧ z' ≠ x ∧ (z', x) ∉ G.dir
  · exact Or.inr (Or.inl ⟨hp, hZ, fun z hz => by rw [hy z hz, if_pos (Or.inr (Or.inl hZ))]⟩)
  refine Or.inr (Or.inr ⟨hp, fun z hz => ?_, fun z hz => ⟨fun hc => ?_, fun hc => ?_⟩⟩)
  · exact Classical.byContradiction fun hn =>
      hZ ⟨z, hz, fun e => hn (Or.inl e), fun e => hn (Or.inr e)⟩
  · rw [hy z hz, if_pos (Or.inr (Or.inr hc))]
  · rw [hy z hz, if_neg fun c => c.elim hF fun c => c.elim hZ hc]

/-- the loop invariant of `label_edges` -/
structure FInv (G : MG) (topo : List Nat) (lab : Edge → Label) : Prop where
  allOrNone : ∀ e ∈ G.dir, lab e = .unknown → ∀ e' ∈ G.dir, e'.2 = e.2 → lab e' = .unknown
  char : ∀ z y, (z, y) ∈ G.dir → lab (z, y) ≠ .unknown → ∃ x, NodeChar G topo lab x y

open Classical in
theorem finv_step {G : MG} {topo : List Nat} {ord : List Edge} (ht : IsTopo G topo)
    (hperm : ∀ e, e ∈ ord ↔ e ∈ G.dir) (hsorted : ord.Pairwise (Before topo))
    {lab lab' : Edge → Label} (hinv : FInv G topo lab) (h : labelStep G ord lab = some lab') :
    FInv G topo lab' := by
  obtain ⟨x, y, hlast, hoff, hon⟩ := labelStep_full h
  -- the selected edge is unknown, and every unknown edge is at or before it in the edge order
  obtain ⟨hxyo, hxyu⟩ := List.mem_filter.mp (List.mem_of_getLast? hlast)
  have hxyE : (x, y) ∈ G.dir := (hperm _).mp hxyo
  have hbefore : ∀ e ∈ G.dir, lab e = .unknown →
      pos topo y ≤ pos topo e.2 ∧ (e.2 = y → pos topo e.1 ≤ pos topo x) := by
    intro e he hunk
    have hmem : e ∈ ord.filter fun e => lab e == .unknown :=
      List.mem_filter.mpr ⟨(hperm _).mpr he, beq_iff_eq.mpr hunk⟩
    rcases pairwise_getLast _ _ (hsorted.filter _) hlast _ hmem with rfl | hb
    · exact ⟨Nat.le_refl _, fun _ => Nat.le_refl _⟩
    · exact ⟨hb.1, fun h => hb.2 h.symm⟩
  have hpos : pos topo x < pos topo y := ht.forward x y hxyE
  have hxy : x ≠ y := fun e => by rw [e] at hpos; exact Nat.lt_irrefl _ hpos
  -- so the edges into `y` are all unknown, those into `x` all labelled, and `x` is the last parent of `y`
  have hyall : ∀ z, (z, y) ∈ G.dir → lab (z, y) = .unknown := fun z hz =>
    hinv.allOrNone (x, y) hxyE (beq_iff_eq.mp hxyu) (z, y) hz rfl
  have hxknown : ∀ w, (w, x) ∈ G.dir → lab (w, x) ≠ .unknown := fun w hw hunk =>
    Nat.lt_irrefl _ (Nat.lt_of_lt_of_le hpos (hbefore _ hw hunk).1)
  have hcp : ∀ w, CpAt G lab' x w ↔ CpAt G lab x w := fun w => by
    unfold CpAt; rw [hoff (w, x) hxy]
  have hyknown : ∀ z, (z, y) ∈ G.dir → lab' (z, y) ≠ .unknown := fun z hz => by
    rw [hon z (hyall z hz)]; split <;> exact Label.noConfusion
  have hnew : NodeChar G topo lab' x y :=
    NodeChar.of_eq hxyE (fun z hz => (hbefore _ hz (hyall z hz)).2 rfl)
      (fun w hw => by rw [hoff (w, x) hxy]; exact hxknown w hw)
      (fun z hz => by rw [hon z (hyall z hz)]; simp only [hcp])
  refine ⟨?_, ?_⟩
  · intro e he hunk e' he' heq
    have hne : e.2 ≠ y := by
      rintro rfl; exact hyknown e.1 he hunk
    rw [hoff e' (by rw [heq]; exact hne)]
    rw [hoff e hne] at hunk
    exact hinv.allOrNone e he hunk e' he' heq
  · intro z y0 hz hk
    by_cases hy0 : y0 = y
    · subst hy0; exact ⟨x, hnew⟩
    · rw [hoff (z, y0) hy0] at hk
      obtain ⟨x0, hc0⟩ := hinv.char z y0 hz hk
      have hx0 : x0 ≠ y := by
        rintro rfl; exact hc0.xknown x hxyE (hyall x hxyE)
      exact ⟨x0, hc0.congr (fun w => hoff (w, x0) hx0) (fun z' => hoff (z', y0) hy0)⟩

theorem finv_loop {G : MG} {topo : List Nat} {ord : List Edge} (ht : IsTopo G topo)
    (hperm : ∀ e, e ∈ ord ↔ e ∈ G.dir) (hsorted : ord.Pairwise (Before topo)) :
    ∀ (fuel : Nat) (lab : Edge → Label), FInv G topo lab → FInv G topo (labelLoop G ord fuel lab) :=
  labelLoop_invariant fun _ _ h hs => finv_step ht hperm hsorted h hs

/-- **the result of `label_edges`, node by node** -/
theorem labels_char (G : MG) (topo : List Nat) (ht : IsTopo G topo) {z y : Nat} (hz : (z, y) ∈ G.dir) :
    ∃ x, NodeChar G topo (labels G topo) x y := by
  have hinv : FInv G topo (labels G topo) := by
    apply finv_loop ht (fun e => (orderEdges_perm topo G.dir).mem_iff) (orderEdges_sorted topo G.dir)
    exact ⟨fun _ _ _ _ _ _ => rfl, fun _ _ _ h => absurd rfl h⟩
  exact hinv.char z y hz (labels_known G topo _ hz)

end T3
