import Pw.C02.StoreRefine

/-! # C02: `copy()` returns an equal graph: the specification's run of the calls of `copy_eq` from the
abstract state of `skeleton` has a closed form, and the `add_edge` calls hit exactly the stored edges -/
namespace C02

namespace MEG

theorem abs_foldl_step {α} (l : List α) (op : α → GOp) {G : MEG} (hi : G.Inv) :
    (l.foldl (fun G x => (G.step (op x)).1) G).abs = l.foldl (fun S x => (S.step (op x)).1) G.abs := by
  induction l generalizing G with
  | nil => rfl
  | cons x l ih => rw [List.foldl_cons, List.foldl_cons, ih (hi.step (op x)), (abs_step hi (op x)).1]

end MEG

namespace AG

def blank (admg : Bool) (kind : Nat → Option Kind) : AG :=
  { admg, node := fun _ => false, kind, edge := fun _ _ _ => false, nattr := fun _ => .empty,
    eattr := fun _ _ _ => .empty, gattr := .empty }

theorem step_addType_blank (a : Bool) (κ : Nat → Option Kind) (t : Nat) (k : Kind) :
    ((blank a κ).step (.addEdgeType t k [] [])).1 =
      blank a (if (κ t).isSome then κ else fun t' => if t' == t then some k else κ t') := by
  by_cases h : (κ t).isSome = true <;> simp [AG.step, blank, h]

theorem foldl_addType_blank (ls : List (Nat × Layer)) (a : Bool) (κ : Nat → Option Kind) :
    ls.foldl (fun S p => (S.step (.addEdgeType p.1 p.2.kind [] [])).1) (blank a κ) =
      blank a fun t' => match κ t' with | some k => some k | none => (List.lookup t' ls).map (·.kind) := by
  induction ls generalizing κ with
  | nil => exact congrArg (blank a) (funext fun t' => by cases κ t' <;> rfl)
  | cons p ls ih =>
    rw [List.foldl_cons, step_addType_blank, ih]
    refine congrArg (blank a) (funext fun t' => ?_)
    rw [List.lookup_cons]
    cases h : t' == p.1
    · cases hp : κ p.1 <;> simp [h]
    · cases eq_of_beq h
      cases hp : κ p.1 <;> simp [hp]

theorem foldl_addNodeS (ps : List (Nat × Attr)) (S : AG) (hn : (ps.map (·.1)).Nodup)
    (hnode : ∀ x ∈ ps.map (·.1), S.nattr x = AAttr.empty) :
    ps.foldl (fun S p => S.addNodeS p.1 p.2) S =
      { S with node := fun x => S.node x || (ps.map (·.1)).contains x,
               nattr := fun x => match List.lookup x ps with | some a => attrOf (some a) | none => S.nattr x } := by
  induction ps generalizing S with
  | nil => simp
  | cons p ps ih =>
    obtain ⟨v, a⟩ := p
    rw [List.map_cons, List.nodup_cons] at hn
    have hv : S.nattr v = AAttr.empty := hnode v List.mem_cons_self
    rw [List.foldl_cons, ih _ hn.2 fun x hx => by
      have : (x == v) = false := beq_false_of_ne fun h => hn.1 (h ▸ hx)
      simp only [addNodeS, this]; exact hnode x (List.mem_cons_of_mem _ hx)]
    apply AG.ext' <;> intros <;> try rfl
    · simp only [addNodeS, List.map_cons, List.contains_cons, Bool.or_assoc]
    · rename_i x
      simp only [addNodeS, List.lookup_cons]
      cases hx : x == v
      · rfl
      · cases eq_of_beq hx
        rw [lookup_none_of_not_mem hn.1, hv]
        funext k; simp [AAttr.upd, attrOf, AAttr.empty]

/-- does the call `q` put (or update) the pair `x,y` of layer `t'` -/
def hit (S : AG) (q : Quad) (t' x y : Nat) : Bool :=
  q.1 == t' && match S.kind t' with | some k => sameP k x y q.2.1 q.2.2.1 | none => false

theorem hit_iff {S : AG} {q : Quad} {t x y : Nat} {k : Kind} (hk : S.kind t = some k) :
    S.hit q t x y = true ↔ q.1 = t ∧ same k (x, y) (q.2.1, q.2.2.1) = true := by
  simp only [hit, hk, Bool.and_eq_true, beq_iff_eq, same_eq_sameP]

/-- the state after the `add_edge` calls `tr` into existing layers between existing nodes -/
def putEdges (S : AG) (tr : List Quad) : AG :=
  { S with edge := fun t x y => S.edge t x y || tr.any fun q => hit S q t x y,
           eattr := fun t x y => tr.foldl (fun acc q => if hit S q t x y then acc.upd q.2.2.2 else acc) (S.eattr t x y) }

theorem foldl_putEdge (tr : List Quad) (S : AG) :
    tr.foldl (fun S q => S.putEdge (.one q.1) q.2.1 q.2.2.1 q.2.2.2) S = S.putEdges tr := by
  induction tr generalizing S with
  | nil => simp [putEdges]
  | cons q tr ih =>
    rw [List.foldl_cons, ih]
    apply AG.ext'
    · rfl
    · intro _; rfl
    · intro _; rfl
    · intro t x y; exact Bool.or_assoc (S.edge t x y) (S.hit q t x y) (tr.any fun q' => S.hit q' t x y)
    · intro _; rfl
    · intro _ _ _; rfl
    · rfl

theorem AAttr.upd_upd_same (s : AAttr) (a : Attr) : (s.upd a).upd a = s.upd a := by
  funext k; simp only [AAttr.upd]; cases Attr.get a k <;> simp

theorem foldl_upd_same (tr : List Quad) (P : Quad → Bool) (a0 : Attr) (h : ∀ q ∈ tr, P q = true → q.2.2.2 = a0)
    (s : AAttr) :
    tr.foldl (fun acc q => if P q then acc.upd q.2.2.2 else acc) s = if tr.any P then s.upd a0 else s := by
  induction tr generalizing s with
  | nil => rfl
  | cons q tr ih =>
    have ih' := fun s => ih (fun q' hq' => h q' (List.mem_cons_of_mem _ hq')) s
    simp only [List.foldl_cons, List.any_cons]
    by_cases hq : P q = true
    · have := h q (by simp) hq
      simp only [hq, ite_true, Bool.true_or, this, ih']
      split <;> simp [AAttr.upd_upd_same]
    · have hq' : P q = false := by simpa using hq
      simp only [hq', Bool.false_eq_true, ite_false, Bool.false_or, ih']

theorem foldl_step_addEdge (tr : List Quad) (S : AG)
    (h : ∀ q ∈ tr, S.node q.2.1 = true ∧ S.node q.2.2.1 = true ∧ (S.kind q.1).isSome = true) :
    tr.foldl (fun S q => (S.step (.addEdge q.2.1 q.2.2.1 (.one q.1) q.2.2.2)).1) S = S.putEdges tr := by
  rw [← foldl_putEdge]
  induction tr generalizing S with
  | nil => rfl
  | cons q tr ih =>
    obtain ⟨hu, hw, hk⟩ := h q List.mem_cons_self
    have hq : (S.step (.addEdge q.2.1 q.2.2.1 (.one q.1) q.2.2.2)).1 = S.putEdge (.one q.1) q.2.1 q.2.2.1 q.2.2.2 := by
      simp only [AG.step, ensureS, hu, hw, ite_true, known, hk]
    rw [List.foldl_cons, List.foldl_cons, hq]
    exact ih _ fun q' hq' => h q' (List.mem_cons_of_mem _ hq')

end AG

namespace MEG

/-- default kinds of the edge types an ADMG pre-creates: the hypothesis under which `copy()` of an
    ADMG keeps the kinds (the quantifier of C02 uses the default names with their default kinds) -/
def KindOK (g : MEG) : Prop :=
  g.admg = true → ∀ t L, g.layer? t = some L →
    (t = 0 → L.kind = .dir) ∧ (t = 1 → L.kind = .und) ∧ (t = 2 → L.kind = .und)

theorem skel0_abs (g : MEG) :
    g.skel0.abs = AG.blank g.admg fun t => if g.names.contains t then (AG.empty g.admg).kind t else none := by
  rw [skel0, abs_filterLayers (MEG.fresh g.admg) fun t => g.names.contains t, abs_fresh]
  apply AG.ext' <;> intros <;> try rfl
  exact ite_self _

theorem skeleton_abs {g : MEG} (hk : g.KindOK) : g.skeleton.abs = AG.blank g.admg g.abs.kind := by
  rw [skeleton_eq, abs_foldl_step g.layers (fun p => GOp.addEdgeType p.1 p.2.kind [] []) (skel0_inv g), skel0_abs,
    AG.foldl_addType_blank]
  refine congrArg (AG.blank g.admg) (funext fun t => ?_)
  show _ = (List.lookup t g.layers).map (·.kind)
  by_cases hc : g.names.contains t = true
  · -- the pre-created kind agrees with the graph's kind by `KindOK`
    have hsome : (List.lookup t g.layers).isSome = true := by rw [lookup_isSome_iff]; exact hc
    obtain ⟨L, hL⟩ := Option.isSome_iff_exists.1 hsome
    simp only [hc, ite_true]
    cases hadmg : g.admg
    · simp [AG.empty, hL]
    · have := hk hadmg t L hL
      simp only [AG.empty, ite_true, hL, Option.map_some]
      by_cases h0 : t = 0
      · simp [h0, this.1 h0]
      · by_cases h1 : t = 1
        · simp [h1, this.2.1 h1]
        · by_cases h2 : t = 2
          · simp [h2, this.2.2 h2]
          · simp [h0, h1, h2]
  · simp only [hc, Bool.false_eq_true, ite_false]

end MEG

namespace Layer

theorem find_eq_some {L : Layer} (hw : L.WF) {e : (Nat × Nat) × Attr} (he : e ∈ L.edges) {x y : Nat}
    (hs : same L.kind e.1 (x, y) = true) : L.find x y = some e.2 := by
  unfold find
  cases hf : L.edges.find? (fun e => same L.kind e.1 (x, y)) with
  | none => simp only [List.find?_eq_none] at hf; exact absurd hs (hf e he)
  | some e0 =>
    have h0 : same L.kind e0.1 (x, y) = true := by simpa using List.find?_some hf
    have : e0 = e := hw.unique (List.mem_of_find?_eq_some hf) he (same_trans h0 (by rw [same_symm]; exact hs))
    simp [this]

end Layer

namespace MEG

theorem copy_hits {g : MEG} (hi : g.Inv) {S : AG} (hk : S.kind = g.abs.kind) {t : Nat} {L : Layer}
    (hL : g.layer? t = some L) (x y : Nat) :
    ((copyQuads g).any fun q => S.hit q t x y) = L.has x y ∧
    ∀ q ∈ copyQuads g, S.hit q t x y = true → ∃ e ∈ L.edges, e.2 = q.2.2.2 ∧ same L.kind e.1 (x, y) = true := by
  have hSk : S.kind t = some L.kind := by rw [hk]; exact abs_kind_of_layer hL
  have hw := hi.wf _ (layer_mem hL)
  have hhit : ∀ q ∈ copyQuads g, S.hit q t x y = true →
      ∃ e ∈ L.edges, e.2 = q.2.2.2 ∧ same L.kind e.1 (x, y) = true := by
    intro q hq hh
    obtain ⟨⟨t', L'⟩, hp, h1, _, hadj⟩ := mem_copyQuads.1 hq
    obtain ⟨hqt, h3⟩ := (AG.hit_iff hSk).1 hh
    obtain rfl : t' = t := h1.symm.trans hqt
    have hL' : g.layer? t' = some L' := lookup_of_mem hi.names hp
    obtain rfl : L = L' := Option.some.inj (hL.symm.trans hL')
    obtain ⟨e, he, ha, hs⟩ := Layer.mem_adj.1 hadj
    exact ⟨e, he, ha, same_trans hs (by rw [same_symm]; exact h3)⟩
  refine ⟨?_, hhit⟩
  rw [Bool.eq_iff_iff, List.any_eq_true]
  constructor
  · rintro ⟨q, hq, hh⟩
    obtain ⟨e, he, _, hs⟩ := hhit q hq hh
    exact Layer.has_iff.2 ⟨e, he, hs⟩
  · intro hh
    obtain ⟨e, he, hs⟩ := Layer.has_iff.1 hh
    refine ⟨(t, e.1.1, e.1.2, e.2), mem_copyQuads.2 ⟨(t, L), layer_mem hL, rfl, (hw.ends e he).1, ?_⟩, ?_⟩
    · exact Layer.mem_adj.2 ⟨e, he, rfl, same_refl _ _⟩
    · exact (AG.hit_iff hSk).2 ⟨rfl, by rw [same_symm]; exact hs⟩

/-- every call that hits the pair `x,y` carries the one dict stored for it -/
theorem copy_attrs {g : MEG} (hi : g.Inv) {S : AG} (hk : S.kind = g.abs.kind) {t : Nat} {L : Layer}
    (hL : g.layer? t = some L) (x y : Nat) :
    (copyQuads g).foldl (fun acc q => if S.hit q t x y then acc.upd q.2.2.2 else acc) AAttr.empty =
      attrOf (L.find x y) := by
  obtain ⟨hany, hall⟩ := copy_hits hi hk hL x y
  have hw := hi.wf _ (layer_mem hL)
  cases hf : L.find x y with
  | none =>
    have hh : L.has x y = false := by rw [← Layer.find_isSome, hf]; rfl
    rw [AG.foldl_upd_same (copyQuads g) (fun q => S.hit q t x y) [] (by
      intro q hq hhit
      obtain ⟨e, he, _, hs⟩ := hall q hq hhit
      rw [Layer.has_iff.2 ⟨e, he, hs⟩] at hh
      cases hh), hany, hh]
    rfl
  | some a0 =>
    have hh : L.has x y = true := by rw [← Layer.find_isSome, hf]; rfl
    rw [AG.foldl_upd_same (copyQuads g) (fun q => S.hit q t x y) a0 (by
      intro q hq hhit
      obtain ⟨e, he, hea, hs⟩ := hall q hq hhit
      have := Layer.find_eq_some hw he hs
      rw [hf] at this
      rw [← hea]; exact (Option.some.inj this).symm), hany, hh]
    funext k; simp [AAttr.upd, attrOf, AAttr.empty]

theorem abs_setgattr (G : MEG) (a : Attr) :
    ({ G with gattr := a } : MEG).abs = { G.abs with gattr := attrOf (some a) } := rfl

/-- **copy() returns an equal graph** – same node set, edge types, kinds, per-layer edge sets, and node,
    edge and graph attributes (for an ADMG: under the default kinds of its three default edge types) -/
theorem abs_copy {g : MEG} (hi : g.Inv) (hk : g.KindOK) : g.copy.abs = g.abs.copyS := by
  have hi0 : ({ g.skeleton with gattr := Attr.upd [] g.gattr } : MEG).Inv := (Inv.skeleton g).gattr _
  have hi1 := hi0.foldl_step g.nodes fun p => GOp.addNode p.1 p.2
  -- before the edges are copied: the nodes with their attributes, the edge types, no edges
  have h1 : (g.nodes.foldl (fun (G : MEG) p => (G.step (GOp.addNode p.1 p.2)).1)
        ({ g.skeleton with gattr := Attr.upd [] g.gattr } : MEG)).abs =
      { AG.blank g.admg g.abs.kind with
        node := fun x => g.nodeIds.contains x, nattr := fun x => attrOf (List.lookup x g.nodes),
        gattr := attrOf (some g.gattr) } := by
    rw [abs_foldl_step g.nodes _ hi0, abs_setgattr, skeleton_abs hk]
    refine (AG.foldl_addNodeS g.nodes _ hi.nodup fun _ _ => rfl).trans ?_
    apply AG.ext' <;> intros <;> try rfl
    · rename_i x; simp only [AG.blank]; cases List.lookup x g.nodes <;> rfl
    · show attrOf (some (Attr.upd [] g.gattr)) = _; simp [Attr.upd]
  rw [copy_eq, abs_foldl_step (copyQuads g) _ hi1, h1, AG.foldl_step_addEdge _ _ fun q hq => ?_]
  · apply AG.ext' <;> intros <;> try rfl
    · rename_i t x y
      show ((copyQuads g).any fun q => AG.hit _ q t x y) = match g.layer? t with | some L => L.has x y | none => false
      rcases Option.eq_none_or_eq_some (g.layer? t) with hL | ⟨L, hL⟩ <;> simp only [hL]
      · exact List.any_eq_false.2 fun q _ => by simp [AG.hit, AG.blank, abs, hL]
      · exact (copy_hits hi rfl hL x y).1
    · rename_i t x y
      show (copyQuads g).foldl _ AAttr.empty = match g.layer? t with | some L => attrOf (L.find x y) | none => .empty
      rcases Option.eq_none_or_eq_some (g.layer? t) with hL | ⟨L, hL⟩ <;> simp only [hL]
      · rw [AG.foldl_upd_same (copyQuads g) _ [] fun q _ hh => by simp [AG.hit, AG.blank, abs, hL] at hh,
          AAttr.upd_nil]
        exact ite_self _
      · exact copy_attrs hi rfl hL x y
  · -- every call joins two nodes of an existing layer
    obtain ⟨p, hp, h1, hu, hadj⟩ := mem_copyQuads.1 hq
    obtain ⟨e, he, _, hs⟩ := Layer.mem_adj.1 hadj
    have hwn : q.2.2.1 ∈ p.2.nodes := ((same_ends_iff hs (· ∈ p.2.nodes)).1 ((hi.wf p hp).ends e he)).2
    refine ⟨hasNode_iff.2 ((hi.sync p hp _).1 hu), hasNode_iff.2 ((hi.sync p hp _).1 hwn), ?_⟩
    show (g.abs.kind q.1).isSome = true
    rw [abs_kind_isSome, h1]
    simp only [names, List.contains_eq_mem, List.mem_map, decide_eq_true_eq]
    exact ⟨p, hp, rfl⟩

end MEG

end C02
