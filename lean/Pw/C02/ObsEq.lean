import Pw.C02.Step

/-! # C02: every set-valued or boolean read query of the model equals the specification query
(all fields of the observation record that are sets, relations or attribute maps; the counting fields
`number_of_edges`, `size`, `degree` need the counting argument of `Count.lean` and follow in `ObsFull.lean`) -/
namespace C02

theorem filterMap_congr' {α β} {l : List α} {f g : α → Option β} (h : ∀ x ∈ l, f x = g x) :
    l.filterMap f = l.filterMap g := by
  induction l with
  | nil => rfl
  | cons a l ih =>
    simp only [List.filterMap_cons, h a (by simp)]
    rw [ih fun x hx => h x (List.mem_cons_of_mem _ hx)]

namespace MEG

def NamesBelow (g : MEG) (m : Nat) : Prop := ∀ t ∈ g.names, t < m

theorem any_layers {g : MEG} (hi : g.Inv) {m : Nat} (hm : g.NamesBelow m) (p : Layer → Bool) :
    (g.layers.any fun q => p q.2) = (List.range m).any fun t => match g.layer? t with | some L => p L | none => false := by
  rw [Bool.eq_iff_iff]
  simp only [List.any_eq_true, List.mem_range]
  constructor
  · rintro ⟨⟨t, L⟩, hq, hp⟩
    refine ⟨t, hm t (by simp only [names, List.mem_map]; exact ⟨(t, L), hq, rfl⟩), ?_⟩
    have : g.layer? t = some L := lookup_of_mem hi.names hq
    simp [this, hp]
  · rintro ⟨t, _, h⟩
    rcases Option.eq_none_or_eq_some (g.layer? t) with hL | ⟨L, hL⟩
    · simp [hL] at h
    · simp only [hL] at h
      exact ⟨(t, L), layer_mem hL, h⟩

theorem hasEdgeAny_eq {g : MEG} (hi : g.Inv) {m : Nat} (hm : g.NamesBelow m) (u v : Nat) :
    g.hasEdgeAny u v = g.abs.hasEdgeAny m u v := by
  simp only [hasEdgeAny, AG.hasEdgeAny, abs]
  exact any_layers hi hm fun L => L.has u v

theorem neighbors_eq {g : MEG} (hi : g.Inv) {m : Nat} (hm : g.NamesBelow m) (v w : Nat) :
    (g.neighbors v).contains w = g.abs.neighbor m v w := by
  have h1 : (g.neighbors v).contains w = g.layers.any fun q => (q.2.allNeighbors v).contains w := by
    rw [Bool.eq_iff_iff]
    simp only [neighbors, List.contains_eq_mem, decide_eq_true_eq, List.mem_flatMap, List.any_eq_true]
  rw [h1, any_layers hi hm fun L => (L.allNeighbors v).contains w]
  simp only [AG.neighbor, abs]
  congr 1; funext t
  cases g.layer? t with
  | none => rfl
  | some L => exact Layer.mem_allNeighbors L v w

theorem adjPairs_eq {g : MEG} (hi : g.Inv) {m : Nat} (hm : g.NamesBelow m) (u v : Nat) :
    g.adjPairs.contains (u, v) = g.abs.hasEdgeAny m u v := by
  rw [← hasEdgeAny_eq hi hm]
  rw [Bool.eq_iff_iff]
  simp only [adjPairs, List.contains_eq_mem, decide_eq_true_eq, List.mem_flatMap, List.mem_map, Prod.mk.injEq,
    hasEdgeAny, List.any_eq_true]
  constructor
  · rintro ⟨q, hq, u', hu', va, hva, rfl, rfl⟩
    refine ⟨q, hq, ?_⟩
    rw [← Layer.adj_any]
    exact List.any_eq_true.2 ⟨va, hva, by simp⟩
  · rintro ⟨q, hq, h⟩
    rw [← Layer.adj_any] at h
    obtain ⟨va, hva, hw⟩ := List.any_eq_true.1 h
    refine ⟨q, hq, u, ?_, va, hva, rfl, by simpa using hw⟩
    -- `u` is a node of the layer because it is an endpoint of a stored edge
    have hh : q.2.has u v = true := by rw [← Layer.adj_any]; exact List.any_eq_true.2 ⟨va, hva, hw⟩
    obtain ⟨e, he, hs⟩ := Layer.has_iff.1 hh
    exact ((same_ends_iff hs (· ∈ q.2.nodes)).1 ((hi.wf q hq).ends e he)).1

theorem lobs_eq_partial {g : MEG} (hi : g.Inv) {t : Nat} {L : Layer} (hL : g.layer? t = some L) (n : Nat) :
    (L.obs t n).name = (g.abs.lobs t L.kind n).name ∧ (L.obs t n).kind = (g.abs.lobs t L.kind n).kind ∧
    (L.obs t n).lnodes = (g.abs.lobs t L.kind n).lnodes ∧ (L.obs t n).edges = (g.abs.lobs t L.kind n).edges ∧
    (L.obs t n).adj = (g.abs.lobs t L.kind n).adj ∧ (L.obs t n).hasT = (g.abs.lobs t L.kind n).hasT := by
  have hsync : ∀ v, L.nodes.contains v = g.abs.node v := by
    intro v
    rw [Bool.eq_iff_iff]
    simp only [List.contains_eq_mem, decide_eq_true_eq, abs, hasNode_iff]
    exact hi.sync _ (layer_mem hL) v
  have hnodes : (List.range n).filter L.nodes.contains = (List.range n).filter g.abs.node := by
    apply List.filter_congr; intro v _; exact hsync v
  refine ⟨rfl, rfl, hnodes, ?_, ?_, ?_⟩
  · simp only [Layer.obs, AG.lobs]
    apply filterMap_congr'
    intro p _
    split
    · rfl
    · rw [abs_edge_of_layer hL, abs_eattr_of_layer hL, ← Layer.find_isSome]
      cases L.find p.1 p.2 <;> rfl
  · simp only [Layer.obs, AG.lobs, hnodes]
    apply List.map_congr_left
    intro v _
    congr 1
    apply List.filter_congr
    intro w _
    rw [Layer.adj_any, abs_edge_of_layer hL]
  · simp only [Layer.obs, AG.lobs]
    apply List.map_congr_left
    intro p _
    rw [abs_edge_of_layer hL]

/-- the layer observations of model and specification agree under `F` as soon as they do for every stored layer -/
theorem obs_layers_map {g : MEG} {n : Nat} {β} (F : LObs → β)
    (h : ∀ t L, g.layer? t = some L → F (L.obs t n) = F (g.abs.lobs t L.kind n)) (m : Nat) :
    (g.obs n m).layers.map F = (g.abs.obs n m).layers.map F := by
  simp only [MEG.obs, AG.obs, List.map_filterMap]
  apply filterMap_congr'
  intro t _
  rw [show g.abs.kind t = (g.layer? t).map (·.kind) from rfl]
  cases hL : g.layer? t with
  | none => rfl
  | some L => exact congrArg some (h t L hL)

/-- **C02 observations (set-valued part)**: for a state with the invariant, every read query whose
    answer is a set, a relation or an attribute map – `nodes(data)`, `graph`, `has_edge` (any / per
    type), `get_edge_data`, `edges(data)`, `adj`, per-layer node sets, `neighbors`, `to_undirected`,
    `to_directed` – is answered from the abstract edge sets exactly as the specification says. -/
theorem obs_eq_partial {g : MEG} (hi : g.Inv) {m : Nat} (hm : g.NamesBelow m) (n : Nat) :
    (g.obs n m).nodes = (g.abs.obs n m).nodes ∧ (g.obs n m).gattr = (g.abs.obs n m).gattr ∧
    (g.obs n m).hasAny = (g.abs.obs n m).hasAny ∧ (g.obs n m).nbrs = (g.abs.obs n m).nbrs ∧
    (g.obs n m).toUnd = (g.abs.obs n m).toUnd ∧ (g.obs n m).toDir = (g.abs.obs n m).toDir ∧
    (g.obs n m).layers.map (fun o => (o.name, o.kind, o.lnodes, o.edges, o.adj, o.hasT)) =
      (g.abs.obs n m).layers.map (fun o => (o.name, o.kind, o.lnodes, o.edges, o.adj, o.hasT)) := by
  have hnode : ∀ v, g.nodeIds.contains v = g.abs.node v := fun v => rfl
  refine ⟨?_, rfl, ?_, ?_, ?_, ?_, ?_⟩
  · simp only [MEG.obs, AG.obs]
    apply filterMap_congr'
    intro v _
    have h1 : g.abs.node v = (List.lookup v g.nodes).isSome := by
      simp only [abs, hasNode, nodeIds]; exact (lookup_isSome_iff v g.nodes).symm
    have h2 : g.abs.nattr v = attrOf (List.lookup v g.nodes) := rfl
    rw [h1, h2]
    cases List.lookup v g.nodes <;> rfl
  · simp only [MEG.obs, AG.obs]
    apply List.map_congr_left
    intro p _
    exact hasEdgeAny_eq hi hm p.1 p.2
  · simp only [MEG.obs, AG.obs]
    apply List.map_congr_left
    intro v _
    congr 1
    apply List.filter_congr
    intro w _
    exact neighbors_eq hi hm v w
  · simp only [MEG.obs, AG.obs, AG.toUndirected]
    apply List.filter_congr
    intro p _
    rw [show p = (p.1, p.2) from rfl, adjPairs_eq hi hm, adjPairs_eq hi hm]
  · simp only [MEG.obs, AG.obs, AG.toDirected]
    apply List.filter_congr
    intro p _
    rw [show p = (p.1, p.2) from rfl, adjPairs_eq hi hm]
  · refine obs_layers_map _ (fun t L hL => ?_) m
    obtain ⟨h1, h2, h3, h4, h5, h6⟩ := lobs_eq_partial hi hL n
    simp only [Prod.mk.injEq]
    exact ⟨h1, h2, h3, h4, h5, h6⟩

end MEG
end C02
