import Pw.C02.LayerLemmas

/-! # C02: the container invariant under every mutation of one object

`MEG.Inv`: node ids duplicate-free, edge-type names duplicate-free, **every layer has exactly the
master node set**, every layer is well formed (**endpoints are nodes**, no edge stored twice).

Every mutation replaces the node list and transforms the layers (`remap`, `inv_remap`); the edge
mutations share what they do with their edge-type argument (`mapSel`). -/
namespace C02
namespace MEG

structure Inv (g : MEG) : Prop where
  nodup : g.nodeIds.Nodup
  names : g.names.Nodup
  sync : ∀ p ∈ g.layers, ∀ v, v ∈ p.2.nodes ↔ v ∈ g.nodeIds
  wf : ∀ p ∈ g.layers, p.2.WF

/-- all mutations have this shape: new node list, every layer transformed -/
def remap (g : MEG) (nodes' : List (Nat × Attr)) (f : Nat → Layer → Layer) : MEG :=
  { g with nodes := nodes', layers := g.layers.map fun p => (p.1, f p.1 p.2) }

theorem inv_remap {g : MEG} (hnames : g.names.Nodup) (nodes' : List (Nat × Attr)) (f : Nat → Layer → Layer)
    (hn : (nodes'.map (·.1)).Nodup)
    (hf : ∀ p ∈ g.layers, (f p.1 p.2).WF ∧ ∀ v, v ∈ (f p.1 p.2).nodes ↔ v ∈ nodes'.map (·.1)) :
    (g.remap nodes' f).Inv := by
  refine ⟨hn, ?_, ?_, ?_⟩
  · have : (g.remap nodes' f).names = g.names := by simp [MEG.remap, names, List.map_map, Function.comp_def]
    rw [this]; exact hnames
  · intro p hp v
    simp only [MEG.remap, List.mem_map] at hp
    obtain ⟨q, hq, rfl⟩ := hp
    exact (hf q hq).2 v
  · intro p hp
    simp only [MEG.remap, List.mem_map] at hp
    obtain ⟨q, hq, rfl⟩ := hp
    exact (hf q hq).1

theorem remap_remap (g : MEG) (n1 n2 : List (Nat × Attr)) (f1 f2 : Nat → Layer → Layer) :
    (g.remap n1 f1).remap n2 f2 = g.remap n2 fun t L => f2 t (f1 t L) := by
  simp only [MEG.remap, List.map_map, Function.comp_def]

theorem applyAll_eq (g : MEG) (f : Layer → Layer) : g.applyAll f = g.remap g.nodes fun _ => f := rfl
theorem setLayer_eq (g : MEG) (t : Nat) (L : Layer) :
    g.setLayer t L = g.remap g.nodes fun t' L' => if t' == t then L else L' := by
  simp only [setLayer, MEG.remap]
  congr 1
  apply List.map_congr_left
  intro p _; split <;> rfl

theorem hasNode_iff {g : MEG} {v : Nat} : g.hasNode v = true ↔ v ∈ g.nodeIds := by simp [hasNode]
theorem layer_mem {g : MEG} {t : Nat} {L : Layer} (h : g.layer? t = some L) : (t, L) ∈ g.layers := mem_of_lookup h

theorem Inv.gattr {g : MEG} (h : g.Inv) (a : Attr) : ({ g with gattr := a } : MEG).Inv :=
  ⟨h.nodup, h.names, h.sync, h.wf⟩

theorem Inv.filterLayers {g : MEG} (h : g.Inv) (P : Nat → Bool) :
    ({ g with layers := g.layers.filter fun p => P p.1 } : MEG).Inv :=
  ⟨h.nodup, (filter_ids g.layers P ▸ h.names.filter P : (List.map (·.1) (g.layers.filter fun p => P p.1)).Nodup),
    fun p hp => h.sync p (List.mem_filter.1 hp).1, fun p hp => h.wf p (List.mem_filter.1 hp).1⟩

theorem nodeIds_addNode (g : MEG) (v : Nat) (a : Attr) :
    (g.addNode v a).nodeIds = if g.hasNode v then g.nodeIds else g.nodeIds ++ [v] := by
  unfold addNode; simp only
  split
  · simp only [applyAll, nodeIds, List.map_map]
    apply List.map_congr_left; intro p _; simp only [Function.comp]; split <;> rfl
  · simp [applyAll, nodeIds]
theorem mem_nodeIds_addNode {g : MEG} {v x : Nat} {a : Attr} :
    x ∈ (g.addNode v a).nodeIds ↔ x ∈ g.nodeIds ∨ x = v := by
  rw [nodeIds_addNode]; split
  · rename_i h
    exact (or_iff_left_of_imp fun hx => hx ▸ hasNode_iff.1 h).symm
  · simp
theorem nodup_addNode {g : MEG} (h : g.nodeIds.Nodup) (v : Nat) (a : Attr) : (g.addNode v a).nodeIds.Nodup := by
  rw [nodeIds_addNode]; split
  · exact h
  · rename_i hh
    refine List.nodup_append.2 ⟨h, (by simp), fun x hx y hy hxy => hh (hasNode_iff.2 ?_)⟩
    rw [← List.mem_singleton.1 hy, ← hxy]; exact hx
theorem addNode_eq (g : MEG) (v : Nat) (a : Attr) :
    g.addNode v a = g.remap (g.addNode v a).nodes fun _ L => L.addNode v := by
  unfold addNode; simp only; split <;> rfl

theorem Inv.addNode {g : MEG} (h : g.Inv) (v : Nat) (a : Attr) : (g.addNode v a).Inv := by
  rw [addNode_eq]
  refine inv_remap h.names _ _ (nodup_addNode h.nodup v a) fun p hp => ⟨(h.wf p hp).addNode v, fun x => ?_⟩
  show _ ↔ x ∈ (g.addNode v a).nodeIds
  rw [Layer.mem_addNode, mem_nodeIds_addNode, h.sync p hp]

theorem Inv.addNodes {g : MEG} (h : g.Inv) (vs : List Nat) (a : Attr) : (g.addNodes vs a).Inv :=
  foldl_keeps vs (fun _ v _ h => h.addNode v a) h
theorem mem_nodeIds_addNodes {g : MEG} {vs : List Nat} {x : Nat} {a : Attr} :
    x ∈ (g.addNodes vs a).nodeIds ↔ x ∈ g.nodeIds ∨ x ∈ vs := by
  unfold addNodes
  induction vs generalizing g with
  | nil => simp
  | cons v vs ih => rw [List.foldl_cons, ih, mem_nodeIds_addNode, List.mem_cons, or_assoc]
theorem nodup_addNodes {g : MEG} (h : g.nodeIds.Nodup) (vs : List Nat) (a : Attr) :
    (g.addNodes vs a).nodeIds.Nodup :=
  foldl_keeps (P := fun g : MEG => g.nodeIds.Nodup) vs (fun _ v _ h => nodup_addNode h v a) h
theorem addNodes_eq (g : MEG) (vs : List Nat) (a : Attr) :
    g.addNodes vs a = g.remap (g.addNodes vs a).nodes fun _ L => L.addNodes vs := by
  induction vs generalizing g with
  | nil => simp [addNodes, Layer.addNodes, MEG.remap]
  | cons v vs ih =>
    have h : g.addNodes (v :: vs) a = (g.addNode v a).addNodes vs a := rfl
    rw [h, ih, addNode_eq, remap_remap, ← addNode_eq]; rfl

theorem Inv.ensureNode {g : MEG} (h : g.Inv) (v : Nat) (a : Attr) : (g.ensureNode v a).Inv := by
  unfold MEG.ensureNode; split
  · exact h
  · exact h.addNode v a
theorem mem_nodeIds_ensureNode {g : MEG} {v x : Nat} {a : Attr} :
    x ∈ (g.ensureNode v a).nodeIds ↔ x ∈ g.nodeIds ∨ x = v := by
  unfold ensureNode; split
  · rename_i h
    exact (or_iff_left_of_imp fun hx => hx ▸ hasNode_iff.1 h).symm
  · exact mem_nodeIds_addNode

theorem Inv.removeNodes {g : MEG} (h : g.Inv) (vs : List Nat) : (g.removeNodes vs).Inv := by
  show (g.remap (g.nodes.filter fun p => !vs.contains p.1) fun _ L => L.removeNodes vs).Inv
  have hids := filter_ids g.nodes fun x => !vs.contains x
  refine inv_remap h.names _ _ (hids ▸ h.nodup.filter _) fun p hp => ⟨(h.wf p hp).removeNodes vs, fun x => ?_⟩
  rw [Layer.mem_removeNodes_nodes, h.sync p hp, hids]
  simp [nodeIds, List.mem_filter]

theorem removeNodes_nil (g : MEG) : g.removeNodes [] = g := by
  have h1 : g.nodes.filter (fun p => !([] : List Nat).contains p.1) = g.nodes := List.filter_eq_self.2 fun _ _ => rfl
  have h2 : g.layers.map (fun p => (p.1, p.2.removeNodes [])) = g.layers :=
    (List.map_congr_left fun p _ => rfl).trans (List.map_id' _)
  simp only [removeNodes, applyAll, h1, h2]

theorem removeNodes_cons (g : MEG) (v : Nat) (vs : List Nat) :
    g.removeNodes (v :: vs) = (g.removeNodes [v]).removeNodes vs := by
  have h1 : (g.nodes.filter fun p => ![v].contains p.1).filter (fun p => !vs.contains p.1) =
      g.nodes.filter fun p => !(v :: vs).contains p.1 := by
    rw [List.filter_filter]
    refine List.filter_congr fun p _ => ?_
    simp only [List.contains_cons, List.contains_nil, Bool.or_false, Bool.not_or, Bool.and_comm]
  simp only [removeNodes, applyAll, List.map_map, h1]
  rfl

theorem removeNode_eq {g : MEG} (hw : ∀ p ∈ g.layers, p.2.WF) (v : Nat) :
    g.removeNode v = if g.hasNode v then (g.removeNodes [v], true) else (g, false) := by
  unfold removeNode
  split
  · have hn : g.nodes.filter (·.1 != v) = g.nodes.filter fun p => ![v].contains p.1 :=
      List.filter_congr fun p _ => by rw [List.contains_cons, List.contains_nil, Bool.or_false]; rfl
    have hl : g.layers.map (fun p => (p.1, (p.2.removeNode v).getD p.2)) =
        g.layers.map fun p => (p.1, p.2.removeNodes [v]) :=
      List.map_congr_left fun p hp => by rw [Layer.removeNode_eq _ _ (hw p hp)]; rfl
    simp only [removeNodes, applyAll, hn, hl]
  · rfl

theorem Inv.removeNode {g : MEG} (h : g.Inv) (v : Nat) : (g.removeNode v).1.Inv := by
  rw [removeNode_eq h.wf]; split
  · exact h.removeNodes [v]
  · exact h

/-- what the edge mutations do with their edge-type argument: `f` on every layer for `'all'`, on the
    named layer otherwise; an unknown name is rejected -/
def mapSel (g : MEG) (T : EType) (f : Layer → Layer) : MEG × Bool :=
  match T with
  | .all => (g.applyAll f, true)
  | .one t => match g.layer? t with
    | none => (g, false)
    | some L => (g.setLayer t (f L), true)

theorem addEdge_eq (g : MEG) (u v : Nat) (T : EType) (a : Attr) :
    g.addEdge u v T a = ((g.ensureNode u []).ensureNode v []).mapSel T (·.addEdge u v a) := by
  cases T <;> rfl
theorem addEdges_eq (g : MEG) (es : List (Nat × Nat)) (T : EType) (a : Attr) :
    g.addEdges es T a =
      (es.foldl (fun g e => (g.ensureNode e.1 a).ensureNode e.2 a) g).mapSel T (·.addEdges es a) := by
  cases T <;> rfl
theorem removeEdges_eq (g : MEG) (es : List (Nat × Nat)) (T : EType) :
    g.removeEdges es T = g.mapSel T (·.removeEdges es) := by
  cases T <;> rfl
theorem clearEdges_eq (g : MEG) (T : EType) : g.clearEdges T = g.mapSel T (·.clearEdges) := by
  cases T <;> rfl
theorem removeEdge_all (g : MEG) (u v : Nat) : g.removeEdge u v .all = g.mapSel .all (·.dropEdge u v) := by
  have : (fun L : Layer => (L.removeEdge u v).getD L) = (·.dropEdge u v) := funext fun L => Layer.removeEdge_eq L u v
  simp only [removeEdge, mapSel, this]
theorem removeEdge_one (g : MEG) (u v t : Nat) :
    g.removeEdge u v (.one t) =
      if g.hasEdgeT u v t = some true then g.mapSel (.one t) (·.dropEdge u v) else (g, false) := by
  simp only [removeEdge, mapSel, hasEdgeT]
  rcases Option.eq_none_or_eq_some (g.layer? t) with hL | ⟨L, hL⟩ <;> simp only [hL]
  · rfl
  · cases hh : L.has u v <;> simp [Layer.removeEdge, hh]

theorem Inv.mapSel {g : MEG} (h : g.Inv) (T : EType) {f : Layer → Layer} (hw : ∀ L : Layer, L.WF → (f L).WF)
    (hn : ∀ p ∈ g.layers, (f p.2).nodes = p.2.nodes) : (g.mapSel T f).1.Inv := by
  have hf : ∀ p ∈ g.layers, (f p.2).WF ∧ ∀ v, v ∈ (f p.2).nodes ↔ v ∈ g.nodeIds := fun p hp =>
    ⟨hw _ (h.wf p hp), fun v => by rw [hn p hp]; exact h.sync p hp v⟩
  cases T with
  | all => exact inv_remap h.names g.nodes (fun _ => f) h.nodup hf
  | one t =>
    simp only [MEG.mapSel]
    split
    · exact h
    · rename_i L hL
      rw [setLayer_eq]
      refine inv_remap h.names g.nodes (fun t' L' => if t' == t then f L else L') h.nodup fun p hp => ?_
      split
      · exact hf _ (layer_mem hL)
      · exact ⟨h.wf p hp, h.sync p hp⟩

theorem Inv.addEdge {g : MEG} (h : g.Inv) (u v : Nat) (t : EType) (a : Attr) : (g.addEdge u v t a).1.Inv := by
  rw [addEdge_eq]
  have h2 := (h.ensureNode u []).ensureNode v []
  refine h2.mapSel t (fun _ hw => hw.addEdge u v a) fun p hp => Layer.nodes_addEdge_of_mem ?_ ?_ a
  · rw [h2.sync p hp]
    simp [mem_nodeIds_ensureNode]
  · rw [h2.sync p hp]
    simp [mem_nodeIds_ensureNode]

theorem Inv.ensureNodes {g : MEG} (h : g.Inv) (es : List (Nat × Nat)) (a : Attr) :
    (es.foldl (fun g e => (g.ensureNode e.1 a).ensureNode e.2 a) g).Inv :=
  foldl_keeps es (fun _ e _ h => (h.ensureNode e.1 a).ensureNode e.2 a) h
theorem mem_nodeIds_ensureNodes {g : MEG} {es : List (Nat × Nat)} {a : Attr} {x : Nat} :
    x ∈ (es.foldl (fun g e => (g.ensureNode e.1 a).ensureNode e.2 a) g).nodeIds ↔
      x ∈ g.nodeIds ∨ ∃ e ∈ es, x = e.1 ∨ x = e.2 := by
  induction es generalizing g with
  | nil => simp
  | cons e es ih => simp only [List.foldl_cons, ih, mem_nodeIds_ensureNode, List.mem_cons, exists_eq_or_imp, or_assoc]

theorem Inv.addEdges {g : MEG} (h : g.Inv) (es : List (Nat × Nat)) (t : EType) (a : Attr) :
    (g.addEdges es t a).1.Inv := by
  rw [addEdges_eq]
  have h2 := h.ensureNodes es a
  refine h2.mapSel t (fun _ hw => hw.addEdges es a) fun p hp => Layer.nodes_addEdges_of_mem (fun e he => ?_) a
  simp only [h2.sync p hp, mem_nodeIds_ensureNodes]
  exact ⟨Or.inr ⟨e, he, Or.inl rfl⟩, Or.inr ⟨e, he, Or.inr rfl⟩⟩

theorem Inv.removeEdge {g : MEG} (h : g.Inv) (u v : Nat) (t : EType) : (g.removeEdge u v t).1.Inv := by
  have hd := fun T => h.mapSel T (f := (·.dropEdge u v)) (fun _ hw => hw.dropEdge u v) fun _ _ => rfl
  cases t with
  | all => rw [removeEdge_all]; exact hd .all
  | one t =>
    rw [removeEdge_one]; split
    · exact hd (.one t)
    · exact h

theorem Inv.removeEdges {g : MEG} (h : g.Inv) (es : List (Nat × Nat)) (t : EType) : (g.removeEdges es t).1.Inv := by
  rw [removeEdges_eq]
  exact h.mapSel t (fun _ hw => hw.removeEdges es) fun _ _ => Layer.nodes_removeEdges _ es

theorem Inv.clearEdges {g : MEG} (h : g.Inv) (t : EType) : (g.clearEdges t).1.Inv := by
  rw [clearEdges_eq]
  exact h.mapSel t (fun _ hw => hw.clearEdges) fun _ _ => rfl

theorem Inv.addEdgeType {g : MEG} (h : g.Inv) (t : Nat) (L : Layer) (hL : L.WF) : (g.addEdgeType t L).1.Inv := by
  unfold MEG.addEdgeType
  split
  · exact h
  · rename_i hc
    simp only
    -- the stored graph has received the master nodes; now every layer receives the stored graph's nodes
    have hL1 : (L.addNodes g.nodeIds).WF := hL.addNodes _
    have hsub : ∀ v ∈ g.nodeIds, v ∈ (L.addNodes g.nodeIds).nodes := fun v hv => Layer.mem_addNodes.2 (Or.inr hv)
    generalize L.addNodes g.nodeIds = L1 at hL1 hsub
    have hnames : (g.names ++ [t]).Nodup := List.nodup_append.2 ⟨h.names, (by simp), fun x hx y hy hxy =>
      hc (by rw [← List.mem_singleton.1 hy, ← hxy]; simpa using hx)⟩
    have hn1 := nodup_addNodes (g := { g with layers := g.layers ++ [(t, L1)] }) h.nodup L1.nodes []
    rw [addNodes_eq]
    refine inv_remap (by rw [MEG.names, List.map_append]; exact hnames) _ _ hn1 fun p hp => ?_
    have hp' : p.2.WF ∧ ∀ v, v ∈ p.2.nodes ∨ v ∈ L1.nodes ↔ v ∈ g.nodeIds ∨ v ∈ L1.nodes := by
      rcases List.mem_append.1 hp with hp | hp
      · exact ⟨h.wf p hp, fun v => by rw [h.sync p hp]⟩
      · cases List.mem_singleton.1 hp
        exact ⟨hL1, fun v => ⟨fun h' => Or.inr (h'.elim id id), fun h' => h'.elim (fun hv => Or.inl (hsub v hv)) Or.inr⟩⟩
    refine ⟨hp'.1.addNodes _, fun v => ?_⟩
    show _ ↔ v ∈ MEG.nodeIds _
    rw [Layer.mem_addNodes, mem_nodeIds_addNodes]
    exact hp'.2 v

theorem Inv.removeEdgeType {g : MEG} (h : g.Inv) (t : Nat) : (g.removeEdgeType t).1.Inv := by
  unfold MEG.removeEdgeType
  split
  · exact h.filterLayers (· != t)
  · exact h

theorem Inv.setGAttr {g : MEG} (h : g.Inv) (a : Attr) : (g.setGAttr a).Inv := h.gattr _

theorem Inv.fresh (admg : Bool) : (MEG.fresh admg).Inv := by
  unfold MEG.fresh; split
  · refine ⟨by simp [nodeIds], by simp [MEG.names], ?_, ?_⟩
    · intro p hp v; simp at hp; rcases hp with rfl | rfl | rfl <;> simp [nodeIds]
    · intro p hp; simp at hp; rcases hp with rfl | rfl | rfl <;> exact Layer.WF.empty _
  · exact ⟨by simp [nodeIds], by simp [MEG.names], by simp, by simp⟩

theorem Inv.step {g : MEG} (h : g.Inv) (op : GOp) : (g.step op).1.Inv := by
  cases op with
  | addNode v a => exact h.addNode v a
  | addNodes vs a => exact h.addNodes vs a
  | removeNode v => exact h.removeNode v
  | removeNodes vs => exact h.removeNodes vs
  | addEdge u v t a => exact h.addEdge u v t a
  | addEdges es t a => exact h.addEdges es t a
  | removeEdge u v t => exact h.removeEdge u v t
  | removeEdges es t => exact h.removeEdges es t
  | clearEdges t => exact h.clearEdges t
  | addEdgeType t k ns es => exact h.addEdgeType t _ (Layer.WF.build k ns es)
  | removeEdgeType t => exact h.removeEdgeType t
  | setGAttr a => exact h.setGAttr a

end MEG
end C02
