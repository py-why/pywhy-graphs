import Pw.C02.Inv

/-! # C02 frame property: a step only changes the object it addresses -/
namespace C02

/-- the handle whose object a step may change (`new`/`copy`/`subgraph` only allocate) -/
def Op.target : Op → Option Nat
  | .on h _ => some h
  | _ => none

/-- **frame**: a step leaves every live object other than its target literally unchanged (in
    particular `copy`/`subgraph` do not touch their source, and mutating a copy never shows in the
    original or vice versa) -/
theorem Store.frame (s : Store) (op : Op) (j : Nat) (hj : j < s.length) (hne : op.target ≠ some j) :
    (s.step op).1[j]? = s[j]? := by
  cases op with
  | new a => exact List.getElem?_append_left hj
  | on h op =>
    simp only [Store.step]
    split
    · rfl
    · exact List.getElem?_set_ne fun e => hne (congrArg some e)
  | copy h | subgraph h ns =>
    simp only [Store.step]
    split
    · rfl
    · exact List.getElem?_append_left hj

/-- handles are never invalidated -/
theorem Store.length_step (s : Store) (op : Op) : s.length ≤ (s.step op).1.length := by
  cases op <;> simp only [Store.step] <;> (try split) <;> simp

/-- the abstract store has the same frame property -/
theorem AStore.frame (s : AStore) (op : Op) (j : Nat) (hj : j < s.length) (hne : op.target ≠ some j) :
    (s.step op).1[j]? = s[j]? := by
  cases op with
  | new a => exact List.getElem?_append_left hj
  | on h op =>
    simp only [AStore.step]
    split
    · rfl
    · exact List.getElem?_set_ne fun e => hne (congrArg some e)
  | copy h | subgraph h ns =>
    simp only [AStore.step]
    split
    · rfl
    · exact List.getElem?_append_left hj

/-- a step on handle 1 leaves the object at handle 0 as it was -/
example : (Store.step [MEG.fresh true, MEG.fresh false] (.on 1 (.addNode 3 [])) ).1[0]? = some (MEG.fresh true) := by
  rfl

end C02
