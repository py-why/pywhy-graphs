import Pw.C02.ObsEq

/-! # C02: the counting queries (`number_of_edges`, `size`, `degree`) -/
namespace C02

theorem length_eq_countP {α} [DecidableEq α] {l U : List α} (hl : l.Nodup) (hU : U.Nodup) (hsub : ∀ x ∈ l, x ∈ U) :
    l.length = U.countP (fun x => decide (x ∈ l)) := by
  rw [List.countP_eq_length_filter]
  apply List.Perm.length_eq
  rw [List.perm_ext_iff_of_nodup hl (hU.filter _)]
  intro x
  simp only [List.mem_filter, decide_eq_true_eq]
  exact ⟨fun h => ⟨hsub x h, h⟩, fun h => h.2⟩

theorem sum_indicator (vs : List Nat) (x c : Nat) :
    (vs.map fun v => if (x == v) = true then c else 0).sum = c * vs.count x := by
  induction vs with
  | nil => rfl
  | cons v vs ih =>
    simp only [List.map_cons, List.sum_cons, ih, List.count_cons]
    by_cases h : x = v
    · subst h; simp [Nat.mul_add, Nat.add_comm]
    · have h1 : (x == v) = false := by simpa using h
      have h2 : (v == x) = false := by simpa using fun hc : v = x => h hc.symm
      simp [h1, h2]

theorem sum_map_zero {α} (l : List α) : (l.map fun _ => 0).sum = 0 := by
  rw [List.map_const', List.sum_replicate_nat, Nat.mul_zero]

theorem sum_add_map (vs : List Nat) (f g : Nat → Nat) :
    (vs.map fun v => f v + g v).sum = (vs.map f).sum + (vs.map g).sum := by
  induction vs with
  | nil => rfl
  | cons v vs ih => simp only [List.map_cons, List.sum_cons, ih]; omega

/-- every element of `es` is charged to exactly one node -/
theorem sum_countP_eq_length {β} (nodes : List Nat) (hn : nodes.Nodup) (es : List β) (f : β → Nat)
    (hf : ∀ e ∈ es, f e ∈ nodes) :
    (nodes.map fun v => es.countP fun e => f e == v).sum = es.length := by
  induction es with
  | nil => exact sum_map_zero nodes
  | cons e es ih =>
    have ih' := ih fun e he => hf e (List.mem_cons_of_mem _ he)
    have he : f e ∈ nodes := hf e (by simp)
    simp only [List.countP_cons, List.length_cons]
    rw [sum_add_map nodes (fun v => es.countP fun e => f e == v) (fun v => if (f e == v) = true then 1 else 0),
      ih', sum_indicator, List.Nodup.count hn, if_pos he]

/-- fiber counting: the selected elements of `es` are in bijection with their values -/
theorem fiber_count {β} (es : List β) (q : β → Bool) (val : β → Nat) (n : Nat)
    (hinj : es.Pairwise fun e f => q e = true → q f = true → val e ≠ val f)
    (hb : ∀ e ∈ es, q e = true → val e < n) (p : Nat → Bool)
    (hp : ∀ w, p w = true ↔ ∃ e ∈ es, q e = true ∧ val e = w) :
    es.countP q = (List.range n).countP p := by
  have hrow : ((es.filter q).map val).Nodup := by
    rw [List.Nodup, List.pairwise_map]
    refine (hinj.filter _).imp_of_mem ?_
    intro e f he hf hef hv
    simp only [List.mem_filter] at he hf
    exact hef he.2 hf.2 hv
  have hlen := length_eq_countP hrow (List.nodup_range (n := n)) (by
    intro w hw
    simp only [List.mem_map, List.mem_filter] at hw
    obtain ⟨e, ⟨he, hk⟩, rfl⟩ := hw
    exact List.mem_range.2 (hb e he hk))
  rw [List.length_map, ← List.countP_eq_length_filter] at hlen
  rw [hlen]
  apply List.countP_congr
  intro w _
  rw [hp w]
  simp only [decide_eq_true_eq, List.mem_map, List.mem_filter]
  constructor
  · rintro ⟨e, ⟨he, hk⟩, rfl⟩; exact ⟨e, he, hk, rfl⟩
  · rintro ⟨e, he, hk, rfl⟩; exact ⟨e, ⟨he, hk⟩, rfl⟩

theorem fiber_count_any {β} (es : List β) (q : β → Bool) (val : β → Nat) (n : Nat)
    (hinj : es.Pairwise fun e f => q e = true → q f = true → val e ≠ val f)
    (hb : ∀ e ∈ es, q e = true → val e < n) :
    es.countP q = (List.range n).countP fun w => es.any fun e => q e && val e == w :=
  fiber_count es q val n hinj hb _ fun w => by simp

theorem countP_or_and {β} (es : List β) (p q : β → Bool) :
    es.countP p + es.countP q = es.countP (fun e => p e || q e) + es.countP (fun e => p e && q e) := by
  induction es with
  | nil => rfl
  | cons e es ih =>
    simp only [List.countP_cons]
    cases p e <;> cases q e <;> simp <;> omega

def cfst (k : Kind) (e : Nat × Nat) : Nat := if k == .und then min e.1 e.2 else e.1
def csnd (k : Kind) (e : Nat × Nat) : Nat := if k == .und then max e.1 e.2 else e.2

theorem same_iff_canon (k : Kind) (e f : Nat × Nat) :
    same k e f = true ↔ cfst k e = cfst k f ∧ csnd k e = csnd k f := by
  obtain ⟨a, b⟩ := e; obtain ⟨c, d⟩ := f
  rw [same_iff]
  cases k
  · -- an unordered pair is known by its smaller and its larger member
    show (a = c ∧ b = d) ∨ (_ ∧ a = d ∧ b = c) ↔ min a b = min c d ∧ max a b = max c d
    constructor
    · rintro (⟨rfl, rfl⟩ | ⟨_, rfl, rfl⟩)
      · exact ⟨rfl, rfl⟩
      · exact ⟨Nat.min_comm _ _, Nat.max_comm _ _⟩
    · rintro ⟨h1, h2⟩
      rcases Nat.le_total a b with hab | hab <;> rcases Nat.le_total c d with hcd | hcd
      · rw [Nat.min_eq_left hab, Nat.min_eq_left hcd] at h1; rw [Nat.max_eq_right hab, Nat.max_eq_right hcd] at h2
        exact Or.inl ⟨h1, h2⟩
      · rw [Nat.min_eq_left hab, Nat.min_eq_right hcd] at h1; rw [Nat.max_eq_right hab, Nat.max_eq_left hcd] at h2
        exact Or.inr ⟨rfl, h1, h2⟩
      · rw [Nat.min_eq_right hab, Nat.min_eq_left hcd] at h1; rw [Nat.max_eq_left hab, Nat.max_eq_right hcd] at h2
        exact Or.inr ⟨rfl, h2, h1⟩
      · rw [Nat.min_eq_right hab, Nat.min_eq_right hcd] at h1; rw [Nat.max_eq_left hab, Nat.max_eq_left hcd] at h2
        exact Or.inl ⟨h2, h1⟩
  · show (a = c ∧ b = d) ∨ (Kind.dir = Kind.und ∧ _) ↔ a = c ∧ b = d
    exact ⟨fun h => h.elim id fun h => (nomatch h.1), Or.inl⟩

theorem canon_of_le {k : Kind} {u w : Nat} (h : k = .dir ∨ u ≤ w) : cfst k (u, w) = u ∧ csnd k (u, w) = w := by
  cases k
  · have h := h.resolve_left (fun h => nomatch h)
    exact ⟨Nat.min_eq_left h, Nat.max_eq_right h⟩
  · exact ⟨rfl, rfl⟩

namespace Layer

def Below (L : Layer) (n : Nat) : Prop := ∀ v ∈ L.nodes, v < n

theorem keys_inj {L : Layer} (hw : L.WF) :
    L.edges.Pairwise fun e f => ¬(cfst L.kind e.1 = cfst L.kind f.1 ∧ csnd L.kind e.1 = csnd L.kind f.1) := by
  refine hw.keys.imp ?_
  intro e f h hc
  rw [← same_iff_canon] at hc
  simp [hc] at h

/-- the counting predicate of the specification: ordered pairs for a directed layer, pairs `u ≤ v` otherwise -/
def cnt (L : Layer) (u v : Nat) : Bool := (L.kind == .dir || decide (u ≤ v)) && L.has u v

theorem cnt_iff (L : Layer) (u w : Nat) :
    L.cnt u w = true ↔ ∃ e ∈ L.edges, cfst L.kind e.1 = u ∧ csnd L.kind e.1 = w := by
  simp only [cnt, Bool.and_eq_true, Bool.or_eq_true, beq_iff_eq, decide_eq_true_eq, has_iff]
  constructor
  · rintro ⟨hk, e, he, hs⟩
    have hc := canon_of_le hk
    rw [same_iff_canon, hc.1, hc.2] at hs
    exact ⟨e, he, hs⟩
  · rintro ⟨e, he, h1, h2⟩
    have hk : L.kind = .dir ∨ u ≤ w := by
      cases hkk : L.kind
      · right; rw [← h1, ← h2, hkk]; exact Nat.le_trans (Nat.min_le_left _ _) (Nat.le_max_left _ _)
      · exact Or.inl rfl
    have hc := canon_of_le hk
    exact ⟨hk, e, he, by rw [same_iff_canon, hc.1, hc.2]; exact ⟨h1, h2⟩⟩

/-- **number_of_edges of one layer** = number of (canonical) pairs of the universe in the edge set -/
theorem numEdges_eq {L : Layer} (hw : L.WF) {n : Nat} (hb : L.Below n) :
    L.numEdges = ((List.range n).map fun u => (List.range n).countP fun v => L.cnt u v).sum := by
  have hlt : ∀ e ∈ L.edges, e.1.1 < n ∧ e.1.2 < n := fun e he =>
    ⟨hb _ (hw.ends e he).1, hb _ (hw.ends e he).2⟩
  rw [numEdges, ← sum_countP_eq_length (List.range n) List.nodup_range L.edges (fun e => cfst L.kind e.1)
    (by intro e he; have := hlt e he; simp only [List.mem_range, cfst]; split <;> omega)]
  congr 1
  apply List.map_congr_left
  intro u _
  apply fiber_count L.edges (fun e => cfst L.kind e.1 == u) (fun e => csnd L.kind e.1) n
    ((keys_inj hw).imp fun h h1 h2 h3 => h ⟨by simp only [beq_iff_eq] at h1 h2; rw [h1, h2], h3⟩)
  · intro e he _; have := hlt e he; simp only [csnd]; split <;> omega
  · intro w; rw [cnt_iff L u w]; simp

/-- handshake: the degree sum of a layer is twice its number of edges -/
theorem degree_sum {L : Layer} (hw : L.WF) : (L.nodes.map L.degree).sum = 2 * L.edges.length := by
  unfold degree
  rw [sum_add_map L.nodes (fun v => L.edges.countP fun e => e.1.1 == v) (fun v => L.edges.countP fun e => e.1.2 == v),
    sum_countP_eq_length L.nodes hw.nodup L.edges (fun e => e.1.1) (fun e he => (hw.ends e he).1),
    sum_countP_eq_length L.nodes hw.nodup L.edges (fun e => e.1.2) (fun e he => (hw.ends e he).2)]
  omega

/-- **degree of one layer**: directed = out + in; undirected = incident edges, a self loop twice -/
theorem degree_eq {L : Layer} (hw : L.WF) {n : Nat} (hb : L.Below n) (v : Nat) :
    L.degree v = match L.kind with
      | .dir => (List.range n).countP (fun w => L.has v w) + (List.range n).countP (fun w => L.has w v)
      | .und => (List.range n).countP (fun w => L.has v w) + (if L.has v v then 1 else 0) := by
  have hlt : ∀ e ∈ L.edges, e.1.1 < n ∧ e.1.2 < n := fun e he =>
    ⟨hb _ (hw.ends e he).1, hb _ (hw.ends e he).2⟩
  have hne : L.edges.Pairwise fun e f => e.1 ≠ f.1 :=
    hw.keys.imp fun h he => by rw [he, same_refl] at h; cases h
  -- stored keys with tail `v` are counted by their heads, stored keys with head `v` by their tails
  have hout := fiber_count_any L.edges (fun e => e.1.1 == v) (fun e => e.1.2) n
    (hne.imp fun h h1 h2 h3 => h (Prod.ext ((eq_of_beq h1).trans (eq_of_beq h2).symm) h3))
    fun e he _ => (hlt e he).2
  have hin := fiber_count_any L.edges (fun e => e.1.2 == v) (fun e => e.1.1) n
    (hne.imp fun h h1 h2 h3 => h (Prod.ext h3 ((eq_of_beq h1).trans (eq_of_beq h2).symm)))
    fun e he _ => (hlt e he).1
  rw [degree, hout, hin]
  cases hk : L.kind with
  | dir =>
    show _ = _ + _
    have hd : ∀ e f : Nat × Nat, same .dir e f = (e.1 == f.1 && e.2 == f.2) := fun e f => by simp [same]
    simp only [has, hk, hd, Bool.and_comm]
  | und =>
    show _ = _ + _
    rw [countP_or_and]
    congr 1
    · refine List.countP_congr fun w _ => ?_
      simp only [has, same, hk, Bool.or_eq_true, List.any_eq_true, Bool.and_eq_true, beq_iff_eq, beq_self_eq_true,
        true_and]
      constructor
      · rintro (⟨e, he, h⟩ | ⟨e, he, h1, h2⟩)
        · exact ⟨e, he, Or.inl h⟩
        · exact ⟨e, he, Or.inr ⟨h2, h1⟩⟩
      · rintro ⟨e, he, h | ⟨h1, h2⟩⟩
        · exact Or.inl ⟨e, he, h⟩
        · exact Or.inr ⟨e, he, h2, h1⟩
    · -- both orientations are stored only for a self loop, and then once
      have hboth : ∀ w, ((L.edges.any fun e => e.1.1 == v && e.1.2 == w) && L.edges.any fun e => e.1.2 == v && e.1.1 == w) =
          (w == v && L.has v v) := by
        intro w
        rw [Bool.eq_iff_iff]
        simp only [Bool.and_eq_true, List.any_eq_true, beq_iff_eq, has_iff]
        constructor
        · rintro ⟨⟨e, he, h1, h2⟩, f, hf, h3, h4⟩
          have hef : e = f := hw.unique he hf (by simp [same, hk, h1, h2, h3, h4])
          have hwv : w = v := by rw [← h2, hef, h3]
          exact ⟨hwv, e, he, by simp [same, h1, h2, hwv]⟩
        · rintro ⟨rfl, e, he, hs⟩
          rcases same_ends hs with h | h <;> exact ⟨⟨e, he, h.1, h.2⟩, e, he, h.2, h.1⟩
      simp only [hboth]
      cases hvv : L.has v v
      · simp
      · obtain ⟨e, he, hs⟩ := has_iff.1 hvv
        have hvn : v ∈ List.range n := List.mem_range.2 ((same_ends_iff hs (· < n)).1 (hlt e he)).1
        simp only [Bool.and_true, ite_true]
        have := List.Nodup.count (a := v) (List.nodup_range (n := n))
        rw [if_pos hvn] at this
        rw [← this, List.count_eq_countP]

end Layer
end C02
