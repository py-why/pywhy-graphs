import Pw.C02.Copy

/-! # C02: `abs (subgraph g ns) = induced abstract state` -/
namespace C02

namespace MEG

theorem sub_hits {g : MEG} {ns : List Nat} {ls : List (Nat × Layer)} {S : AG}
    (hk : S.kind = g.abs.kind) (hls : ∀ t, (g.layer? t).isSome = true → ∃ p ∈ ls, p.1 = t)
    {t : Nat} {L : Layer} (hL : g.layer? t = some L) (x y : Nat) :
    ((subQuads g ns ls).any fun q => S.hit q t x y) = (L.has x y && ns.contains x && ns.contains y) := by
  have hSk : S.kind t = some L.kind := by rw [hk]; exact abs_kind_of_layer hL
  rw [Bool.eq_iff_iff, List.any_eq_true]
  simp only [Bool.and_eq_true, List.contains_eq_mem, decide_eq_true_eq]
  constructor
  · rintro ⟨q, hq, hh⟩
    obtain ⟨p, _, L', hL', h1, hu, hw, _, a, hadj⟩ := mem_subQuads.1 hq
    obtain ⟨hqt, h3⟩ := (AG.hit_iff hSk).1 hh
    have : L' = L := by
      rw [← h1, hqt, hL] at hL'; exact (Option.some.inj hL').symm
    subst this
    obtain ⟨e, he, _, hs⟩ := Layer.mem_adj.1 hadj
    obtain ⟨hx, hy⟩ := (same_ends_iff h3 (· ∈ ns)).2 ⟨hu, hw⟩
    exact ⟨⟨Layer.has_iff.2 ⟨e, he, same_trans hs (by rw [same_symm]; exact h3)⟩, hx⟩, hy⟩
  · rintro ⟨⟨hh, hx⟩, hy⟩
    obtain ⟨e, he, hs⟩ := Layer.has_iff.1 hh
    obtain ⟨p, hp, hpt⟩ := hls t (by simp [hL])
    obtain ⟨hu, hw⟩ := (same_ends_iff hs (· ∈ ns)).2 ⟨hx, hy⟩
    refine ⟨(t, e.1.1, e.1.2, []), mem_subQuads.2 ⟨p, hp, L, by rw [hpt]; exact hL, hpt.symm, hu, hw, rfl, e.2, ?_⟩, ?_⟩
    · exact Layer.mem_adj.2 ⟨e, he, rfl, same_refl _ _⟩
    · exact (AG.hit_iff hSk).2 ⟨rfl, by rw [same_symm]; exact hs⟩

/-- **subgraph(nodes) has exactly the given nodes and the edges of every type between them** (same edge
    types and kinds, graph attributes kept, no node or edge attributes) -/
theorem abs_subgraph {g : MEG} (hi : g.Inv) (hk : g.KindOK) (ns : List Nat) :
    (g.subgraph ns).abs = g.abs.subgraphS ns := by
  have hi1 := ((Inv.skeleton g).gattr (Attr.upd [] g.gattr)).addNodes ns []
  -- before the edges are inserted: the given nodes, the edge types, no edges
  have h1 : (({ g.skeleton with gattr := Attr.upd [] g.gattr } : MEG).addNodes ns []).abs =
      { AG.blank g.admg g.abs.kind with node := fun x => ns.contains x, gattr := attrOf (some g.gattr) } := by
    rw [abs_addNodes, foldl_addNodeS_nil, abs_setgattr, skeleton_abs hk]
    apply AG.ext' <;> intros <;> try rfl
    show attrOf (some (Attr.upd [] g.gattr)) = _; simp [Attr.upd]
  rw [subgraph_eq]
  simp only
  generalize ({ g.skeleton with gattr := Attr.upd [] g.gattr } : MEG).addNodes ns [] = G1 at hi1 h1
  have hls : ∀ t, (g.layer? t).isSome = true → ∃ p ∈ G1.layers, p.1 = t := fun t ht => by
    have : (G1.abs.kind t).isSome = true := by rw [h1]; simpa [abs, AG.blank] using ht
    rw [abs_kind_isSome] at this
    exact List.mem_map.1 (List.contains_iff_mem.1 this)
  rw [abs_foldl_step _ _ hi1, h1, AG.foldl_step_addEdge _ _ fun q hq => ?_]
  · apply AG.ext' <;> intros <;> try rfl
    · rename_i t x y
      show ((subQuads g ns G1.layers).any fun q => AG.hit _ q t x y) =
        ((match g.layer? t with | some L => L.has x y | none => false) && ns.contains x && ns.contains y)
      rcases Option.eq_none_or_eq_some (g.layer? t) with hL | ⟨L, hL⟩ <;> simp only [hL]
      · exact List.any_eq_false.2 fun q _ => by simp [AG.hit, AG.blank, abs, hL]
      · exact sub_hits rfl hls hL x y
    · rename_i t x y
      show (subQuads g ns G1.layers).foldl _ AAttr.empty = AAttr.empty
      rw [AG.foldl_upd_same _ _ [] fun q hq _ =>
        let ⟨_, _, _, _, _, _, _, ha, _⟩ := mem_subQuads.1 hq; ha,
        AAttr.upd_nil]
      exact ite_self _
  · obtain ⟨p, hp, L, hL, h1, hu, hw, _⟩ := mem_subQuads.1 hq
    refine ⟨by simpa using hu, by simpa using hw, ?_⟩
    show (g.abs.kind q.1).isSome = true
    rw [h1]; simp [abs, hL]

end MEG
end C02
