import Pw.C02.Refine

/-! # C02: `abs (g.step op) = (abs g).step op` for every public mutation -/
namespace C02
namespace MEG

theorem abs_addNodes (g : MEG) (vs : List Nat) (a : Attr) :
    (g.addNodes vs a).abs = vs.foldl (fun s v => s.addNodeS v a) g.abs := by
  unfold addNodes
  induction vs generalizing g with
  | nil => rfl
  | cons v vs ih => simp only [List.foldl_cons, ih, abs_addNode]

theorem abs_ensureNodes (g : MEG) (es : List (Nat × Nat)) (a : Attr) :
    (es.foldl (fun g e => (g.ensureNode e.1 a).ensureNode e.2 a) g).abs =
      es.foldl (fun s e => (s.ensureS e.1 a).ensureS e.2 a) g.abs := by
  induction es generalizing g with
  | nil => rfl
  | cons e es ih => simp only [List.foldl_cons, ih, abs_ensureNode]

theorem abs_removeNodes_single (g : MEG) (v : Nat) : (g.removeNodes [v]).abs = g.abs.dropNodeS v := by
  have hn : (g.nodes.filter fun p => ![v].contains p.1) = g.nodes.filter fun p => p.1 != v :=
    List.filter_congr fun p _ => by rw [List.contains_cons, List.contains_nil, Bool.or_false]; rfl
  unfold removeNodes
  rw [hn]
  have h : LayersBy { g with nodes := g.nodes.filter fun p => p.1 != v }
      (({ g with nodes := g.nodes.filter fun p => p.1 != v } : MEG).applyAll (·.dropNode v))
      (selF .all (·.dropNode v)) := LayersBy.applyAll _ _
  refine h.abs_eq (a := g.abs.dropNodeS v) rfl ?_ ?_ rfl (fun t hL => ?_) (fun t L hL => ?_)
  · funext x
    simp only [AG.dropNodeS, abs, hasNode, nodeIds, filter_ids g.nodes (· != v)]
    rw [Bool.eq_iff_iff]; simp [List.mem_filter]
  · funext x
    simp only [AG.dropNodeS, abs, lookup_filter_key g.nodes (· != v)]
    by_cases hx : (x == v) = true <;> simp [bne, hx]
  · have hL' : g.layer? t = none := hL
    simp only [AG.dropNodeS, abs, hL', Option.map_none, Bool.false_and, ite_self, and_self, implies_true]
  · have hL' : g.layer? t = some L := hL
    refine ⟨by simp only [AG.dropNodeS, abs, hL', Option.map_some, selF, AG.sel, ite_true, Layer.kind_dropNode],
      fun x y => ⟨?_, ?_⟩⟩
    · simp only [AG.dropNodeS, abs, hL', selF, AG.sel, ite_true, Layer.has_dropNode]
    · simp only [AG.dropNodeS, abs, hL', selF, AG.sel, ite_true, Layer.find_dropNode]
      split <;> rfl

theorem abs_removeNodes (g : MEG) (vs : List Nat) : (g.removeNodes vs).abs = vs.foldl AG.dropNodeS g.abs := by
  induction vs generalizing g with
  | nil => rw [removeNodes_nil]; rfl
  | cons v vs ih => rw [removeNodes_cons, ih, abs_removeNodes_single]; rfl

theorem abs_filterLayers (g : MEG) (P : Nat → Bool) :
    ({ g with layers := g.layers.filter fun p => P p.1 } : MEG).abs =
      { g.abs with kind := fun t => if P t then g.abs.kind t else none,
                   edge := fun t x y => g.abs.edge t x y && P t,
                   eattr := fun t x y => if P t then g.abs.eattr t x y else .empty } := by
  have hl := lookup_filter_key g.layers P
  apply AG.ext'
  · rfl
  · intro x; rfl
  · intro t; simp only [abs, layer?, hl]; cases P t <;> rfl
  · intro t x y; simp only [abs, layer?, hl]; cases P t <;> simp
  · intro x; rfl
  · intro t x y; simp only [abs, layer?, hl]; cases P t <;> rfl
  · rfl

theorem abs_removeEdgeType (g : MEG) (t : Nat) :
    ({ g with layers := g.layers.filter (·.1 != t) } : MEG).abs =
      { g.abs with kind := fun t' => if t' == t then none else g.abs.kind t',
                   edge := fun t' x y => g.abs.edge t' x y && t' != t,
                   eattr := fun t' x y => if t' == t then .empty else g.abs.eattr t' x y } := by
  rw [abs_filterLayers g (· != t)]
  apply AG.ext'
  · rfl
  · intro _; rfl
  · intro t'; by_cases h : t' = t <;> simp [bne, h]
  · intro _ _ _; rfl
  · intro _; rfl
  · intro t' _ _; by_cases h : t' = t <;> simp [bne, h]
  · rfl

theorem abs_setGAttr (g : MEG) (a : Attr) : (g.setGAttr a).abs = { g.abs with gattr := g.abs.gattr.upd a } := by
  apply AG.ext' <;> try (intros; rfl)
  exact attrOf_upd (some g.gattr) a

theorem AAttr.upd_nil (a : AAttr) : a.upd [] = a := by funext k; simp [AAttr.upd, Attr.get]

theorem foldl_addNodeS_nil (a : AG) (vs : List Nat) :
    vs.foldl (fun s v => s.addNodeS v []) a = { a with node := fun x => a.node x || vs.contains x } := by
  induction vs generalizing a with
  | nil => simp
  | cons v vs ih =>
    simp only [List.foldl_cons, ih]
    apply AG.ext' <;> try (intros; rfl)
    · intro x; simp only [AG.addNodeS, List.contains_cons, Bool.or_assoc]
    · intro x; simp only [AG.addNodeS, AAttr.upd_nil]; split <;> rfl

/-- a graph built from bare nodes and edges carries no edge attributes -/
theorem _root_.C02.Layer.attrOf_find_build (k : Kind) (ns : List Nat) (es : List (Nat × Nat)) (x y : Nat) :
    attrOf ((Layer.build k ns es).find x y) = AAttr.empty := by
  unfold Layer.build Layer.addEdges
  have h0 : ∀ x y, attrOf ((({ kind := k } : Layer).addNodes ns).find x y) = AAttr.empty := fun x y => by
    simp only [Layer.find, Layer.edges_addNodes, List.find?_nil, Option.map_none, attrOf_none]
  generalize ({ kind := k } : Layer).addNodes ns = L at h0
  induction es generalizing L with
  | nil => exact h0 x y
  | cons e es ih =>
    refine ih _ fun x y => ?_
    rw [Layer.find_addEdge]
    split
    · rw [attrOf_upd, h0, AAttr.upd_nil]
    · exact h0 x y

theorem abs_addEdgeType {g : MEG} (t : Nat) (k : Kind) (ns : List Nat) (es : List (Nat × Nat))
    (ht : g.names.contains t = false) :
    (g.addEdgeType t (Layer.build k ns es)).1.abs =
      { g.abs with kind := fun t' => if t' == t then some k else g.abs.kind t',
                   node := fun x => g.abs.node x || ns.contains x || es.any fun e => x == e.1 || x == e.2,
                   edge := fun t' x y => if t' == t then es.any fun e => sameP k x y e.1 e.2 else g.abs.edge t' x y } := by
  unfold addEdgeType
  simp only [ht, Bool.false_eq_true, ite_false, abs_addNodes, foldl_addNodeS_nil]
  have htn : t ∉ g.layers.map (·.1) := fun h => by
    rw [names, List.contains_eq_mem, decide_eq_true h] at ht; cases ht
  have hlt : List.lookup t g.layers = none := lookup_none_of_not_mem htn
  apply AG.ext'
  · rfl
  · intro x
    simp only [abs, hasNode, nodeIds]
    rw [Bool.eq_iff_iff]
    simp only [Bool.or_eq_true, List.contains_eq_mem, decide_eq_true_eq, Layer.mem_addNodes, Layer.mem_build_nodes,
      List.any_eq_true, beq_iff_eq]
    constructor
    · rintro (h | (h | h) | h)
      · exact Or.inl (Or.inl h)
      · exact Or.inl (Or.inr h)
      · exact Or.inr h
      · exact Or.inl (Or.inl h)
    · rintro ((h | h) | h)
      · exact Or.inl h
      · exact Or.inr (Or.inl (Or.inl h))
      · exact Or.inr (Or.inl (Or.inr h))
  · intro t'; simp only [abs, layer?, lookup_append_single _ _ _ _ htn]; split <;> simp [Layer.build]
  · intro t' x y; simp only [abs, layer?, lookup_append_single _ _ _ _ htn]
    by_cases h : (t' == t) = true
    · simp only [h, ite_true, Layer.has_addNodes, Layer.has_build]
      rfl
    · have h' : (t' == t) = false := by simpa using h
      simp only [h', Bool.false_eq_true, ite_false]
  · intro x; rfl
  · intro t' x y; simp only [abs, layer?, lookup_append_single _ _ _ _ htn]
    by_cases h : (t' == t) = true
    · simp only [h, ite_true]
      have : t' = t := by simpa using h
      subst this
      rw [hlt]
      simp only [Layer.find, Layer.kind_addNodes, Layer.edges_addNodes]
      exact Layer.attrOf_find_build k ns es x y
    · have h' : (t' == t) = false := by simpa using h
      simp only [h', Bool.false_eq_true, ite_false]
  · rfl

theorem abs_kind_isSome (g : MEG) (t : Nat) : (g.abs.kind t).isSome = g.names.contains t := by
  simp only [abs, Option.isSome_map, layer?, names]; exact lookup_isSome_iff t g.layers

theorem hasEdgeT_eq_some_true (g : MEG) (u v t : Nat) :
    g.hasEdgeT u v t = some true ↔ ((g.abs.kind t).isSome && g.abs.edge t u v) = true := by
  simp only [hasEdgeT, abs]; cases g.layer? t <;> simp

/-- **C02 refinement (one step)**: every public mutation of a `MixedEdgeGraph`/`ADMG` object acts on
    the abstract state (node set, per-layer edge sets, attributes) exactly as the specification says,
    and it raises exactly when the specification says so. -/
theorem abs_step {g : MEG} (hi : g.Inv) (op : GOp) :
    (g.step op).1.abs = (g.abs.step op).1 ∧ (g.step op).2 = (g.abs.step op).2 := by
  cases op with
  | addNode v a => exact ⟨abs_addNode g v a, rfl⟩
  | addNodes vs a => exact ⟨abs_addNodes g vs a, rfl⟩
  | removeNode v =>
    -- removing a present node is `remove_nodes_from [v]`
    simp only [MEG.step, AG.step, removeNode_eq hi.wf]
    rw [show g.abs.node v = g.hasNode v from rfl]
    split
    · exact ⟨abs_removeNodes g [v], rfl⟩
    · exact ⟨rfl, rfl⟩
  | removeNodes vs => exact ⟨abs_removeNodes g vs, rfl⟩
  | addEdge u v t a =>
    simp only [MEG.step, AG.step, addEdge_eq]
    rw [← abs_ensureNode, ← abs_ensureNode]
    exact abs_mapSel fun _ h => abs_putEdge h
  | addEdges es t a =>
    simp only [MEG.step, AG.step, addEdges_eq]
    rw [← abs_ensureNodes]
    exact abs_mapSel fun _ h => abs_addEdges h
  | removeEdge u v t =>
    cases t with
    | all =>
      simp only [MEG.step, AG.step, removeEdge_all]
      exact abs_mapSel (T := .all) fun _ h => abs_dropEdge h
    | one t =>
      simp only [MEG.step, AG.step, removeEdge_one, hasEdgeT_eq_some_true]
      split
      · rename_i hc
        have hk : g.abs.known (.one t) = true := (Bool.and_eq_true_iff.1 hc).1
        have := abs_mapSel (g := g) (T := .one t) fun _ h => abs_dropEdge (u := u) (v := v) h
        rwa [if_pos hk] at this
      · exact ⟨rfl, rfl⟩
  | removeEdges es t =>
    simp only [MEG.step, AG.step, removeEdges_eq]
    exact abs_mapSel fun _ h => abs_removeEdges h
  | clearEdges t =>
    simp only [MEG.step, AG.step, clearEdges_eq]
    exact abs_mapSel fun _ h => abs_clearEdges h
  | addEdgeType t k ns es =>
    simp only [MEG.step, AG.step, abs_kind_isSome]
    by_cases ht : g.names.contains t = true
    · have hm : t ∈ g.names := by simpa using ht
      simp [hm, addEdgeType]
    · have ht' : g.names.contains t = false := by simpa using ht
      have hm : t ∉ g.names := by simpa using ht
      simp only [ht', Bool.false_eq_true, ite_false]
      exact ⟨abs_addEdgeType t k ns es ht', by simp [addEdgeType, hm]⟩
  | removeEdgeType t =>
    simp only [MEG.step, AG.step, abs_kind_isSome, removeEdgeType]
    by_cases ht : g.names.contains t = true
    · simp only [ht, ite_true, and_true]; exact abs_removeEdgeType g t
    · have hm : t ∉ g.names := by simpa using ht
      simp [hm]
  | setGAttr a => exact ⟨abs_setGAttr g a, rfl⟩

end MEG
end C02
