import Pw.C02.Subgraph

/-! # C02: the unconditional refinement theorem over all histories (default kinds for the ADMG names) -/
namespace C02

/-- `add_edge_type` uses the default kind for the three names an ADMG pre-creates
    (0 = directed → DiGraph, 1 = bidirected → Graph, 2 = undirected → Graph); this is the
    quantifier of C02 ("the default edge-type names and all four layer kinds") -/
def GOp.WellKinded : GOp → Prop
  | .addEdgeType t k _ _ => (t = 0 → k = .dir) ∧ (t = 1 → k = .und) ∧ (t = 2 → k = .und)
  | _ => True

def Op.WellKinded : Op → Prop
  | .on _ op => op.WellKinded
  | _ => True

namespace AG

def KindOK (a : AG) : Prop :=
  a.admg = true → (∀ k, a.kind 0 = some k → k = .dir) ∧ (∀ k, a.kind 1 = some k → k = .und) ∧
    (∀ k, a.kind 2 = some k → k = .und)

theorem foldl_keep {β} (l : List β) (f : AG → β → AG) (h : ∀ a b, (f a b).kind = a.kind ∧ (f a b).admg = a.admg)
    (a : AG) : (l.foldl f a).kind = a.kind ∧ (l.foldl f a).admg = a.admg :=
  foldl_keeps (P := fun b => b.kind = a.kind ∧ b.admg = a.admg) l
    (fun b x _ hb => ⟨(h b x).1.trans hb.1, (h b x).2.trans hb.2⟩) ⟨rfl, rfl⟩

theorem ensureS_keep (a : AG) (v : Nat) (at' : Attr) : (a.ensureS v at').kind = a.kind ∧ (a.ensureS v at').admg = a.admg := by
  unfold ensureS; split <;> exact ⟨rfl, rfl⟩

/-- a step keeps the class flag, and a layer that exists after it either existed before with the same kind
    or is the one `add_edge_type` has just been given -/
theorem step_keep (a : AG) (op : GOp) :
    (a.step op).1.admg = a.admg ∧ ∀ t' k', (a.step op).1.kind t' = some k' →
      a.kind t' = some k' ∨ ∃ ns es, op = .addEdgeType t' k' ns es := by
  have keep : ∀ {b : AG}, b.kind = a.kind ∧ b.admg = a.admg →
      b.admg = a.admg ∧ ∀ t' k', b.kind t' = some k' → a.kind t' = some k' ∨ ∃ ns es, op = .addEdgeType t' k' ns es :=
    fun hb => ⟨hb.2, fun _ _ h => Or.inl (hb.1 ▸ h)⟩
  cases op with
  | addNode v at' => exact keep ⟨rfl, rfl⟩
  | addNodes vs at' => exact keep (foldl_keep vs (fun a v => a.addNodeS v at') (fun _ _ => ⟨rfl, rfl⟩) a)
  | removeNode v => refine keep ?_; simp only [AG.step]; split <;> exact ⟨rfl, rfl⟩
  | removeNodes vs => exact keep (foldl_keep vs dropNodeS (fun _ _ => ⟨rfl, rfl⟩) a)
  | addEdge u v t at' =>
    refine keep ?_
    simp only [AG.step]
    have h1 := ensureS_keep a u []
    have h2 := ensureS_keep (a.ensureS u []) v []
    split <;> exact ⟨h2.1.trans h1.1, h2.2.trans h1.2⟩
  | addEdges es t at' =>
    refine keep ?_
    simp only [AG.step]
    have h1 := foldl_keep es (fun a e => (a.ensureS e.1 at').ensureS e.2 at')
      (fun a e => ⟨(ensureS_keep _ _ _).1.trans (ensureS_keep _ _ _).1, (ensureS_keep _ _ _).2.trans (ensureS_keep _ _ _).2⟩) a
    split
    · have h2 := foldl_keep es (fun a e => a.putEdge t e.1 e.2 at') (fun _ _ => ⟨rfl, rfl⟩)
        (es.foldl (fun a e => (a.ensureS e.1 at').ensureS e.2 at') a)
      exact ⟨h2.1.trans h1.1, h2.2.trans h1.2⟩
    · exact h1
  | removeEdge u v t =>
    refine keep ?_
    simp only [AG.step]
    cases t with
    | all => exact ⟨rfl, rfl⟩
    | one t' => simp only; split <;> exact ⟨rfl, rfl⟩
  | removeEdges es t =>
    refine keep ?_
    simp only [AG.step]
    split
    · exact foldl_keep es (fun a e => a.dropEdgeS t e.1 e.2) (fun _ _ => ⟨rfl, rfl⟩) a
    · exact ⟨rfl, rfl⟩
  | clearEdges t => refine keep ?_; simp only [AG.step]; split <;> exact ⟨rfl, rfl⟩
  | addEdgeType t k ns es =>
    by_cases ht : (a.kind t).isSome = true
    · rw [show a.step (.addEdgeType t k ns es) = (a, false) from if_pos ht]
      exact keep ⟨rfl, rfl⟩
    · rw [show a.step (.addEdgeType t k ns es) = (_, true) from if_neg ht]
      refine ⟨rfl, fun t' k' h => ?_⟩
      simp only at h
      split at h
      · rename_i heq
        cases h; cases eq_of_beq heq
        exact Or.inr ⟨ns, es, rfl⟩
      · exact Or.inl h
  | removeEdgeType t =>
    by_cases ht : (a.kind t).isSome = true
    · rw [show a.step (.removeEdgeType t) = (_, true) from if_pos ht]
      refine ⟨rfl, fun t' k' h => ?_⟩
      simp only at h
      split at h
      · cases h
      · exact Or.inl h
    · rw [show a.step (.removeEdgeType t) = (a, false) from if_neg ht]
      exact keep ⟨rfl, rfl⟩
  | setGAttr at' => exact keep ⟨rfl, rfl⟩

theorem KindOK.step {a : AG} (h : a.KindOK) {op : GOp} (hw : op.WellKinded) : (a.step op).1.KindOK := by
  intro hadm
  rw [(step_keep a op).1] at hadm
  have h0 := h hadm
  refine ⟨fun k hk => ?_, fun k hk => ?_, fun k hk => ?_⟩
  · rcases (step_keep a op).2 _ k hk with hk | ⟨ns, es, rfl⟩
    · exact h0.1 k hk
    · exact hw.1 rfl
  · rcases (step_keep a op).2 _ k hk with hk | ⟨ns, es, rfl⟩
    · exact h0.2.1 k hk
    · exact hw.2.1 rfl
  · rcases (step_keep a op).2 _ k hk with hk | ⟨ns, es, rfl⟩
    · exact h0.2.2 k hk
    · exact hw.2.2 rfl

theorem KindOK.empty (admg : Bool) : (AG.empty admg).KindOK := by
  intro h
  simp only [AG.empty] at h ⊢
  subst h
  refine ⟨fun k hk => ?_, fun k hk => ?_, fun k hk => ?_⟩ <;> simp at hk <;> exact hk.symm

end AG

theorem MEG.kindOK_of_abs {g : MEG} (h : g.abs.KindOK) : g.KindOK := by
  intro hadm t L hL
  have h0 := h hadm
  have hk : g.abs.kind t = some L.kind := MEG.abs_kind_of_layer hL
  refine ⟨fun ht => ?_, fun ht => ?_, fun ht => ?_⟩ <;> subst ht
  · exact h0.1 _ hk
  · exact h0.2.1 _ hk
  · exact h0.2.2 _ hk

def Store.KindOK (s : Store) : Prop := ∀ g ∈ s, g.abs.KindOK

theorem Store.KindOK.step {s : Store} (hi : s.Inv) (hk : s.KindOK) {op : Op} (hw : op.WellKinded) :
    (s.step op).1.KindOK :=
  Store.forall_step hk op (fun a _ => abs_fresh a ▸ AG.KindOK.empty a)
    (fun _ o e g hg => by subst e; rw [(MEG.abs_step (hi g hg) o).1]; exact (hk g hg).step hw)
    (fun _ _ g hg => by rw [MEG.abs_copy (hi g hg) (MEG.kindOK_of_abs (hk g hg))]; exact hk g hg)
    (fun _ ns _ g hg => by rw [MEG.abs_subgraph (hi g hg) (MEG.kindOK_of_abs (hk g hg))]; exact hk g hg)

theorem Store.abs_step {s : Store} (hi : s.Inv) (hk : s.KindOK) (op : Op) :
    (s.step op).1.abs = (s.abs.step op).1 ∧ (s.step op).2 = (s.abs.step op).2 :=
  Store.abs_step_core hi op fun _ g hg =>
    have hg' := MEG.kindOK_of_abs (hk g hg)
    ⟨MEG.abs_copy (hi g hg) hg', MEG.abs_subgraph (hi g hg) hg'⟩

/-- **C02 refinement over all histories**: for every finite sequence of `new`, the twelve public
    mutations, `copy` and `subgraph` on any number of `MixedEdgeGraph`/`ADMG` objects (edge types added
    under the three ADMG names with their default kinds), the model run and the run of the abstract
    specification agree after every step: the states are related by `abs` (so by `MEG.obs_eq` every read
    query of every live object answers according to the abstract edge sets) and the same calls raise.
    In particular `copy()` yields an equal graph including node, edge and graph attributes and
    `subgraph(ns)` exactly the induced one. -/
theorem Store.run_refines (ops : List Op) (hw : ∀ op ∈ ops, op.WellKinded) :
    (Store.run [] ops).map (fun r => (r.1.abs, r.2)) = AStore.run [] ops :=
  Store.run_abs (P := fun s => s.Inv ∧ s.KindOK) (fun _ op h hop => ⟨h.1.step op, h.2.step h.1 hop⟩)
    (fun _ op h _ => Store.abs_step h.1 h.2 op) ops [] ⟨Store.Inv.nil, fun _ hg => nomatch hg⟩ hw

end C02
