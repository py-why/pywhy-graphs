import Pw.C02.Step
import Pw.C02.Runs

/-! # C02: refinement at the level of the store (whole histories) -/
namespace C02

def Store.abs (s : Store) : AStore := s.map MEG.abs

theorem abs_fresh (a : Bool) : (MEG.fresh a).abs = AG.empty a := by
  cases a
  · rfl
  · -- the three pre-created edge types are looked up by name; all other names are unknown on both sides
    apply AG.ext'
    · rfl
    · intro _; rfl
    · intro t; rcases t with _ | _ | _ | t <;> rfl
    · intro t _ _; rcases t with _ | _ | _ | t <;> rfl
    · intro _; rfl
    · intro t _ _; rcases t with _ | _ | _ | t <;> rfl
    · rfl

/-- what is needed of `copy` / `subgraph` for the store refinement -/
structure CopyRefines : Prop where
  copy : ∀ g : MEG, g.Inv → g.copy.abs = g.abs.copyS
  subgraph : ∀ (g : MEG) (ns : List Nat), g.Inv → (g.subgraph ns).abs = g.abs.subgraphS ns

def Op.allocates : Op → Bool
  | .copy _ => true
  | .subgraph _ _ => true
  | _ => false

theorem Store.abs_step_core {s : Store} (hi : s.Inv) (op : Op)
    (hc : op.allocates = true → ∀ g ∈ s, g.copy.abs = g.abs.copyS ∧ ∀ ns, (g.subgraph ns).abs = g.abs.subgraphS ns) :
    (s.step op).1.abs = (s.abs.step op).1 ∧ (s.step op).2 = (s.abs.step op).2 := by
  cases op with
  | new a => simp [Store.step, AStore.step, Store.abs, abs_fresh]
  | on h op =>
    simp only [Store.step, AStore.step, Store.abs, List.getElem?_map]
    cases hg : s[h]? with
    | none => simp
    | some g =>
      have := MEG.abs_step (hi g (List.mem_of_getElem? hg)) op
      simp only [Option.map_some, List.map_set, this.1, this.2, and_self]
  | copy h =>
    simp only [Store.step, AStore.step, Store.abs, List.getElem?_map]
    cases hg : s[h]? with
    | none => simp
    | some g => simp [(hc rfl g (List.mem_of_getElem? hg)).1]
  | subgraph h ns =>
    simp only [Store.step, AStore.step, Store.abs, List.getElem?_map]
    cases hg : s[h]? with
    | none => simp
    | some g => simp [(hc rfl g (List.mem_of_getElem? hg)).2 ns]

theorem Store.run_abs {P : Store → Prop} {Q : Op → Prop} (hstep : ∀ s op, P s → Q op → P (s.step op).1)
    (habs : ∀ s op, P s → Q op → (s.step op).1.abs = (s.abs.step op).1 ∧ (s.step op).2 = (s.abs.step op).2)
    (ops : List Op) : ∀ s, P s → (∀ op ∈ ops, Q op) →
      (Store.run s ops).map (fun r => (r.1.abs, r.2)) = AStore.run s.abs ops := by
  induction ops with
  | nil => intro s _ _; rfl
  | cons op ops ih =>
    intro s h hq
    have hop := hq op List.mem_cons_self
    have ha := habs s op h hop
    simp only [Store.run, AStore.run, List.map_cons, List.cons.injEq]
    refine ⟨Prod.ext ha.1 ha.2, ?_⟩
    rw [ih _ (hstep s op h hop) fun o ho => hq o (List.mem_cons_of_mem _ ho), ha.1]

/-- **C02 refinement over histories, given `CopyRefines`**: the model run and the abstract run agree step by
    step (states related by `abs`, same raised/returned flag).  `Store.run_refines` (Final.lean) is the statement
    for well-kinded histories, where `abs_copy` and `abs_subgraph` apply, without this argument. -/
theorem Store.run_refines_of (hc : CopyRefines) (ops : List Op) :
    (Store.run [] ops).map (fun r => (r.1.abs, r.2)) = AStore.run [] ops :=
  Store.run_abs (P := Store.Inv) (Q := fun _ => True) (fun _ op h _ => h.step op)
    (fun _ op h _ => Store.abs_step_core h op fun _ g hg => ⟨hc.copy g (h g hg), fun ns => hc.subgraph g ns (h g hg)⟩)
    ops [] Store.Inv.nil fun _ _ => trivial

/-- **C02 refinement over histories without allocation**: for every history of `new` and the twelve
    public mutations on any number of objects (no `copy`/`subgraph`), model and specification agree
    after every step. -/
theorem Store.run_refines_partial (ops : List Op) (hops : ∀ op ∈ ops, op.allocates = false) :
    (Store.run [] ops).map (fun r => (r.1.abs, r.2)) = AStore.run [] ops :=
  Store.run_abs (P := Store.Inv) (fun _ op h _ => h.step op)
    (fun _ op h hop => Store.abs_step_core h op fun ha => by rw [hop] at ha; cases ha) ops [] Store.Inv.nil hops

end C02
