import Pw.C02.Final
import Pw.C02.ObsFull

/-! # C02 capstone: for every history inside the universe, every read query of every live object
after every step equals the specification's answer (the driver commands `c02m` / `c02s` print the two sides) -/
namespace C02

def GOp.Below (n m : Nat) : GOp → Prop
  | .addNode v _ => v < n
  | .addNodes vs _ => ∀ v ∈ vs, v < n
  | .addEdge u v _ _ => u < n ∧ v < n
  | .addEdges es _ _ => ∀ e ∈ es, e.1 < n ∧ e.2 < n
  | .addEdgeType t _ ns es => t < m ∧ (∀ v ∈ ns, v < n) ∧ ∀ e ∈ es, e.1 < n ∧ e.2 < n
  | _ => True

def Op.Below (n m : Nat) : Op → Prop
  | .new _ => 3 ≤ m
  | .on _ op => op.Below n m
  | .copy _ => True
  | .subgraph _ ns => ∀ v ∈ ns, v < n

namespace AG

def Below (a : AG) (n m : Nat) : Prop :=
  (∀ v, a.node v = true → v < n) ∧ ∀ t, (a.kind t).isSome = true → t < m

/-- `foldl_keeps` itself is very slow to unify with a goal `(l.foldl f a, true).1.Below n m` -/
theorem foldl_below {β} {n m : Nat} (l : List β) (f : AG → β → AG)
    (h : ∀ a, ∀ b ∈ l, a.Below n m → (f a b).Below n m) (a : AG) (ha : a.Below n m) : (l.foldl f a).Below n m :=
  foldl_keeps l h ha

theorem Below.addNodeS {a : AG} {n m : Nat} (h : a.Below n m) {v : Nat} (hv : v < n) (at' : Attr) :
    (a.addNodeS v at').Below n m := by
  refine ⟨fun x hx => ?_, h.2⟩
  simp only [AG.addNodeS, Bool.or_eq_true, beq_iff_eq] at hx
  rcases hx with hx | rfl
  · exact h.1 x hx
  · exact hv

theorem Below.ensureS {a : AG} {n m : Nat} (h : a.Below n m) {v : Nat} (hv : v < n) (at' : Attr) :
    (a.ensureS v at').Below n m := by
  unfold AG.ensureS; split
  · exact h
  · exact h.addNodeS hv at'

theorem Below.dropNodeS {a : AG} {n m : Nat} (h : a.Below n m) (v : Nat) : (a.dropNodeS v).Below n m := by
  refine ⟨fun x hx => ?_, h.2⟩
  simp only [AG.dropNodeS, Bool.and_eq_true] at hx
  exact h.1 x hx.1

theorem Below.step {a : AG} {n m : Nat} (h : a.Below n m) {op : GOp} (hb : op.Below n m) : (a.step op).1.Below n m := by
  have below_kind : ∀ t, ((a.step op).1.kind t).isSome = true → t < m := fun t ht => by
    obtain ⟨k, hk⟩ := Option.isSome_iff_exists.1 ht
    rcases (step_keep a op).2 t k hk with hk | ⟨ns, es, rfl⟩
    · exact h.2 t (hk ▸ rfl)
    · exact hb.1
  cases op with
  | addNode v at' => exact h.addNodeS hb at'
  | addNodes vs at' =>
    exact foldl_below vs (fun a v => a.addNodeS v at') (fun a v hv ha => ha.addNodeS (hb v hv) at') a h
  | removeNode v => simp only [AG.step]; split; exact h.dropNodeS v; exact h
  | removeNodes vs => exact foldl_below vs AG.dropNodeS (fun a v _ ha => ha.dropNodeS v) a h
  | addEdge u v t at' =>
    simp only [AG.step]
    have h2 := (h.ensureS hb.1 []).ensureS hb.2 []
    split <;> exact h2
  | addEdges es t at' =>
    simp only [AG.step]
    have h2 := foldl_below es (fun a e => (a.ensureS e.1 at').ensureS e.2 at')
      (fun a e he ha => (ha.ensureS (hb e he).1 at').ensureS (hb e he).2 at') a h
    split
    · exact foldl_below es (fun a e => a.putEdge t e.1 e.2 at') (fun a e _ ha => ha) _ h2
    · exact h2
  | removeEdge u v t =>
    simp only [AG.step]
    cases t with
    | all => exact h
    | one t' => simp only; split <;> exact h
  | removeEdges es t =>
    simp only [AG.step]
    split
    · exact foldl_below es (fun a e => a.dropEdgeS t e.1 e.2) (fun a e _ ha => ha) a h
    · exact h
  | clearEdges t => simp only [AG.step]; split <;> exact h
  | addEdgeType t k ns es =>
    refine ⟨fun x hx => ?_, below_kind⟩
    by_cases ht : (a.kind t).isSome = true
    · rw [show a.step (.addEdgeType t k ns es) = (a, false) from if_pos ht] at hx
      exact h.1 x hx
    · rw [show a.step (.addEdgeType t k ns es) = (_, true) from if_neg ht] at hx
      simp only [Bool.or_eq_true, List.contains_eq_mem, decide_eq_true_eq, List.any_eq_true, beq_iff_eq] at hx
      rcases hx with (hx | hx) | ⟨e, he, hx | hx⟩
      · exact h.1 x hx
      · exact hb.2.1 x hx
      · rw [hx]; exact (hb.2.2 e he).1
      · rw [hx]; exact (hb.2.2 e he).2
  | removeEdgeType t =>
    refine ⟨fun x hx => h.1 x ?_, below_kind⟩
    by_cases ht : (a.kind t).isSome = true
    · rwa [show a.step (.removeEdgeType t) = (_, true) from if_pos ht] at hx
    · rwa [show a.step (.removeEdgeType t) = (a, false) from if_neg ht] at hx
  | setGAttr at' => exact h

theorem Below.empty (admg : Bool) {n m : Nat} (hm : 3 ≤ m) : (AG.empty admg).Below n m := by
  refine ⟨fun v hv => (nomatch hv), fun t ht => ?_⟩
  cases admg
  · cases ht
  · -- only the three pre-created names exist
    rcases t with _ | _ | _ | t
    · exact Nat.lt_of_lt_of_le (by decide) hm
    · exact Nat.lt_of_lt_of_le (by decide) hm
    · exact Nat.lt_of_lt_of_le (by decide) hm
    · cases ht

end AG

theorem MEG.below_of_abs {g : MEG} {n m : Nat} (h : g.abs.Below n m) : g.NodesBelow n ∧ g.NamesBelow m :=
  ⟨fun v hv => h.1 v (MEG.hasNode_iff.2 hv), fun t ht => h.2 t (by rw [MEG.abs_kind_isSome]; exact List.contains_iff_mem.2 ht)⟩

structure Store.Good (s : Store) (n m : Nat) : Prop where
  inv : s.Inv
  kind : s.KindOK
  below : ∀ g ∈ s, g.abs.Below n m

theorem Store.Good.step {s : Store} {n m : Nat} (h : s.Good n m) {op : Op} (hw : op.WellKinded) (hb : op.Below n m) :
    (s.step op).1.Good n m :=
  ⟨h.inv.step op, h.kind.step h.inv hw,
    Store.forall_step h.below op (fun a e => by subst e; exact abs_fresh a ▸ AG.Below.empty a hb)
      (fun _ o e g hg => by subst e; rw [(MEG.abs_step (h.inv g hg) o).1]; exact (h.below g hg).step hb)
      (fun _ _ g hg => by rw [MEG.abs_copy (h.inv g hg) (MEG.kindOK_of_abs (h.kind g hg))]; exact h.below g hg)
      (fun _ ns e g hg => by
        subst e
        rw [MEG.abs_subgraph (h.inv g hg) (MEG.kindOK_of_abs (h.kind g hg))]
        exact ⟨fun v hv => hb v (by simpa [AG.subgraphS] using hv), (h.below g hg).2⟩)⟩

theorem Store.good_run {n m : Nat} (ops : List Op) (hw : ∀ op ∈ ops, op.WellKinded) (hb : ∀ op ∈ ops, op.Below n m) :
    ∀ r ∈ Store.run [] ops, r.1.Good n m :=
  Store.forall_run (P := (·.Good n m)) (Q := fun op => op.WellKinded ∧ op.Below n m) (fun _ _ h hq => h.step hq.1 hq.2)
    ops [] ⟨Store.Inv.nil, fun _ hg => (nomatch hg), fun _ hg => nomatch hg⟩ fun op hop => ⟨hw op hop, hb op hop⟩

/-- **C02, capstone**: for *every* history over the node universe `0..n-1` and the edge-type universe
    `0..m-1` (default kinds on the ADMG names), after *every* step – accepted or rejected – *every* read
    query of *every* live object of the model equals the answer the specification computes from the
    abstract node set and per-layer edge sets, and the same calls raise.  (The driver commands `c02m` / `c02s`
    compute the two sides.) -/
theorem Store.obs_run (ops : List Op) (n m : Nat) (hw : ∀ op ∈ ops, op.WellKinded) (hb : ∀ op ∈ ops, op.Below n m) :
    (Store.run [] ops).map (fun r => (r.1.map (·.obs n m), r.2)) =
      (AStore.run [] ops).map (fun r => (r.1.map (·.obs n m), r.2)) := by
  rw [← Store.run_refines ops hw, List.map_map]
  apply List.map_congr_left
  intro r hr
  have hg := Store.good_run ops hw hb r hr
  simp only [Function.comp, Prod.mk.injEq, and_true, Store.abs, List.map_map]
  apply List.map_congr_left
  intro g hgm
  have hbl := MEG.below_of_abs (hg.below g hgm)
  exact MEG.obs_eq (hg.inv g hgm) hbl.1 hbl.2

end C02
