import Pw.C02.Inv

/-! # C02: `skeleton`, `copy` and `subgraph` are folds of `MEG.step` over explicit lists of calls, so what a
single mutation preserves (here the invariant) or refines (`Copy.lean`, `Subgraph.lean`) carries over to them;
the invariant after every history -/
namespace C02

/-- one `add_edge(u, w, t, **a)`, written `(t, u, w, a)` -/
abbrev Quad := Nat × Nat × Nat × Attr

namespace MEG

theorem Inv.foldl_step {α} {G : MEG} (h : G.Inv) (l : List α) (op : α → GOp) :
    (l.foldl (fun G x => (G.step (op x)).1) G).Inv :=
  foldl_keeps l (fun _ x _ h => h.step (op x)) h

/-- the fresh object of `skeleton` after the pre-created edge types that `g` lacks are dropped -/
def skel0 (g : MEG) : MEG :=
  { MEG.fresh g.admg with layers := (MEG.fresh g.admg).layers.filter fun p => g.names.contains p.1 }

theorem build_empty (k : Kind) : Layer.build k [] [] = { kind := k } := rfl

theorem skeleton_eq (g : MEG) :
    g.skeleton = g.layers.foldl (fun G p => (G.step (.addEdgeType p.1 p.2.kind [] [])).1) g.skel0 := by
  unfold skeleton
  show List.foldl _ g.skel0 g.layers = _
  congr 1
  funext G p
  simp only [MEG.step, build_empty, addEdgeType]
  split <;> rfl

theorem skel0_inv (g : MEG) : g.skel0.Inv := (Inv.fresh g.admg).filterLayers fun t => g.names.contains t

theorem Inv.skeleton (g : MEG) : g.skeleton.Inv := by
  rw [skeleton_eq]; exact (skel0_inv g).foldl_step _ _

/-- the `add_edge` calls of `copy()`, in the order they are made -/
def copyQuads (g : MEG) : List Quad :=
  g.layers.flatMap fun p => p.2.nodes.flatMap fun u => (p.2.adj u).map fun va => (p.1, u, va.1, va.2)

theorem mem_copyQuads {g : MEG} {q : Quad} :
    q ∈ copyQuads g ↔ ∃ p ∈ g.layers, q.1 = p.1 ∧ q.2.1 ∈ p.2.nodes ∧ (q.2.2.1, q.2.2.2) ∈ p.2.adj q.2.1 := by
  obtain ⟨t, u, w, a⟩ := q
  simp only [copyQuads, List.mem_flatMap, List.mem_map, Prod.mk.injEq]
  constructor
  · rintro ⟨p, hp, u', hu', va, hva, rfl, rfl, rfl, rfl⟩
    exact ⟨p, hp, rfl, hu', hva⟩
  · rintro ⟨p, hp, rfl, hu, hva⟩
    exact ⟨p, hp, u, hu, (w, a), hva, rfl, rfl, rfl, rfl⟩

theorem copy_eq (g : MEG) :
    g.copy = (copyQuads g).foldl (fun G q => (G.step (.addEdge q.2.1 q.2.2.1 (.one q.1) q.2.2.2)).1)
      (g.nodes.foldl (fun G p => (G.step (GOp.addNode p.1 p.2)).1)
        { g.skeleton with gattr := Attr.upd [] g.gattr }) := by
  unfold copy copyQuads
  simp only [List.foldl_flatMap, List.foldl_map]
  rfl

theorem Inv.copy (g : MEG) : g.copy.Inv := by
  rw [copy_eq]; exact ((((Inv.skeleton g).gattr _).foldl_step _ _).foldl_step _ _)

/-- the direct layer insertion done by `subgraph` -/
def putDirect (G : MEG) (q : Quad) : MEG :=
  match G.layer? q.1 with
  | some LG => G.setLayer q.1 (LG.addEdge q.2.1 q.2.2.1 [])
  | none => G

/-- the insertions of `subgraph(ns)`, in the order they are made, `ls` being the layer list that is walked -/
def subQuads (g : MEG) (ns : List Nat) (ls : List (Nat × Layer)) : List Quad :=
  ls.flatMap fun p =>
    match g.layer? p.1 with
    | none => []
    | some L => ns.flatMap fun u => (L.adj u).filterMap fun va =>
        if ns.contains u && ns.contains va.1 then some (p.1, u, va.1, ([] : Attr)) else none

theorem mem_subQuads {g : MEG} {ns : List Nat} {ls : List (Nat × Layer)} {q : Quad} :
    q ∈ subQuads g ns ls ↔ ∃ p ∈ ls, ∃ L, g.layer? p.1 = some L ∧ q.1 = p.1 ∧ q.2.1 ∈ ns ∧ q.2.2.1 ∈ ns ∧
      q.2.2.2 = [] ∧ ∃ a, (q.2.2.1, a) ∈ L.adj q.2.1 := by
  obtain ⟨t, u, w, a⟩ := q
  simp only [subQuads, List.mem_flatMap]
  constructor
  · rintro ⟨p, hp, h⟩
    rcases Option.eq_none_or_eq_some (g.layer? p.1) with hL | ⟨L, hL⟩
    · simp [hL] at h
    · simp only [hL, List.mem_flatMap, List.mem_filterMap] at h
      obtain ⟨u', hu', va, hva, h⟩ := h
      split at h
      · rename_i hc
        simp only [Option.some.injEq, Prod.mk.injEq] at h
        obtain ⟨rfl, rfl, rfl, rfl⟩ := h
        simp only [Bool.and_eq_true, List.contains_eq_mem, decide_eq_true_eq] at hc
        exact ⟨p, hp, L, hL, rfl, hc.1, hc.2, rfl, va.2, hva⟩
      · simp at h
  · rintro ⟨p, hp, L, hL, rfl, hu, hw, rfl, a', ha'⟩
    refine ⟨p, hp, ?_⟩
    simp only [hL, List.mem_flatMap, List.mem_filterMap]
    refine ⟨u, hu, (w, a'), ha', ?_⟩
    simp [hu, hw]

theorem nodeIds_setLayer (G : MEG) (t : Nat) (L : Layer) : (G.setLayer t L).nodeIds = G.nodeIds := rfl

theorem putDirect_eq_step {G : MEG} {q : Quad} (hu : G.hasNode q.2.1 = true) (hw : G.hasNode q.2.2.1 = true)
    (ha : q.2.2.2 = []) : G.putDirect q = (G.step (.addEdge q.2.1 q.2.2.1 (.one q.1) q.2.2.2)).1 := by
  simp only [ha, putDirect, MEG.step, addEdge, ensureNode, hu, hw, ite_true]
  cases G.layer? q.1 <;> rfl

theorem foldl_putDirect (qs : List Quad) (G : MEG) (ns : List Nat) (hns : ∀ x ∈ ns, G.hasNode x = true)
    (hq : ∀ q ∈ qs, q.2.1 ∈ ns ∧ q.2.2.1 ∈ ns ∧ q.2.2.2 = []) :
    qs.foldl putDirect G = qs.foldl (fun G q => (G.step (.addEdge q.2.1 q.2.2.1 (.one q.1) q.2.2.2)).1) G := by
  induction qs generalizing G with
  | nil => rfl
  | cons q qs ih =>
    have h := hq q List.mem_cons_self
    rw [List.foldl_cons, List.foldl_cons, ← putDirect_eq_step (hns _ h.1) (hns _ h.2.1) h.2.2]
    refine ih _ (fun x hx => ?_) fun q' hq' => hq q' (List.mem_cons_of_mem _ hq')
    have := hns x hx
    unfold putDirect
    cases G.layer? q.1 with
    | none => exact this
    | some LG => exact this

theorem subgraph_eq (g : MEG) (ns : List Nat) :
    g.subgraph ns =
      let G1 := (({ g.skeleton with gattr := Attr.upd [] g.gattr } : MEG).addNodes ns [])
      (subQuads g ns G1.layers).foldl (fun G q => (G.step (.addEdge q.2.1 q.2.2.1 (.one q.1) q.2.2.2)).1) G1 := by
  have h : g.subgraph ns =
      let G1 := (({ g.skeleton with gattr := Attr.upd [] g.gattr } : MEG).addNodes ns [])
      (subQuads g ns G1.layers).foldl putDirect G1 := by
    unfold subgraph subQuads
    simp only [List.foldl_flatMap]
    congr 1
    funext G p
    cases g.layer? p.1 with
    | none => rfl
    | some L =>
      simp only [List.foldl_flatMap, List.foldl_filterMap]
      congr 1
      funext G u
      congr 1
      funext G va
      split <;> rfl
  rw [h]
  exact foldl_putDirect _ _ ns (fun x hx => hasNode_iff.2 (mem_nodeIds_addNodes.2 (Or.inr hx))) fun q hq =>
    let ⟨_, _, _, _, _, hu, hw, ha, _⟩ := mem_subQuads.1 hq; ⟨hu, hw, ha⟩

theorem Inv.subgraph (g : MEG) (ns : List Nat) : (g.subgraph ns).Inv := by
  rw [subgraph_eq]; exact ((((Inv.skeleton g).gattr _).addNodes ns []).foldl_step _ _)

end MEG

def Store.Inv (s : Store) : Prop := ∀ g ∈ s, g.Inv

theorem Store.forall_step {P : MEG → Prop} {s : Store} (h : ∀ g ∈ s, P g) (op : Op)
    (hnew : ∀ a, op = .new a → P (MEG.fresh a))
    (hon : ∀ i o, op = .on i o → ∀ g ∈ s, P (g.step o).1)
    (hcopy : ∀ i, op = .copy i → ∀ g ∈ s, P g.copy)
    (hsub : ∀ i ns, op = .subgraph i ns → ∀ g ∈ s, P (g.subgraph ns)) : ∀ g ∈ (s.step op).1, P g := by
  have happ : ∀ g0 : MEG, P g0 → ∀ g ∈ s ++ [g0], P g := fun g0 h0 g hg =>
    (List.mem_append.1 hg).elim (h g) fun hg => List.mem_singleton.1 hg ▸ h0
  cases op with
  | new a => exact happ _ (hnew a rfl)
  | on i o =>
    simp only [Store.step]
    split
    · exact h
    · rename_i g hg
      intro g' hg'
      rcases List.mem_or_eq_of_mem_set hg' with h1 | rfl
      · exact h g' h1
      · exact hon i o rfl g (List.mem_of_getElem? hg)
  | copy i =>
    simp only [Store.step]
    split
    · exact h
    · rename_i g hg; exact happ _ (hcopy i rfl g (List.mem_of_getElem? hg))
  | subgraph i ns =>
    simp only [Store.step]
    split
    · exact h
    · rename_i g hg; exact happ _ (hsub i ns rfl g (List.mem_of_getElem? hg))

theorem Store.Inv.step {s : Store} (h : s.Inv) (op : Op) : (s.step op).1.Inv :=
  Store.forall_step h op (fun a _ => MEG.Inv.fresh a) (fun _ o _ g hg => (h g hg).step o)
    (fun _ _ g _ => MEG.Inv.copy g) (fun _ ns _ g _ => MEG.Inv.subgraph g ns)

theorem Store.forall_run {P : Store → Prop} {Q : Op → Prop} (hstep : ∀ s op, P s → Q op → P (s.step op).1)
    (ops : List Op) : ∀ s, P s → (∀ op ∈ ops, Q op) → ∀ r ∈ Store.run s ops, P r.1 := by
  induction ops with
  | nil => intro s _ _ r hr; simp [Store.run] at hr
  | cons op ops ih =>
    intro s h hq r hr
    have h1 := hstep s op h (hq op List.mem_cons_self)
    simp only [Store.run, List.mem_cons] at hr
    rcases hr with rfl | hr
    · exact h1
    · exact ih _ h1 (fun o ho => hq o (List.mem_cons_of_mem _ ho)) r hr

theorem Store.Inv.nil : Store.Inv [] := fun _ hg => nomatch hg

/-- **C02 invariant**: after *any* history, every live object has duplicate-free node and edge-type
    lists, every layer has exactly the master node set, and every stored edge has its endpoints among
    the nodes and is stored once. -/
theorem Store.inv_exec (ops : List Op) : (Store.exec [] ops).Inv :=
  foldl_keeps ops (fun _ op _ h => h.step op) Store.Inv.nil

/-- the same for every intermediate store of `Store.run` -/
theorem Store.inv_run (ops : List Op) : ∀ r ∈ Store.run [] ops, r.1.Inv :=
  Store.forall_run (Q := fun _ => True) (fun _ op h _ => h.step op) ops [] Store.Inv.nil fun _ _ => trivial

end C02
