/-! # Association lists keyed by `Nat` (`List.lookup`), as used for the node list and the layer list of a
graph, and folds -/
namespace C02

universe u v
variable {α : Type u} {β : Type v}

theorem mem_of_lookup {t : Nat} {l : List (Nat × α)} {x : α} (h : List.lookup t l = some x) : (t, x) ∈ l := by
  induction l with
  | nil => simp at h
  | cons p l ih =>
    obtain ⟨k, y⟩ := p
    rw [List.lookup_cons] at h
    cases hk : t == k <;> rw [hk] at h
    · exact List.mem_cons_of_mem _ (ih h)
    · cases h; cases eq_of_beq hk; exact List.mem_cons_self

theorem lookup_isSome_iff (t : Nat) (l : List (Nat × α)) : (List.lookup t l).isSome = (l.map (·.1)).contains t := by
  induction l with
  | nil => rfl
  | cons p l ih =>
    rw [List.lookup_cons, List.map_cons, List.contains_cons, ← ih]
    cases t == p.1 <;> rfl

theorem lookup_none_of_not_mem {l : List (Nat × α)} {x : Nat} (h : x ∉ l.map (·.1)) : List.lookup x l = none := by
  have := lookup_isSome_iff x l
  rw [List.contains_eq_mem, decide_eq_false h] at this
  exact Option.isSome_eq_false_iff.1 this |> Option.isNone_iff_eq_none.1

theorem lookup_of_mem {t : Nat} {l : List (Nat × α)} {x : α} (hn : (l.map (·.1)).Nodup) (h : (t, x) ∈ l) :
    List.lookup t l = some x := by
  induction l with
  | nil => simp at h
  | cons p l ih =>
    rw [List.map_cons, List.nodup_cons] at hn
    rcases List.mem_cons.1 h with rfl | h
    · simp
    · have : (t == p.1) = false := beq_false_of_ne fun hk => hn.1 (hk ▸ List.mem_map_of_mem (f := (·.1)) h)
      rw [List.lookup_cons, this]; exact ih hn.2 h

theorem lookup_map_snd (t : Nat) (l : List (Nat × α)) (f : Nat → α → β) :
    List.lookup t (l.map fun p => (p.1, f p.1 p.2)) = (List.lookup t l).map (f t) := by
  induction l with
  | nil => rfl
  | cons p l ih =>
    rw [List.map_cons, List.lookup_cons, List.lookup_cons, ih]
    cases hk : t == p.1
    · rfl
    · cases eq_of_beq hk; rfl

theorem lookup_filter_key (l : List (Nat × α)) (P : Nat → Bool) (x : Nat) :
    List.lookup x (l.filter fun p => P p.1) = if P x then List.lookup x l else none := by
  induction l with
  | nil => simp
  | cons p l ih =>
    obtain ⟨k, y⟩ := p
    rw [List.filter_cons, List.lookup_cons]
    cases hk : x == k
    · split
      · rw [List.lookup_cons, hk]; exact ih
      · exact ih
    · cases eq_of_beq hk
      cases hp : P x <;> simp [hp, ih]

theorem lookup_append_single (l : List (Nat × α)) (t x : Nat) (b : α) (ht : t ∉ l.map (·.1)) :
    List.lookup x (l ++ [(t, b)]) = if x == t then some b else List.lookup x l := by
  rw [List.lookup_append, List.lookup_cons, List.lookup_nil]
  cases hx : x == t
  · simp
  · cases eq_of_beq hx; simp [lookup_none_of_not_mem ht]

theorem lookup_map_at (l : List (Nat × α)) (v x : Nat) (f : α → α) :
    List.lookup x (l.map fun p => if p.1 == v then (p.1, f p.2) else p) =
      if x == v then (List.lookup x l).map f else List.lookup x l := by
  induction l with
  | nil => simp
  | cons p l ih =>
    have hk : (if p.1 == v then (p.1, f p.2) else p).1 = p.1 := by split <;> rfl
    rw [List.map_cons, List.lookup_cons, List.lookup_cons, ih, hk]
    cases hx : x == p.1
    · rfl
    · cases eq_of_beq hx
      cases hv : p.1 == v <;> rfl

theorem foldl_keeps {γ : Type u} {P : β → Prop} {f : β → γ → β} (l : List γ) (hf : ∀ b, ∀ a ∈ l, P b → P (f b a))
    {b : β} (hb : P b) : P (l.foldl f b) :=
  List.foldlRecOn l f hb fun b hb a ha => hf b a ha hb

theorem foldl_fixes {γ : Type u} {δ : Type _} (π : β → δ) {f : β → γ → β} (hf : ∀ b a, π (f b a) = π b)
    (l : List γ) (b : β) : π (l.foldl f b) = π b := by
  induction l generalizing b with
  | nil => rfl
  | cons a l ih => rw [List.foldl_cons, ih, hf]

theorem filter_ids (l : List (Nat × α)) (p : Nat → Bool) :
    (l.filter fun q => p q.1).map (·.1) = (l.map (·.1)).filter p := by
  rw [List.filter_map]; rfl

end C02
