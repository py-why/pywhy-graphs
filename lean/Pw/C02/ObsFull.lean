import Pw.C02.Count

/-! # C02: *every* read query of the model equals the specification query (`obs_eq`) -/
namespace C02

theorem sum_assoc {α} (l : List (Nat × α)) (m : Nat) (f : α → Nat) (hn : (l.map (·.1)).Nodup)
    (hm : ∀ t ∈ l.map (·.1), t < m) :
    (l.map fun q => f q.2).sum =
      ((List.range m).map fun t => ((List.lookup t l).map f).getD 0).sum := by
  induction l with
  | nil =>
    simpa using (sum_map_zero (List.range m)).symm
  | cons q l ih =>
    obtain ⟨k, x⟩ := q
    simp only [List.map_cons, List.nodup_cons] at hn
    have hk : k < m := hm k (by simp)
    have ih' := ih hn.2 (fun t ht => hm t (by simp only [List.map_cons, List.mem_cons]; exact Or.inr ht))
    simp only [List.map_cons, List.sum_cons, ih']
    have hlk : List.lookup k l = none := lookup_none_of_not_mem hn.1
    have : ∀ t, ((List.lookup t ((k, x) :: l)).map f).getD 0 =
        ((List.lookup t l).map f).getD 0 + (if (k == t) = true then f x else 0) := by
      intro t
      simp only [List.lookup_cons]
      by_cases h : t = k
      · subst h; simp [hlk]
      · have h1 : (t == k) = false := by simpa using h
        have h2 : (k == t) = false := by simpa using fun hc : k = t => h hc.symm
        simp [h1, h2]
    simp only [this]
    rw [sum_add_map (List.range m)]
    have hind : ((List.range m).map fun t => if (k == t) = true then f x else 0).sum = f x := by
      rw [sum_indicator, List.Nodup.count List.nodup_range, if_pos (List.mem_range.2 hk), Nat.mul_one]
    rw [hind]; omega

theorem countP_eq_sum {α} (l : List α) (p : α → Bool) : l.countP p = (l.map fun x => if p x then 1 else 0).sum := by
  induction l with
  | nil => rfl
  | cons a l ih =>
    simp only [List.countP_cons, List.map_cons, List.sum_cons, ih]
    cases p a <;> simp <;> omega

theorem sum_two_mul {α} (l : List α) (f : α → Nat) : (l.map fun x => 2 * f x).sum = 2 * (l.map f).sum := by
  induction l with
  | nil => rfl
  | cons a l ih => simp only [List.map_cons, List.sum_cons, ih]; omega

namespace MEG

def NodesBelow (g : MEG) (n : Nat) : Prop := ∀ v ∈ g.nodeIds, v < n

theorem layer_below {g : MEG} (hi : g.Inv) {n : Nat} (hn : g.NodesBelow n) {q : Nat × Layer} (hq : q ∈ g.layers) :
    q.2.Below n := fun v hv => hn v ((hi.sync q hq v).1 hv)

theorem sum_layers {g : MEG} (hi : g.Inv) {m : Nat} (hm : g.NamesBelow m) (f : Layer → Nat) :
    (g.layers.map fun q => f q.2).sum =
      ((List.range m).map fun t => ((g.layer? t).map f).getD 0).sum :=
  sum_assoc g.layers m f hi.names hm

theorem numEdgesT_eq {g : MEG} (hi : g.Inv) {n : Nat} (hn : g.NodesBelow n) (t : Nat) :
    g.abs.numEdgesT n t = ((g.layer? t).map (·.numEdges)).getD 0 := by
  simp only [AG.numEdgesT, abs]
  rcases Option.eq_none_or_eq_some (g.layer? t) with hL | ⟨L, hL⟩
  · simp [hL]
  · have hq := layer_mem hL
    simp only [hL, Option.map_some]
    rw [Layer.numEdges_eq (hi.wf _ hq) (layer_below hi hn hq)]
    cases hk : L.kind <;> simp [Layer.cnt, hk, show (Kind.und == Kind.dir) = false from rfl]

theorem numEdgesAll_eq {g : MEG} (hi : g.Inv) {n m : Nat} (hn : g.NodesBelow n) (hm : g.NamesBelow m) :
    g.numEdgesAll = g.abs.numEdgesAll n m := by
  simp only [numEdgesAll, AG.numEdgesAll]
  rw [sum_layers hi hm fun L => L.numEdges]
  congr 1
  apply List.map_congr_left
  intro t _
  rw [numEdgesT_eq hi hn]

theorem sizeAll_eq {g : MEG} (hi : g.Inv) {n m : Nat} (hn : g.NodesBelow n) (hm : g.NamesBelow m) :
    g.sizeAll = g.abs.sizeAll n m := by
  simp only [sizeAll, AG.sizeAll]
  rw [← numEdgesAll_eq hi hn hm, numEdgesAll]
  have : (g.layers.map fun p => (p.2.nodes.map p.2.degree).sum) = g.layers.map fun p => 2 * p.2.numEdges := by
    apply List.map_congr_left
    intro q hq
    exact Layer.degree_sum (hi.wf q hq)
  rw [this, sum_two_mul]
  omega

theorem numEdgesUV_eq {g : MEG} (hi : g.Inv) {m : Nat} (hm : g.NamesBelow m) (u v : Nat) :
    g.numEdgesUV u v = g.abs.numEdgesUV m u v := by
  simp only [numEdgesUV, AG.numEdgesUV]
  rw [sum_layers hi hm fun L => if L.has u v then 1 else 0, countP_eq_sum]
  congr 1
  apply List.map_congr_left
  intro t _
  simp only [abs]
  rcases Option.eq_none_or_eq_some (g.layer? t) with hL | ⟨L, hL⟩ <;> simp [hL]

theorem lobs_eq {g : MEG} (hi : g.Inv) {n : Nat} (hn : g.NodesBelow n) {t : Nat} {L : Layer}
    (hL : g.layer? t = some L) : L.obs t n = g.abs.lobs t L.kind n := by
  obtain ⟨h1, h2, h3, h4, h5, h6⟩ := lobs_eq_partial hi hL n
  have hq := layer_mem hL
  have hw : L.WF := hi.wf _ hq
  have hb : L.Below n := layer_below hi hn hq
  have hne : L.numEdges = g.abs.numEdgesT n t := by rw [numEdgesT_eq hi hn, hL]; rfl
  have hdeg : (L.obs t n).degree = (g.abs.lobs t L.kind n).degree := by
    have hl : (L.obs t n).lnodes = (g.abs.lobs t L.kind n).lnodes := h3
    simp only [Layer.obs, AG.lobs] at hl ⊢
    rw [hl]
    apply List.map_congr_left
    intro v _
    congr 1
    rw [Layer.degree_eq hw hb v]
    simp only [AG.degreeT, abs_kind_of_layer hL, abs_edge_of_layer hL]
    cases L.kind <;> rfl
  have hsz : (L.obs t n).sizeT = (g.abs.lobs t L.kind n).sizeT := by
    simp only [Layer.obs, AG.lobs]
    rw [Layer.degree_sum hw, ← hne, Layer.numEdges]; omega
  have hn' : (L.obs t n).nEdges = (g.abs.lobs t L.kind n).nEdges := hne
  exact (LObs.mk.injEq ..).mpr ⟨h1, h2, h3, h4, h5, hdeg, h6, hn', hsz⟩

/-- **C02 observations**: for a state that satisfies the invariant and lies inside the universe
    (`nodes < n`, edge-type names `< m`), *every* read query – `nodes(data)`, `graph`, `has_edge`,
    `number_of_edges` (total, per type, per pair), `size`, `neighbors`, `edges(data)`, `adj`, `degree`,
    `get_edge_data`, `to_undirected`, `to_directed`, per-layer node sets – answers exactly what the
    specification computes from the abstract node set and per-layer edge sets. -/
theorem obs_eq {g : MEG} (hi : g.Inv) {n m : Nat} (hn : g.NodesBelow n) (hm : g.NamesBelow m) :
    g.obs n m = g.abs.obs n m := by
  obtain ⟨h1, h2, h3, h4, h5, h6, _⟩ := obs_eq_partial hi hm n
  have hl := obs_layers_map id (fun _ _ hL => lobs_eq hi hn hL) m
  rw [List.map_id, List.map_id] at hl
  have h7 : (g.obs n m).nEdgesAll = (g.abs.obs n m).nEdgesAll := numEdgesAll_eq hi hn hm
  have h8 : (g.obs n m).sizeAll = (g.abs.obs n m).sizeAll := sizeAll_eq hi hn hm
  have h9 : (g.obs n m).nEdgesUV = (g.abs.obs n m).nEdgesUV := by
    simp only [MEG.obs, AG.obs]
    have : ((List.range n).filter g.nodeIds.contains) = (List.range n).filter g.abs.node := rfl
    rw [this]
    apply List.map_congr_left
    intro p _
    exact numEdgesUV_eq hi hm p.1 p.2
  exact (GObs.mk.injEq ..).mpr ⟨h1, h2, hl, h3, h7, h9, h8, h4, h5, h6⟩

end MEG
end C02
