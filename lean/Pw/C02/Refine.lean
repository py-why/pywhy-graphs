import Pw.C02.Inv

/-! # C02 refinement: the model is a refinement of the abstract specification

`MEG.abs` forgets list order, per-layer node lists and the stored orientation of undirected edges.
`abs (g.step op) = (abs g).step op` for every public mutation (given the invariant). -/
namespace C02

def attrOf (o : Option Attr) : AAttr := fun k => match o with | some a => a.get k | none => none

@[simp] theorem attrOf_none : attrOf none = AAttr.empty := rfl
theorem attrOf_upd (o : Option Attr) (b : Attr) : attrOf (some ((o.getD []).upd b)) = (attrOf o).upd b := by
  funext k
  cases o <;> simp [attrOf, AAttr.upd, Attr.upd, Attr.get, List.lookup_append]

def MEG.abs (g : MEG) : AG :=
  { admg := g.admg
    node := fun v => g.hasNode v
    kind := fun t => (g.layer? t).map (·.kind)
    edge := fun t u v => match g.layer? t with | some L => L.has u v | none => false
    nattr := fun v => attrOf (List.lookup v g.nodes)
    eattr := fun t u v => match g.layer? t with | some L => attrOf (L.find u v) | none => .empty
    gattr := attrOf (some g.gattr) }

theorem MEG.abs_kind_of_layer {g : MEG} {t : Nat} {L : Layer} (hL : g.layer? t = some L) :
    g.abs.kind t = some L.kind := by
  simp only [MEG.abs, hL, Option.map_some]

theorem MEG.abs_edge_of_layer {g : MEG} {t : Nat} {L : Layer} (hL : g.layer? t = some L) (u v : Nat) :
    g.abs.edge t u v = L.has u v := by
  simp only [MEG.abs, hL]

theorem MEG.abs_eattr_of_layer {g : MEG} {t : Nat} {L : Layer} (hL : g.layer? t = some L) (u v : Nat) :
    g.abs.eattr t u v = attrOf (L.find u v) := by
  simp only [MEG.abs, hL]

theorem AG.ext' {a b : AG} (h0 : a.admg = b.admg) (h1 : ∀ v, a.node v = b.node v) (h2 : ∀ t, a.kind t = b.kind t)
    (h3 : ∀ t u v, a.edge t u v = b.edge t u v) (h4 : ∀ v, a.nattr v = b.nattr v)
    (h5 : ∀ t u v, a.eattr t u v = b.eattr t u v) (h6 : a.gattr = b.gattr) : a = b := by
  cases a; cases b
  simp only [AG.mk.injEq]
  exact ⟨h0, funext h1, funext h2, funext fun t => funext fun u => funext fun v => h3 t u v, funext h4,
    funext fun t => funext fun u => funext fun v => h5 t u v, h6⟩

namespace MEG
theorem layer?_remap (g : MEG) (ns : List (Nat × Attr)) (f : Nat → Layer → Layer) (t : Nat) :
    (g.remap ns f).layer? t = (g.layer? t).map (f t) := lookup_map_snd t g.layers f
theorem layer?_applyAll (g : MEG) (f : Layer → Layer) (t : Nat) : (g.applyAll f).layer? t = (g.layer? t).map f :=
  lookup_map_snd t g.layers fun _ => f
theorem layer?_setLayer (g : MEG) (t t' : Nat) (L : Layer) :
    (g.setLayer t L).layer? t' = (g.layer? t').map fun L' => if t' == t then L else L' := by
  rw [setLayer_eq, layer?_remap]

theorem lookup_nodes_addNode (g : MEG) (v x : Nat) (a : Attr) :
    List.lookup x (g.addNode v a).nodes =
      if x == v then some (((List.lookup x g.nodes).getD []).upd a) else List.lookup x g.nodes := by
  unfold addNode; simp only
  split
  · rename_i hh
    show List.lookup x (g.nodes.map _) = _
    rw [lookup_map_at g.nodes v x (·.upd a)]
    split
    · rename_i hx
      have : (List.lookup x g.nodes).isSome = true := by
        rw [lookup_isSome_iff, eq_of_beq hx]; exact hh
      obtain ⟨b, hb⟩ := Option.isSome_iff_exists.1 this
      rw [hb]; rfl
    · rfl
  · rename_i hh
    show List.lookup x (g.nodes ++ [(v, a)]) = _
    have hv : v ∉ g.nodes.map (·.1) := fun hc => hh (hasNode_iff.2 hc)
    rw [lookup_append_single _ _ _ _ hv]
    split
    · rename_i hx
      rw [eq_of_beq hx, lookup_none_of_not_mem hv]; simp [Attr.upd]
    · rfl

theorem abs_addNode (g : MEG) (v : Nat) (a : Attr) : (g.addNode v a).abs = g.abs.addNodeS v a := by
  have hl : ∀ t, (g.addNode v a).layer? t = (g.layer? t).map (·.addNode v) := fun t => by
    rw [addNode_eq]; exact layer?_remap g _ _ t
  apply AG.ext'
  · rw [addNode_eq]; rfl
  · intro x
    rw [Bool.eq_iff_iff]
    simp only [abs, AG.addNodeS, hasNode_iff, mem_nodeIds_addNode, Bool.or_eq_true, beq_iff_eq]
  · intro t; simp only [abs, AG.addNodeS, hl]; cases g.layer? t <;> simp
  · intro t x y; simp only [abs, AG.addNodeS, hl]; cases g.layer? t <;> simp
  · intro x
    simp only [abs, AG.addNodeS, lookup_nodes_addNode]
    split
    · exact attrOf_upd _ a
    · rfl
  · intro t x y; simp only [abs, AG.addNodeS, hl]; cases g.layer? t <;> simp
  · rw [addNode_eq]; rfl

theorem abs_ensureNode (g : MEG) (v : Nat) (a : Attr) : (g.ensureNode v a).abs = g.abs.ensureS v a := by
  unfold ensureNode AG.ensureS
  show _ = if g.hasNode v = true then _ else _
  split
  · rfl
  · exact abs_addNode g v a

/-- apply `f` to the layers selected by the edge-type argument -/
def selF (T : EType) (f : Layer → Layer) : Nat → Layer → Layer := fun t' L' => if AG.sel T t' then f L' else L'

/-- same master data, layers transformed by `F` -/
structure LayersBy (g g' : MEG) (F : Nat → Layer → Layer) : Prop where
  admg : g'.admg = g.admg
  nodes : g'.nodes = g.nodes
  gattr : g'.gattr = g.gattr
  layer : ∀ t, g'.layer? t = (g.layer? t).map (F t)

theorem LayersBy.applyAll (g : MEG) (f : Layer → Layer) : LayersBy g (g.applyAll f) (selF .all f) :=
  ⟨rfl, rfl, rfl, layer?_applyAll g f⟩
theorem LayersBy.setLayer {g : MEG} {t : Nat} {L : Layer} (hL : g.layer? t = some L) (f : Layer → Layer) :
    LayersBy g (g.setLayer t (f L)) (selF (.one t) f) := by
  refine ⟨rfl, rfl, rfl, fun t' => ?_⟩
  rw [layer?_setLayer]
  by_cases h : t = t'
  · subst h; simp [selF, AG.sel, hL]
  · have h1 : (t' == t) = false := by simpa using fun hc : t' = t => h hc.symm
    have h2 : (t == t') = false := by simpa using h
    have : selF (.one t) f t' = id := by funext L'; simp [selF, AG.sel, h2]
    rw [this]; simp [h1]

/-- The right-hand sides are the two components of what `AG.step` unfolds to for an operation on the layers selected
    by `T`; the pair is stated component by component because `abs` applies to the first only. -/
theorem abs_mapSel {g : MEG} {T : EType} {f : Layer → Layer} {S : AG}
    (hS : ∀ g', LayersBy g g' (selF T f) → g'.abs = S) :
    (g.mapSel T f).1.abs = (if g.abs.known T then (S, true) else (g.abs, false)).1 ∧
      (g.mapSel T f).2 = (if g.abs.known T then (S, true) else (g.abs, false)).2 := by
  cases T with
  | all => exact ⟨hS _ (LayersBy.applyAll g f), rfl⟩
  | one t =>
    simp only [mapSel, AG.known, abs]
    rcases Option.eq_none_or_eq_some (g.layer? t) with hL | ⟨L, hL⟩ <;> simp only [hL]
    · exact ⟨rfl, rfl⟩
    · exact ⟨hS _ (LayersBy.setLayer hL f), rfl⟩

theorem LayersBy.abs_eq {g g' : MEG} {F : Nat → Layer → Layer} (h : LayersBy g g' F) {a : AG}
    (h0 : a.admg = g.abs.admg) (h1 : a.node = g.abs.node) (h4 : a.nattr = g.abs.nattr) (h6 : a.gattr = g.abs.gattr)
    (hnone : ∀ t, g.layer? t = none → a.kind t = none ∧ ∀ u v, a.edge t u v = false ∧ a.eattr t u v = .empty)
    (hsome : ∀ t L, g.layer? t = some L → a.kind t = some (F t L).kind ∧
      ∀ u v, a.edge t u v = (F t L).has u v ∧ a.eattr t u v = attrOf ((F t L).find u v)) :
    g'.abs = a := by
  have hl : ∀ t, (a.kind t = (g'.layer? t).map (·.kind)) ∧ ∀ u v,
      (a.edge t u v = match g'.layer? t with | some L => L.has u v | none => false) ∧
      a.eattr t u v = match g'.layer? t with | some L => attrOf (L.find u v) | none => .empty := fun t => by
    rw [h.layer]
    rcases Option.eq_none_or_eq_some (g.layer? t) with hL | ⟨L, hL⟩ <;> rw [hL]
    · exact hnone t hL
    · exact hsome t L hL
  apply AG.ext'
  · rw [h0]; exact h.admg
  · intro v; rw [h1]; simp only [abs, hasNode, nodeIds, h.nodes]
  · intro t; exact ((hl t).1).symm
  · intro t u v; exact (((hl t).2 u v).1).symm
  · intro v; rw [h4]; simp only [abs, h.nodes]
  · intro t u v; exact (((hl t).2 u v).2).symm
  · rw [h6]; simp only [abs, h.gattr]

theorem abs_putEdge {g g' : MEG} {T : EType} {u v : Nat} {a : Attr}
    (h : LayersBy g g' (selF T (·.addEdge u v a))) : g'.abs = g.abs.putEdge T u v a := by
  refine h.abs_eq rfl rfl rfl rfl (fun t hL => ?_) (fun t L hL => ?_)
  · simp [AG.putEdge, abs, hL]
  · cases hs : AG.sel T t
    · simp [AG.putEdge, abs, hL, selF, hs]
    · refine ⟨by simp [AG.putEdge, abs, hL, selF, hs], fun x y => ⟨?_, ?_⟩⟩
      · simp [AG.putEdge, abs, hL, selF, hs, Layer.has_addEdge, same_eq_sameP]
      · simp only [AG.putEdge, abs, hL, selF, hs, ite_true, Bool.true_and, Option.map_some, Layer.find_addEdge, same_eq_sameP]
        split
        · exact (attrOf_upd _ _).symm
        · rfl

theorem abs_dropEdge {g g' : MEG} {T : EType} {u v : Nat}
    (h : LayersBy g g' (selF T (·.dropEdge u v))) : g'.abs = g.abs.dropEdgeS T u v := by
  refine h.abs_eq rfl rfl rfl rfl (fun t hL => ?_) (fun t L hL => ?_)
  · simp [AG.dropEdgeS, abs, hL]
  · cases hs : AG.sel T t
    · simp [AG.dropEdgeS, abs, hL, selF, hs]
    · refine ⟨by simp [AG.dropEdgeS, abs, hL, selF, hs], fun x y => ⟨?_, ?_⟩⟩
      · simp [AG.dropEdgeS, abs, hL, selF, hs, Layer.has_dropEdge, same_eq_sameP]
      · simp only [AG.dropEdgeS, abs, hL, selF, hs, ite_true, Bool.true_and, Option.map_some, Layer.find_dropEdge, same_eq_sameP]
        split <;> rfl

theorem abs_clearEdges {g g' : MEG} {T : EType} (h : LayersBy g g' (selF T (·.clearEdges))) :
    g'.abs = g.abs.clearS T := by
  refine h.abs_eq rfl rfl rfl rfl (fun t hL => ?_) (fun t L hL => ?_)
  · simp [AG.clearS, abs, hL]
  · cases hs : AG.sel T t <;> simp [AG.clearS, abs, hL, selF, hs]

theorem LayersBy.trans_remap {g g' : MEG} {T : EType} (f1 f2 : Layer → Layer)
    (h : LayersBy g g' (selF T fun L => f2 (f1 L))) :
    LayersBy (g.remap g.nodes (selF T f1)) g' (selF T f2) := by
  refine ⟨h.admg, h.nodes, h.gattr, fun t => ?_⟩
  rw [h.layer, layer?_remap]
  cases g.layer? t <;> simp [selF] <;> split <;> rfl
theorem LayersBy.remap_self (g : MEG) (F : Nat → Layer → Layer) : LayersBy g (g.remap g.nodes F) F :=
  ⟨rfl, rfl, rfl, layer?_remap g g.nodes F⟩

/-- a layer operation that is a fold of single steps refines the fold of what the single step refines -/
theorem abs_foldl {β} {T : EType} {f : Layer → β → Layer} {S : AG → β → AG}
    (hstep : ∀ {g g' : MEG} {b : β}, LayersBy g g' (selF T (f · b)) → g'.abs = S g.abs b)
    {g g' : MEG} {bs : List β} (h : LayersBy g g' (selF T fun L => bs.foldl f L)) :
    g'.abs = bs.foldl S g.abs := by
  induction bs generalizing g with
  | nil =>
    refine h.abs_eq rfl rfl rfl rfl (fun t hL => ?_) (fun t L hL => ?_)
    · simp [abs, hL]
    · simp [abs, hL, selF]
  | cons b bs ih =>
    rw [List.foldl_cons, ← hstep (LayersBy.remap_self g (selF T (f · b)))]
    exact ih (LayersBy.trans_remap (f · b) (fun L => bs.foldl f L) h)

theorem abs_addEdges {g g' : MEG} {T : EType} {es : List (Nat × Nat)} {a : Attr}
    (h : LayersBy g g' (selF T (·.addEdges es a))) :
    g'.abs = es.foldl (fun s e => s.putEdge T e.1 e.2 a) g.abs :=
  abs_foldl (f := fun L (e : Nat × Nat) => L.addEdge e.1 e.2 a) abs_putEdge h

theorem abs_removeEdges {g g' : MEG} {T : EType} {es : List (Nat × Nat)}
    (h : LayersBy g g' (selF T (·.removeEdges es))) :
    g'.abs = es.foldl (fun s e => s.dropEdgeS T e.1 e.2) g.abs :=
  abs_foldl (f := fun L (e : Nat × Nat) => L.dropEdge e.1 e.2) abs_dropEdge h

end MEG
end C02
