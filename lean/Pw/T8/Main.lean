import Pw.T8.FromAcy
open Closure MG

/-! # T8 (Forré–Mooij): sigma-separation in G = m-separation in the acyclification of G -/
namespace C19

variable {G A : MG}

theorem G_noSelfLoop (hd : Dom G) (hun : G.un = []) : NoSelfLoop G :=
  noSelfLoop_of_irrefl hd.noloopD hd.noloopB (fun a h => by rw [hun] at h; cases h)

theorem sigmaConn_iff_mConn (hd : Dom G) (hun : G.un = []) (hacy : IsAcyclification G A)
    {Z : List Nat} (hZ : ∀ z ∈ Z, z ∈ G.nodes) {x y : Nat} (hx : x ∉ Z) (hy : y ∉ Z) :
    SigmaConnPath G Z x y ↔ MConnPath A Z x y := by
  have hAwf : A.WF := A_wf hd hun hacy
  have hZA : ∀ z ∈ Z, z ∈ A.nodes := by rw [hacy.nodes]; exact hZ
  have hAb : NoUndirAtHead A := noUndirAtHead_of_un_nil A (by rw [hacy.un, hun])
  have hAsl : NoSelfLoop A := hacy.noSelfLoop hun
  constructor
  · rintro ⟨hs, hv, hend, _, ho⟩
    have := sig_to_conn hd hun hacy hZ (x := x) hs x none hv ho (by rw [hend]; exact hy) (fun _ => hx)
      (Or.inr ⟨x, SC.refl G x, Conn.start, hx⟩)
    rw [hend] at this
    exact (walk_iff_path hAwf hAb hAsl hZA hx).mp this
  · intro hp
    obtain ⟨m, hc⟩ := (walk_iff_path hAwf hAb hAsl hZA hx).mpr hp
    obtain ⟨e, hcs, _⟩ := acy_to_sig hd hun hacy hZ hc
    obtain ⟨hs, hv, ho, hend, _⟩ := walk_of_connS hcs
    obtain ⟨ps, pv, po, pe, pn⟩ := sigWalk_to_path hun (G_noSelfLoop hd hun) hs none x hv ho
    exact ⟨ps, pv, by rw [pe, hend], pn, po⟩

/-- **T8.** For every directed mixed graph with cycles and bidirected edges, sigma-separation in `G`
    is m-separation in any graph `A` that has the edge characterisation of the acyclification. -/
theorem sigmaSep_iff_mSep (hd : Dom G) (hun : G.un = []) (hacy : IsAcyclification G A)
    (X Y Z : List Nat) (hZ : ∀ z ∈ Z, z ∈ G.nodes) (hXZ : ∀ x ∈ X, x ∉ Z) (hYZ : ∀ y ∈ Y, y ∉ Z) :
    SigmaSep G X Y Z ↔ MSep A X Y Z := by
  unfold SigmaSep MSep
  exact forall_congr' fun x => forall_congr' fun hx => forall_congr' fun y => forall_congr' fun hy =>
    not_congr (sigmaConn_iff_mConn hd hun hacy hZ (hXZ x hx) (hYZ y hy))

/-- **C19 (second sentence), unconditional.** The model of `sigma_separated` (acyclify with the
    components visited in any admissible order, then `m_separated`) answers `true` exactly when every
    path between X and Y is sigma-blocked by Z. -/
theorem sigmaSeparated_spec {order : List Nat} (hd : Dom G) (hun : G.un = []) (ho : IsOrder G order)
    (X Y Z : List Nat) (hX : ∀ x ∈ X, x ∈ G.nodes) (hZ : ∀ z ∈ Z, z ∈ G.nodes)
    (hXZ : ∀ x ∈ X, x ∉ Z) (hYZ : ∀ y ∈ Y, y ∉ Z) :
    SigmaSpec (fun G X Y Z => sigmaSeparated G order X Y Z) G X Y Z := by
  have hacy := acy_isAcyclification hd ho
  have hAwf : (acy G order).WF := A_wf hd hun hacy
  unfold SigmaSpec sigmaSeparated
  rw [sigmaSep_iff_mSep hd hun hacy X Y Z hZ hXZ hYZ]
  exact mSeparated_iff_MSep (acy G order) hAwf
    (noUndirAtHead_of_un_nil _ (by rw [hacy.un, hun])) (hacy.noSelfLoop hun) X Y Z
    (by rw [hacy.nodes]; exact hX) (by rw [hacy.nodes]; exact hZ) hXZ

end C19
