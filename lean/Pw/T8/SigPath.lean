import Pw.C19.Scc
import Pw.T2.Basic
open Closure MG

/-! # T8 (Forré–Mooij): every sigma-open walk shortens to a sigma-open path

An instance of `MG.cutLoops`; the condition at a node also looks at its two neighbours on the walk
(does an outgoing walk edge stay inside the strongly connected component?). -/
namespace C19

/-- entry information after walking `hs` from `a` (previous node, mark at the end node) -/
def exitS : Option (Nat × Mark) → Nat → List Hop → Option (Nat × Mark)
  | e, _, [] => e
  | _, a, h :: t => exitS (some (a, h.mn)) h.nx t

def sigO (G : MG) (Z : List Nat) : Option (Nat × Mark) → Nat → Mark → Nat → Prop
  | none, _, _, _ => True
  | some (u, m), v, mo, w => sigmaCond G Z u m v mo w

theorem sigmaCond_of_not_col {G : MG} {Z : List Nat} {u : Nat} {m : Mark} {v : Nat} {mo : Mark} {w : Nat}
    (h : ¬ (m = .head ∧ mo = .head)) :
    sigmaCond G Z u m v mo w ↔ (v ∉ Z ∨ ((mo = .tail → SC G v w) ∧ (m = .tail → SC G v u))) := by
  unfold sigmaCond; rw [if_neg h]

theorem sigmaCond_col {G : MG} {Z : List Nat} {u v w : Nat} :
    sigmaCond G Z u .head v .head w ↔ ColliderOpen G Z v := by
  unfold sigmaCond; simp

theorem openSig_cons {G : MG} {Z : List Nat} (e : Option (Nat × Mark)) (a : Nat) (h : Hop) (t : List Hop) :
    OpenSig G Z e a (h :: t) ↔ sigO G Z e a h.mp h.nx ∧ OpenSig G Z (some (a, h.mn)) h.nx t := by
  cases e with
  | none => simp [OpenSig, sigO]
  | some p => obtain ⟨u, m⟩ := p; simp [OpenSig, sigO]

theorem openSig_append {G : MG} {Z : List Nat} : ∀ (P1 P2 : List Hop) (e : Option (Nat × Mark)) (w : Nat),
    OpenSig G Z e w (P1 ++ P2) ↔
      OpenSig G Z e w P1 ∧ OpenSig G Z (exitS e w P1) (endNode w P1) P2 := by
  intro P1 P2
  induction P1 with
  | nil => intro e w; cases e <;> exact ⟨fun h => ⟨trivial, h⟩, And.right⟩
  | cons h t ih =>
    intro e w
    rw [List.cons_append, openSig_cons, openSig_cons, ih, and_assoc]
    rfl

theorem exitS_snoc : ∀ (s : List Hop) (e : Option (Nat × Mark)) (a : Nat) (hop : Hop),
    exitS e a (s ++ [hop]) = some (endNode a s, hop.mn) := by
  intro s
  induction s with
  | nil => exact fun _ _ _ => rfl
  | cons h t ih => exact fun _ _ hop => ih _ h.nx hop

theorem head_of_tail {G : MG} (hun : G.un = []) {a b : Nat} {mb : Mark} (h : HasEdge G a b .tail mb) :
    mb = .head := hasEdge_tail_of_un_nil hun h

theorem openSig_iff_openG {G : MG} {Z : List Nat} : ∀ (hs : List Hop) (e : Option (Nat × Mark)) (a : Nat),
    OpenSig G Z e a hs ↔
      OpenG (fun e a h => sigO G Z e a h.mp h.nx) (fun a h => some (a, h.mn)) e a hs := by
  intro hs
  induction hs with
  | nil => intro e _; cases e <;> exact Iff.rfl
  | cons h t ih => intro e a; rw [openSig_cons, ih]; rfl

/-- At a non-collider in `Z` each of the two walk edges with a tail at the node is also a walk edge
    before the cut, where it stayed inside the component. -/
theorem spliceSig {G : MG} {Z : List Nat} (hun : G.un = []) (a : Nat) :
    Splice (fun e a h => sigO G Z e a h.mp h.nx) (fun a h => some (a, h.mn)) G a := by
  intro e h s hop h2 hv1 hvl hnx hv2 c1 ol c2
  cases e with
  | none => trivial
  | some p =>
    obtain ⟨u0, m0⟩ := p
    by_cases hcol : m0 = .head ∧ h2.mp = .head
    · have : ColliderOpen G Z a := by
        refine splice_collider _ _ (·.map (·.2)) (noUndirAtHead_of_un_nil G hun)
          (fun _ _ => colliderOpen_up) (fun _ _ => rfl) (fun e a h he hmp c => ?_)
          (congrArg some hcol.1) hcol.2 hv1 hvl hnx hv2 c1 ol c2
        cases e with
        | none => nomatch he
        | some q =>
          obtain ⟨u, m⟩ := q
          cases (Option.some.inj he : m = .head)
          rw [hmp] at c
          exact sigmaCond_col.mp c
      rw [hcol.1, hcol.2]
      exact sigmaCond_col.mpr this
    · simp only [sigO, sigmaCond] at c1 c2 ⊢
      rw [if_neg hcol]
      by_cases haZ : a ∈ Z
      · refine Or.inr ⟨fun hm2 => ?_, fun hm0 => ?_⟩
        · rw [if_neg (fun hx => nomatch hm2 ▸ hx.2)] at c2
          exact (c2.resolve_left (fun hx => hx haZ)).1 hm2
        · rw [if_neg (fun hx => nomatch hm0 ▸ hx.1)] at c1
          exact (c1.resolve_left (fun hx => hx haZ)).2 hm0
      · exact Or.inl haZ

/-- Every sigma-open walk can be shortened to a sigma-open path with the same end
    points and the same condition at the first node. -/
theorem sigWalk_to_path {G : MG} {Z : List Nat} (hun : G.un = []) (hsl : NoSelfLoop G) :
    ∀ (hs : List Hop) (e : Option (Nat × Mark)) (a : Nat), ValidW G a hs → OpenSig G Z e a hs →
      ∃ ps, ValidW G a ps ∧ OpenSig G Z e a ps ∧ endNode a ps = endNode a hs ∧ (nodesOf a ps).Nodup := by
  intro hs e a hv ho
  obtain ⟨ps, pv, po, pe, pn, _⟩ := cutLoops _ _ hsl hs e a hv ((openSig_iff_openG _ _ _).mp ho)
    (fun v _ => spliceSig hun v)
  exact ⟨ps, pv, (openSig_iff_openG _ _ _).mpr po, pe, pn⟩

end C19
