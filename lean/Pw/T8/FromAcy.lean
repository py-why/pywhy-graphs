import Pw.T8.ToAcy
import Pw.C19.Acy
open Closure MG

/-! # T8 (Forré–Mooij): an m-connecting walk in the acyclification A expands to a sigma-open walk in G

Each edge of A is replaced by a short walk of G: a directed edge `i -> j` by `i -> k ~> j` inside the
component of `j`, a bidirected edge between components by `i <~ a <-> b ~> j`, a bidirected edge inside
a component by a directed path `i ~> j`. Arrival marks are preserved. -/
namespace C19

/-- composable form of sigma-open walks: reached node and (previous node, arrival mark) -/
inductive ConnS (G : MG) (Z : List Nat) (x : Nat) : Nat → Option (Nat × Mark) → Prop
  | start : ConnS G Z x x none
  | step {v w : Nat} {e : Option (Nat × Mark)} {mv mw : Mark} : ConnS G Z x v e → HasEdge G v w mv mw →
      sigO G Z e v mv w → ConnS G Z x w (some (v, mw))

theorem walk_of_connS {G : MG} {Z : List Nat} {x v : Nat} {e : Option (Nat × Mark)}
    (hc : ConnS G Z x v e) :
    ∃ hs, ValidW G x hs ∧ OpenSig G Z none x hs ∧ endNode x hs = v ∧ exitS none x hs = e := by
  induction hc with
  | start => exact ⟨[], trivial, trivial, rfl, rfl⟩
  | @step v w e mv mw _ he hcond ih =>
    obtain ⟨hs, hv, ho, hend, hex⟩ := ih
    refine ⟨hs ++ [⟨mv, mw, w⟩], ?_, ?_, endNode_snoc _ _ _, ?_⟩
    · rw [validW_append]; exact ⟨hv, by rw [hend]; exact ⟨he, trivial⟩⟩
    · rw [openSig_append]
      refine ⟨ho, ?_⟩
      rw [hend, hex, openSig_cons]
      exact ⟨hcond, trivial⟩
    · rw [exitS_snoc, hend]

variable {G A : MG} {Z : List Nat} {x : Nat}

/-- arrival mark of an entry (`tail` convention for the start, as in `Conn.start`) -/
def arr : Option (Nat × Mark) → Mark
  | none => .tail
  | some (_, m) => m

theorem sigO_of_notMem {e : Option (Nat × Mark)} {v w : Nat} {mo : Mark}
    (hnc : arr e = .tail ∨ mo = .tail) (hv : v ∉ Z) : sigO G Z e v mo w := by
  cases e with
  | none => trivial
  | some p =>
    obtain ⟨u, m0⟩ := p
    refine (sigmaCond_of_not_col (m := m0) (mo := mo) fun hx => ?_).mpr (Or.inl hv)
    exact hnc.elim (fun h => nomatch h.symm.trans hx.1) (fun h => nomatch h.symm.trans hx.2)

theorem sigO_tail_of_sc {e : Option (Nat × Mark)} {v w : Nat} (hsc : SC G v w)
    (hv : arr e = .tail → v ∉ Z) : sigO G Z e v .tail w := by
  cases e with
  | none => trivial
  | some p =>
    obtain ⟨u, m0⟩ := p
    refine (sigmaCond_of_not_col (m := m0) (mo := .tail) fun hx => nomatch hx.2).mpr ?_
    cases m0 with
    | head => exact Or.inr ⟨fun _ => hsc, fun hx => nomatch hx⟩
    | tail => exact Or.inl (hv rfl)

theorem sigO_head_of_sc {c k w : Nat} (hsc : SC G k c) : sigO G Z (some (c, .tail)) k .head w :=
  (sigmaCond_of_not_col (m := .tail) (mo := .head) fun hx => nomatch hx.1).mpr
    (Or.inr ⟨fun hx => (nomatch hx), fun _ => hsc⟩)

theorem sig_down_head {k w : Nat} (hkw : Anc G k w) :
    Anc G w k → ∀ u, ConnS G Z x k (some (u, .head)) → ∃ e, ConnS G Z x w e ∧ arr e = .head := by
  induction hkw with
  | refl => intro _ u hc; exact ⟨_, hc, rfl⟩
  | @step a b c e hbc ih =>
    intro hca u hc
    have hsc : SC G a b := ⟨Anc.step e (Anc.refl b), hbc.trans hca⟩
    exact ih (hca.tail e) a (ConnS.step hc (Or.inl ⟨rfl, rfl, e⟩ : HasEdge G a b .tail .head)
      (sigO_tail_of_sc hsc fun hx => nomatch hx))

theorem sigO_head_after_up {k v : Nat} {e e' : Option (Nat × Mark)}
    (hcond : ∀ w, sigO G Z e v .head w)
    (hdisj : (k = v ∧ e' = e) ∨ ∃ c, e' = some (c, .tail) ∧ SC G k c) (w : Nat) :
    sigO G Z e' k .head w := by
  rcases hdisj with ⟨rfl, rfl⟩ | ⟨c, rfl, hsc⟩
  · exact hcond w
  · exact sigO_head_of_sc hsc

theorem sig_up {k v : Nat} {e : Option (Nat × Mark)} (hkv : Anc G k v) :
    Anc G v k → ConnS G Z x v e → (∀ w, sigO G Z e v .head w) →
      ∃ e', ConnS G Z x k e' ∧ ((k = v ∧ e' = e) ∨ ∃ c, e' = some (c, .tail) ∧ SC G k c) := by
  induction hkv with
  | refl => intro _ hc _; exact ⟨e, hc, Or.inl ⟨rfl, rfl⟩⟩
  | @step a b c hab hbc ih =>
    intro hca hc hcond
    obtain ⟨eb, hcb, hdisj⟩ := ih (hca.tail hab) hc hcond
    have hsc : SC G a b := ⟨Anc.step hab (Anc.refl b), hbc.trans hca⟩
    exact ⟨some (b, .tail),
      ConnS.step hcb (Or.inr (Or.inl ⟨rfl, rfl, hab⟩) : HasEdge G b a .head .tail)
        (sigO_head_after_up hcond hdisj a),
      Or.inr ⟨b, rfl, hsc⟩⟩

theorem acy_to_sig (hd : Dom G) (hun : G.un = []) (hacy : IsAcyclification G A)
    (hZ : ∀ z ∈ Z, z ∈ G.nodes) {v : Nat} {m : Mark} (hc : Conn A Z (A.anc Z) x v m) :
    ∃ e, ConnS G Z x v e ∧ arr e = m := by
  have hAwf : A.WF := A_wf hd hun hacy
  have hZA : ∀ z ∈ Z, z ∈ A.nodes := by rw [hacy.nodes]; exact hZ
  induction hc with
  | start => exact ⟨none, ConnS.start, rfl⟩
  | @step v w m mv mw _ he hcond ih =>
    obtain ⟨e, hcs, harr⟩ := ih
    -- a non-collider of the A-walk is outside Z
    have hvZ : m = .tail ∨ mv = .tail → v ∉ Z := by
      intro h
      rwa [if_neg] at hcond
      exact fun hx => h.elim (fun h => nomatch h.symm.trans hx.1) (fun h => nomatch h.symm.trans hx.2)
    -- leaving v through an arrowhead is fine in G whenever it was fine in A
    have hheadOK : mv = .head → ∀ w', sigO G Z e v .head w' := by
      intro hmv w'
      cases m with
      | tail => exact sigO_of_notMem (Or.inl harr) (hvZ (Or.inl rfl))
      | head =>
        cases e with
        | none => trivial
        | some p =>
          obtain ⟨u, m0⟩ := p
          cases (harr : m0 = .head)
          rw [hmv, if_pos ⟨rfl, rfl⟩] at hcond
          obtain ⟨z, hz, haz⟩ := (mem_anc hAwf hZA).mp hcond
          exact sigmaCond_col.mpr ⟨z, hz, anc_of_dirSpec hacy.dir haz⟩
    rcases he with ⟨hmv, hmw, hvw⟩ | ⟨hmv, hmw, hwv⟩ | ⟨hmv, hmw, hbi⟩ | ⟨hmv, hmw, hun'⟩
    · subst hmv; subst hmw
      obtain ⟨hnsc, k, hwk, hvk⟩ := (hacy.dir v w).mp hvw
      have h1 : ConnS G Z x k (some (v, .head)) :=
        ConnS.step hcs (Or.inl ⟨rfl, rfl, hvk⟩ : HasEdge G v k .tail .head)
          (sigO_of_notMem (Or.inr rfl) (hvZ (Or.inr rfl)))
      exact sig_down_head hwk.2 hwk.1 v h1
    · subst hmv; subst hmw
      obtain ⟨hnsc, k, hvk, hwk⟩ := (hacy.dir w v).mp hwv
      obtain ⟨e', hck, hdisj⟩ := sig_up hvk.2 hvk.1 hcs (hheadOK rfl)
      have h1 : ConnS G Z x w (some (k, .tail)) :=
        ConnS.step hck (Or.inr (Or.inl ⟨rfl, rfl, hwk⟩) : HasEdge G k w .head .tail)
          (sigO_head_after_up (hheadOK rfl) hdisj w)
      exact ⟨_, h1, rfl⟩
    · subst hmv; subst hmw
      obtain ⟨hne, hsame | ⟨a, b, hva, hwb, hab⟩⟩ := (hacy.bi v w).mp hbi
      · cases hsame.1 with
        | refl => exact absurd rfl hne
        | @step _ b _ hvb hbw =>
          have hscb : SC G v b := ⟨Anc.step hvb (Anc.refl b), hbw.trans hsame.2⟩
          have h1 : ConnS G Z x b (some (v, .head)) :=
            ConnS.step hcs (Or.inl ⟨rfl, rfl, hvb⟩ : HasEdge G v b .tail .head)
              (sigO_tail_of_sc hscb fun ht => hvZ (Or.inl (harr ▸ ht)))
          exact sig_down_head hbw (hsame.2.tail hvb) v h1
      · obtain ⟨e', hca, hdisj⟩ := sig_up hva.2 hva.1 hcs (hheadOK rfl)
        have h1 : ConnS G Z x b (some (a, .head)) :=
          ConnS.step hca (Or.inr (Or.inr (Or.inl ⟨rfl, rfl, hab⟩)) : HasEdge G a b .head .head)
            (sigO_head_after_up (hheadOK rfl) hdisj b)
        exact sig_down_head hwb.2 hwb.1 a h1
    · rw [hacy.un, hun] at hun'
      rcases hun' with h | h <;> cases h

end C19
