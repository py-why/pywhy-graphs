import Pw.T8.SigPath
import Pw.C19.Char
open Closure MG

/-! # T8 (Forré–Mooij): a sigma-open walk in G yields an m-connecting walk in the acyclification A

The G-walk is processed hop by hop. While it stays inside one strongly connected component S the
A-side keeps a summary: either (H) every node of S can be reached in A through an arrowhead, or (T) some
node of S outside Z has been reached through a tail. -/
namespace C19

variable {G A : MG}

theorem A_dir_of_cross (hacy : IsAcyclification G A) {v q s' : Nat} (hvq : (v, q) ∈ G.dir)
    (hn : ¬ SC G v q) (hs : SC G q s') : (v, s') ∈ A.dir := by
  rw [hacy.dir]
  exact ⟨fun h => hn (h.trans hs.symm), q, hs.symm, hvq⟩

theorem A_bi_of_cross (hacy : IsAcyclification G A) {v q s s' : Nat}
    (hvq : (v, q) ∈ G.bi ∨ (q, v) ∈ G.bi) (hn : ¬ SC G v q) (hs : SC G v s) (hs' : SC G q s') :
    (s, s') ∈ A.bi ∨ (s', s) ∈ A.bi := by
  rw [hacy.bi]
  refine ⟨?_, Or.inr ⟨v, q, hs.symm, hs'.symm, hvq⟩⟩
  rintro rfl
  exact hn (hs.trans hs'.symm)

theorem A_bi_of_same (hacy : IsAcyclification G A) {s s' : Nat} (hne : s ≠ s') (hs : SC G s s') :
    (s, s') ∈ A.bi ∨ (s', s) ∈ A.bi := by
  rw [hacy.bi]; exact ⟨hne, Or.inl hs⟩

theorem A_wf (hd : Dom G) (_ : G.un = []) (hacy : IsAcyclification G A) : A.WF :=
  hacy.wf hd.wf

theorem exists_A_anc (hacy : IsAcyclification G A) {c z : Nat} (ha : Anc G c z) :
    ∃ s, SC G c s ∧ Anc A s z := by
  induction ha with
  | refl a => exact ⟨a, SC.refl G a, Anc.refl a⟩
  | @step a b z e _ ih =>
    obtain ⟨t, hbt, htz⟩ := ih
    by_cases hab : SC G a b
    · exact ⟨t, hab.trans hbt, htz⟩
    · exact ⟨a, SC.refl G a, Anc.step (A_dir_of_cross hacy e hab hbt) htz⟩

/-- A-side summary at the current node `v` of the G-walk with G-entry `e` -/
def Inv (G A : MG) (Z : List Nat) (x v : Nat) (e : Option (Nat × Mark)) : Prop :=
  (∃ u m, e = some (u, m) ∧ (∀ s, SC G v s → Conn A Z (A.anc Z) x s .head) ∧
      (m = .tail → ∃ c, SC G v c ∧ ColliderOpen G Z c)) ∨
  (∃ s1, SC G v s1 ∧ Conn A Z (A.anc Z) x s1 .tail ∧ s1 ∉ Z)

theorem Inv.conn_self (hacy : IsAcyclification G A) {Z : List Nat} {x v : Nat}
    {e : Option (Nat × Mark)} (hinv : Inv G A Z x v e) : ∃ m, Conn A Z (A.anc Z) x v m := by
  rcases hinv with ⟨_, _, _, hH, _⟩ | ⟨s1, hs1, hc, hz1⟩
  · exact ⟨_, hH v (SC.refl G v)⟩
  · by_cases heq : s1 = v
    · exact ⟨_, heq ▸ hc⟩
    · exact ⟨_, hc.step_noncollider
        (Or.inr (Or.inr (Or.inl ⟨rfl, rfl, A_bi_of_same hacy heq hs1.symm⟩)) : HasEdge A s1 v .head .head)
        (Or.inl rfl) hz1⟩

theorem Inv.via_head (hd : Dom G) (hun : G.un = []) (hacy : IsAcyclification G A) {Z : List Nat}
    (hZ : ∀ z ∈ Z, z ∈ G.nodes) {x v : Nat} {e : Option (Nat × Mark)} (hinv : Inv G A Z x v e)
    (hcol : ∀ u, e = some (u, .head) → ColliderOpen G Z v) :
    ∃ s mm, SC G v s ∧ Conn A Z (A.anc Z) x s mm ∧
      -- written as the side condition of `Conn.step` for a hop that leaves `s` through an arrowhead
      (if mm = .head ∧ Mark.head = .head then s ∈ A.anc Z else s ∉ Z) := by
  rcases hinv with ⟨u, m, he, hH, hW⟩ | ⟨s1, hs1, hc, hz1⟩
  · -- the component contains a G-ancestor of Z, hence an A-ancestor of Z
    obtain ⟨c, hvc, z, hz, hcz⟩ : ∃ c, SC G v c ∧ ColliderOpen G Z c := by
      cases m with
      | head => exact ⟨v, SC.refl G v, hcol u he⟩
      | tail => exact hW rfl
    obtain ⟨s, hcs, hsz⟩ := exists_A_anc hacy hcz
    have hsan : s ∈ A.anc Z :=
      (mem_anc (A_wf hd hun hacy) (by rw [hacy.nodes]; exact hZ)).mpr ⟨z, hz, hsz⟩
    exact ⟨s, .head, hvc.trans hcs, hH s (hvc.trans hcs), by rw [if_pos ⟨rfl, rfl⟩]; exact hsan⟩
  · exact ⟨s1, .tail, hs1, hc, by rw [if_neg (fun h => nomatch h.1)]; exact hz1⟩

/-- A node entered through a tail from another component must be outside `Z`: it is then reached
    through a tail in A. -/
theorem Inv.step (hd : Dom G) (hun : G.un = []) (hacy : IsAcyclification G A) {Z : List Nat}
    (hZ : ∀ z ∈ Z, z ∈ G.nodes) {x v : Nat} {e : Option (Nat × Mark)} {h : Hop}
    (hv1 : HasEdge G v h.nx h.mp h.mn) (ho1 : sigO G Z e v h.mp h.nx) (hv0 : e = none → v ∉ Z)
    (hq : h.mn = .tail → ¬ SC G v h.nx → h.nx ∉ Z) (hinv : Inv G A Z x v e) :
    Inv G A Z x h.nx (some (v, h.mn)) := by
  have hcolv : h.mp = .head → ∀ u, e = some (u, .head) → ColliderOpen G Z v := by
    intro hmp u he
    subst he
    rw [hmp] at ho1
    exact sigmaCond_col.mp ho1
  by_cases hsc : SC G v h.nx
  · rcases hinv with ⟨u, m, he, hH, hW⟩ | ⟨s1, hs1, hc, hz1⟩
    · refine Or.inl ⟨v, h.mn, rfl, fun s hs => hH s (hsc.trans hs), fun hmn => ?_⟩
      -- the hop is v <- h.nx, so the mark at v is a head
      have hmp : h.mp = .head := by rw [hmn] at hv1; exact head_of_tail hun hv1.symm
      cases m with
      | head => exact ⟨v, hsc.symm, hcolv hmp u he⟩
      | tail =>
        obtain ⟨c, hvc, hco⟩ := hW rfl
        exact ⟨c, hsc.symm.trans hvc, hco⟩
    · exact Or.inr ⟨s1, hsc.symm.trans hs1, hc, hz1⟩
  · cases hmp : h.mp with
    | tail =>
      -- v -> h.nx: every node of the new component is a child of v in A
      rw [hmp] at hv1 ho1
      have hmn := head_of_tail hun hv1
      rw [hmn] at hv1 ⊢
      have hvZ : v ∉ Z := by
        cases e with
        | none => exact hv0 rfl
        | some p =>
          have ho1 : sigmaCond G Z p.1 p.2 v .tail h.nx := ho1
          rw [sigmaCond_of_not_col (mo := .tail) (fun hx => nomatch hx.2)] at ho1
          exact ho1.resolve_right fun hx => hsc (hx.1 rfl)
      obtain ⟨mv, hcv⟩ := hinv.conn_self hacy
      refine Or.inl ⟨v, .head, rfl, fun s' hs' => ?_, fun hx => nomatch hx⟩
      exact hcv.step_noncollider
        (Or.inl ⟨rfl, rfl, A_dir_of_cross hacy hv1.dir_of_tail_head hsc hs'⟩ : HasEdge A v s' .tail .head)
        (Or.inr rfl) hvZ
    | head =>
      rw [hmp] at hv1
      obtain ⟨s, mm, hvs, hcs, hcond⟩ := hinv.via_head hd hun hacy hZ (hcolv hmp)
      cases hmn : h.mn with
      | tail =>
        -- v <- h.nx: h.nx is a parent in A of the node `s` of the component just left
        rw [hmn] at hv1
        have hsc' : ¬ SC G h.nx v := fun hx => hsc hx.symm
        exact Or.inr ⟨h.nx, SC.refl G _, Conn.step hcs
          (Or.inr (Or.inl ⟨rfl, rfl, A_dir_of_cross hacy hv1.symm.dir_of_tail_head hsc' hvs⟩) :
            HasEdge A s h.nx .head .tail) hcond, hq hmn hsc⟩
      | head =>
        -- v <-> h.nx: `s` is a spouse in A of every node of the new component
        rw [hmn] at hv1
        have hbi : (v, h.nx) ∈ G.bi ∨ (h.nx, v) ∈ G.bi := mem_sym.mp (hasEdge_head_head.mp hv1)
        refine Or.inl ⟨v, .head, rfl, fun s' hs' => ?_, fun hx => nomatch hx⟩
        exact Conn.step hcs
          (Or.inr (Or.inr (Or.inl ⟨rfl, rfl, A_bi_of_cross hacy hbi hsc hvs hs'⟩)) :
            HasEdge A s s' .head .head) hcond

theorem sig_to_conn (hd : Dom G) (hun : G.un = []) (hacy : IsAcyclification G A) {Z : List Nat}
    (hZ : ∀ z ∈ Z, z ∈ G.nodes) {x : Nat} :
    ∀ (hs : List Hop) (v : Nat) (e : Option (Nat × Mark)), ValidW G v hs → OpenSig G Z e v hs →
      endNode v hs ∉ Z → (e = none → v ∉ Z) → Inv G A Z x v e →
      ∃ m, Conn A Z (A.anc Z) x (endNode v hs) m := by
  intro hs
  induction hs with
  | nil => exact fun v e _ _ _ _ hinv => hinv.conn_self hacy
  | cons h t ih =>
    intro v e hv ho hend hv0 hinv
    rw [openSig_cons] at ho
    refine ih h.nx (some (v, h.mn)) hv.2 ho.2 hend (fun hx => nomatch hx)
      (hinv.step hd hun hacy hZ hv.1 ho.1 hv0 fun hmn hsc => ?_)
    -- entered through a tail from another component: the end point, or a non-collider whose
    -- entering edge leaves its component
    cases t with
    | nil => exact hend
    | cons h2 t2 =>
      have hc : sigmaCond G Z v h.mn h.nx h2.mp h2.nx := ((openSig_cons _ _ _ _).mp ho.2).1
      rw [hmn, sigmaCond_of_not_col (m := .tail) (fun hx => nomatch hx.1)] at hc
      exact hc.resolve_right fun hx => hsc (hx.2 rfl).symm

end C19
