import Pw.C03.Bits
import Pw.C03.PairMap
/-! C03 — the property, stated without reference to the guards.

"a PAG never has, on one node pair, a bidirected edge together with a directed or circle mark,
 directed edges in both directions, or an arrowhead and a circle at the same endpoint, and a CPDAG
 never has a directed edge together with an undirected or an opposite directed edge" -/
namespace C03

namespace PBits
/-- endpoint marks claimed by the layers (pair read relative to (u,v)) -/
def arrowAtV (s : PBits) : Bool := s.directed_uv || s.bi
def arrowAtU (s : PBits) : Bool := s.directed_vu || s.bi
def circleAtV (s : PBits) : Bool := s.circle_uv
def circleAtU (s : PBits) : Bool := s.circle_vu
end PBits

/-- no contradictory marks on a PAG pair (the property's list, clause by clause) -/
def GoodP (s : PBits) : Bool :=
  !(s.bi && (s.directed_uv || s.directed_vu || s.circle_uv || s.circle_vu)) &&   -- <-> with -> / o
  !(s.directed_uv && s.directed_vu) &&                                             -- -> and <-
  !(s.arrowAtV && s.circleAtV) && !(s.arrowAtU && s.circleAtU)                     -- > and o at one end

/-- no contradictory marks on a CPDAG pair -/
def GoodC (s : CBits) : Bool :=
  !(s.directed_uv && s.un) && !(s.directed_vu && s.un) &&                          -- -> with --
  !(s.directed_uv && s.directed_vu)                                                -- -> with <-

instance : PairState PBits := ⟨PBits.swap, PBits.swap_swap, PBits.empty, rfl⟩
instance : PairState CBits := ⟨CBits.swap, CBits.swap_swap, CBits.empty, rfl⟩

/-- a graph (pair ↦ marks) without contradictory marks -/
def InvP (g : PairMap PBits) : Prop := PairMap.All (fun s => GoodP s = true) g
def InvC (g : PairMap CBits) : Prop := PairMap.All (fun s => GoodC s = true) g

/-- what `orient_uncertain_edge(u, v)` may change on a PAG pair: the circle at v becomes an
    arrowhead; the marks at u and the undirected layer stay as they are -/
def OrientOnlyP (s s' : PBits) : Prop :=
  s.circleAtV = true ∧ s.arrowAtV = false ∧ s'.circleAtV = false ∧ s'.arrowAtV = true ∧
  s'.arrowAtU = s.arrowAtU ∧ s'.circleAtU = s.circleAtU ∧ s'.un = s.un

/-- on a CPDAG pair: the undirected edge becomes u -> v, nothing else -/
def OrientOnlyC (s s' : CBits) : Prop :=
  s.un = true ∧ s'.un = false ∧ s'.directed_uv = true ∧ s'.directed_vu = s.directed_vu


/-- `MixedEdgeGraph.add_edge(u, v, t)` once the guard has passed (`t` names a layer or is 'all') -/
def rawAddP (t : ET) (s : PBits) : PBits :=
  match t with
  | .directed => { s with directed_uv := true }
  | .circle => { s with circle_uv := true }
  | .bidirected => { s with bi := true }
  | .undirected => { s with un := true }
  | .all => { s with directed_uv := true, circle_uv := true, bi := true, un := true }
  | .other => s

def rawAddC (t : ET) (s : CBits) : CBits :=
  match t with
  | .directed => { s with directed_uv := true }
  | .undirected => { s with un := true }
  | .all => { s with directed_uv := true, un := true }
  | _ => s


inductive Op
  | add (t : ET) (u v : Nat)
  | addBulk (t : ET) (es : List (Nat × Nat))        -- add_edges_from
  | remove (t : ET) (u v : Nat)
  | removeBulk (t : ET) (es : List (Nat × Nat))     -- remove_edges_from
  | orient (u v : Nat)
deriving Repr

def Op.pairs : Op → List (Nat × Nat)
  | .add _ u v => [(u, v)]
  | .addBulk _ es => es
  | .remove _ u v => [(u, v)]
  | .removeBulk _ es => es
  | .orient u v => [(u, v)]

/-- the operation does not *add* with `edge_type='all'` (known finding; removal with 'all' is fine) -/
def Op.NoAll : Op → Prop
  | .add t _ _ => t ≠ .all
  | .addBulk t _ => t ≠ .all
  | _ => True

/-- every member names two different nodes -/
def Op.NoLoop (op : Op) : Prop := ∀ e ∈ op.pairs, e.1 ≠ e.2


/-! ### the property for one class

`step g op = (g', raised)` is the class's behaviour on a public mutation, `isValid` what
`is_valid_mec_graph` answers on one pair, `store t s` what a successful addition of a `t` edge on
(u,v) stores.  `edge_type='all'` additions are excluded (known finding: they are accepted and always
create contradictory marks). -/
structure Holds {σ : Type} [PairState σ] (Good : σ → Bool) (OrientOnly : σ → σ → Prop)
    (store : ET → σ → σ) (named : ET → Prop)
    (step : PairMap σ → Op → PairMap σ × Bool) (isValid : σ → Bool) : Prop where
  /-- "never has …": the invariant survives every mutation, successful or not — so, by induction,
      it holds after every history and in every reachable graph -/
  preserved : ∀ g op, PairMap.All (fun s => Good s = true) g → op.NoAll →
      PairMap.All (fun s => Good s = true) (step g op).1
  /-- "a mutation that would break this raises …" -/
  rejects : ∀ g t u v, PairMap.All (fun s => Good s = true) g → named t → u ≠ v →
      Good (store t (g.rd u v)) = false → (step g (.add t u v)).2 = true
  /-- "… and leaves the graph exactly as it was" (any raising mutation, also bulk and orient) -/
  atomic : ∀ g op, PairMap.All (fun s => Good s = true) g → op.NoLoop →
      (step g op).2 = true → (step g op).1 = g
  /-- "is_valid_mec_graph accepts every reachable graph" (and only graphs without contradictions) -/
  valid : ∀ s, isValid s = true ↔ Good s = true
  /-- "orient_uncertain_edge changes only the one circle/undirected mark it is asked to orient" -/
  orient_only : ∀ g u v, PairMap.All (fun s => Good s = true) g → u ≠ v →
      (step g (.orient u v)).2 = false →
      OrientOnly (g.rd u v) ((step g (.orient u v)).1.rd u v) ∧
      ∀ a b, (a, b) ≠ PairMap.key u v → (step g (.orient u v)).1 a b = g a b
  /-- an operation touches only the pairs it names -/
  frame : ∀ g op a b, (∀ e ∈ op.pairs, (a, b) ≠ PairMap.key e.1 e.2) → (step g op).1 a b = g a b

instance (s s' : PBits) : Decidable (OrientOnlyP s s') := by unfold OrientOnlyP; infer_instance
instance (s s' : CBits) : Decidable (OrientOnlyC s s') := by unfold OrientOnlyC; infer_instance

theorem GoodP_swap (s : PBits) : GoodP s.swap = GoodP s := by
  revert s; decide +kernel

theorem GoodC_swap (s : CBits) : GoodC s.swap = GoodC s := by
  revert s; decide +kernel

/-- `GoodC` clause by clause, with the directed mark as premise -/
theorem GoodC_iff (b : CBits) : GoodC b = true ↔
    (b.directed_uv = true → b.directed_vu = false ∧ b.un = false) ∧ (b.directed_vu = true → b.un = false) := by
  revert b; decide +kernel

end C03
