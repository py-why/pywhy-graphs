import Pw.C03.Find
/-! C03 — the complete 64-state (PAG) / 8-state (CPDAG) tables.

Every statement quantifies over *all* pair states and all edge types, so these are proofs, not
tests.  They are stated about `checkPag` / `checkCpdag` as *generated from the source*; the check
re-elaborates this file against the freshly generated guards on every run. -/
namespace C03

/-! Both `add_edge` models have the shape: raise on the guard, raise on a name that is no layer, else store. -/

theorem guarded_accept {σ : Type} {c : Bool} {p : Prop} [Decidable p] {s r : σ}
    (ha : (if c then (s, true) else if p then (s, true) else (r, false)).2 = false) :
    (if c then (s, true) else if p then (s, true) else (r, false)).1 = r ∧ ¬ p := by
  cases c
  · by_cases hp : p
    · rw [if_neg Bool.false_ne_true, if_pos hp] at ha; cases ha
    · rw [if_neg Bool.false_ne_true, if_neg hp]; exact ⟨rfl, hp⟩
  · cases ha

theorem guarded_reject {σ : Type} {c : Bool} {p : Prop} [Decidable p] {s r : σ}
    (hr : (if c then (s, true) else if p then (s, true) else (r, false)).2 = true) :
    (if c then (s, true) else if p then (s, true) else (r, false)).1 = s := by
  cases c
  · by_cases hp : p
    · rw [if_neg Bool.false_ne_true, if_pos hp]
    · rw [if_neg Bool.false_ne_true, if_neg hp] at hr; cases hr
  · rfl

theorem addP_accept {t : ET} {s : PBits} (ha : (addP t s).2 = false) :
    (addP t s).1 = rawAddP t s ∧ t ≠ .other := guarded_accept ha

theorem addP_reject (t : ET) (s : PBits) (hr : (addP t s).2 = true) : (addP t s).1 = s := guarded_reject hr

/-- the guard is exact on Good states: it rejects a named-layer addition iff the addition would
    create contradictory marks -/
theorem addP_exact (t : ET) (ht : t ≠ .all) (ho : t ≠ .other) (s : PBits) (hg : GoodP s = true) :
    ((addP t s).2 = false ↔ GoodP (rawAddP t s) = true) := by
  revert t s; decide +kernel

theorem addP_good (t : ET) (ht : t ≠ .all) (s : PBits) (hg : GoodP s = true)
    (ha : (addP t s).2 = false) : GoodP (addP t s).1 = true := by
  rw [(addP_accept ha).1]
  exact (addP_exact t ht (addP_accept ha).2 s hg).1 ha

theorem removeSilentP_good (t : ET) (s : PBits) (hg : GoodP s = true) :
    GoodP (removeSilentP t s).1 = true := by
  revert t s; decide +kernel

theorem removeSilentP_reject (t : ET) (s : PBits) (hr : (removeSilentP t s).2 = true) :
    (removeSilentP t s).1 = s := by
  cases t <;> first | rfl | cases hr

/-- `remove_edge` is the silent removal when the entry is present (and for 'all'); when it is absent, or
    the name is no layer, it raises and returns the state it was given -/
theorem removeP_cases (t : ET) (s : PBits) : removeP t s = removeSilentP t s ∨ removeP t s = (s, true) := by
  cases t with
  | all | other => exact Or.inl rfl
  | directed =>
    unfold removeP
    cases s.directed_uv
    · exact Or.inr rfl
    · exact Or.inl rfl
  | circle =>
    unfold removeP
    cases s.circle_uv
    · exact Or.inr rfl
    · exact Or.inl rfl
  | bidirected =>
    unfold removeP
    cases s.bi
    · exact Or.inr rfl
    · exact Or.inl rfl
  | undirected =>
    unfold removeP
    cases s.un
    · exact Or.inr rfl
    · exact Or.inl rfl

theorem removeP_good (t : ET) (s : PBits) (hg : GoodP s = true) : GoodP (removeP t s).1 = true := by
  rcases removeP_cases t s with h | h <;> rw [h]
  · exact removeSilentP_good t s hg
  · exact hg

theorem removeP_reject (t : ET) (s : PBits) (hr : (removeP t s).2 = true) : (removeP t s).1 = s := by
  rcases removeP_cases t s with h | h <;> rw [h] at hr ⊢
  exact removeSilentP_reject t s hr

theorem orientP_spec (s : PBits) (hg : GoodP s = true) :
    if s.circle_uv then (orientP s).2 = false ∧ OrientOnlyP s (orientP s).1 ∧ GoodP (orientP s).1 = true
    else orientP s = (s, true) := by
  revert s; decide +kernel

theorem orientP_good (s : PBits) (hg : GoodP s = true) : GoodP (orientP s).1 = true := by
  have := orientP_spec s hg
  split at this
  · exact this.2.2
  · rw [this]; exact hg

theorem orientP_raises_iff (s : PBits) (hg : GoodP s = true) :
    ((orientP s).2 = true ↔ s.circle_uv = false) := by
  have := orientP_spec s hg
  split at this
  · rename_i hc; rw [this.1, hc]; exact ⟨Bool.noConfusion, Bool.noConfusion⟩
  · rename_i hc; rw [this, Bool.eq_false_iff.2 hc]; exact ⟨fun _ => rfl, fun _ => rfl⟩

/-- from a Good pair `orient_uncertain_edge` never raises half-way -/
theorem orientP_reject (s : PBits) (hg : GoodP s = true) (hr : (orientP s).2 = true) :
    (orientP s).1 = s := by
  have := orientP_spec s hg
  rw [if_neg (by rw [(orientP_raises_iff s hg).1 hr]; exact Bool.false_ne_true)] at this
  rw [this]

theorem orientP_only (s : PBits) (hg : GoodP s = true) (ha : (orientP s).2 = false) :
    OrientOnlyP s (orientP s).1 := by
  have := orientP_spec s hg
  split at this
  · exact this.2.1
  · rw [this] at ha; cases ha

theorem isValidP_eq_good (s : PBits) : isValidP s = GoodP s := by
  revert s; decide +kernel

theorem addC_accept {t : ET} {s : CBits} (ha : (addC t s).2 = false) :
    (addC t s).1 = rawAddC t s ∧ (t = .directed ∨ t = .undirected ∨ t = .all) :=
  ⟨(guarded_accept ha).1, by have ho := (guarded_accept ha).2; cases t <;> simp at ho ⊢⟩

theorem addC_reject (t : ET) (s : CBits) (hr : (addC t s).2 = true) : (addC t s).1 = s := guarded_reject hr

theorem addC_exact (t : ET) (ht : t = .directed ∨ t = .undirected) (s : CBits) (hg : GoodC s = true) :
    ((addC t s).2 = false ↔ GoodC (rawAddC t s) = true) := by
  revert t s; decide +kernel

theorem addC_good (t : ET) (ht : t ≠ .all) (s : CBits) (hg : GoodC s = true)
    (ha : (addC t s).2 = false) : GoodC (addC t s).1 = true := by
  obtain ⟨h1, h2⟩ := addC_accept ha
  rw [h1]
  exact (addC_exact t (by rcases h2 with h | h | h <;> simp [h] at ht ⊢) s hg).1 ha

theorem removeSilentC_good (t : ET) (s : CBits) (hg : GoodC s = true) :
    GoodC (removeSilentC t s).1 = true := by
  revert t s; decide +kernel

theorem removeSilentC_reject (t : ET) (s : CBits) (hr : (removeSilentC t s).2 = true) :
    (removeSilentC t s).1 = s := by
  cases t <;> first | rfl | cases hr

theorem removeC_cases (t : ET) (s : CBits) : removeC t s = removeSilentC t s ∨ removeC t s = (s, true) := by
  revert t s; decide +kernel

theorem removeC_good (t : ET) (s : CBits) (hg : GoodC s = true) : GoodC (removeC t s).1 = true := by
  rcases removeC_cases t s with h | h <;> rw [h]
  · exact removeSilentC_good t s hg
  · exact hg

theorem removeC_reject (t : ET) (s : CBits) (hr : (removeC t s).2 = true) : (removeC t s).1 = s := by
  rcases removeC_cases t s with h | h <;> rw [h] at hr ⊢
  exact removeSilentC_reject t s hr

theorem orientC_spec (s : CBits) (hg : GoodC s = true) :
    if s.un then (orientC s).2 = false ∧ OrientOnlyC s (orientC s).1 ∧ GoodC (orientC s).1 = true
    else orientC s = (s, true) := by
  revert s; decide +kernel

theorem orientC_good (s : CBits) (hg : GoodC s = true) : GoodC (orientC s).1 = true := by
  have := orientC_spec s hg
  split at this
  · exact this.2.2
  · rw [this]; exact hg

theorem orientC_raises_iff (s : CBits) (hg : GoodC s = true) :
    ((orientC s).2 = true ↔ s.un = false) := by
  have := orientC_spec s hg
  split at this
  · rename_i hc; rw [this.1, hc]; exact ⟨Bool.noConfusion, Bool.noConfusion⟩
  · rename_i hc; rw [this, Bool.eq_false_iff.2 hc]; exact ⟨fun _ => rfl, fun _ => rfl⟩

theorem orientC_reject (s : CBits) (hg : GoodC s = true) (hr : (orientC s).2 = true) :
    (orientC s).1 = s := by
  have := orientC_spec s hg
  rw [if_neg (by rw [(orientC_raises_iff s hg).1 hr]; exact Bool.false_ne_true)] at this
  rw [this]

theorem orientC_only (s : CBits) (hg : GoodC s = true) (ha : (orientC s).2 = false) :
    OrientOnlyC s (orientC s).1 := by
  have := orientC_spec s hg
  split at this
  · exact this.2.1
  · rw [this] at ha; cases ha

theorem isValidC_eq_good (s : CBits) : isValidC s = GoodC s := by
  revert s; decide +kernel

/-! `edge_type='all'` (known finding C03-all-bypasses-guards): the default edge type of `add_edge` is
accepted on an empty pair and stores an entry in every layer; whenever 'all' is accepted the result carries
contradictory marks. -/

theorem addP_all_never_good (s : PBits) (ha : (addP .all s).2 = false) : GoodP (addP .all s).1 = false := by
  rw [(addP_accept ha).1]; rfl

theorem addC_all_never_good (s : CBits) (ha : (addC .all s).2 = false) : GoodC (addC .all s).1 = false := by
  rw [(addC_accept ha).1]; rfl

theorem C03_counterexample_all_pag :
    ¬ (∀ s : PBits, GoodP s = true → (addP .all s).2 = false → GoodP (addP .all s).1 = true) := by
  intro h
  have := addP_all_never_good PBits.empty rfl
  rw [h PBits.empty rfl rfl] at this; cases this

theorem C03_counterexample_all_cpdag :
    ¬ (∀ s : CBits, GoodC s = true → (addC .all s).2 = false → GoodC (addC .all s).1 = true) := by
  intro h
  have := addC_all_never_good CBits.empty rfl
  rw [h CBits.empty rfl rfl] at this; cases this

/-- each kind of entry of `failuresP` / `failuresC` is the negation of one of the theorems above -/
theorem failures_nil : failuresP = [] ∧ failuresC = [] := by
  constructor
  · refine List.flatMap_eq_nil_iff.2 fun s _ => ?_
    simp only [List.flatMap_eq_nil_iff, List.append_eq_nil_iff, ite_eq_right_iff,
      List.cons_ne_nil, imp_false, Bool.not_eq_true']
    refine ⟨⟨fun t _ => ⟨⟨⟨⟨?_, ?_⟩, ?_⟩, ?_⟩, ?_⟩, ⟨?_, ?_⟩, ?_⟩, ?_⟩
    · rintro ⟨ht, hg, ha, hb⟩; rw [addP_good t ht s hg ha] at hb; cases hb
    · rintro ⟨hr, hne⟩; exact hne (addP_reject t s hr)
    · rintro ⟨ht, ho, hg, hne⟩
      apply hne; rw [Bool.eq_iff_iff, Bool.not_eq_true']; exact addP_exact t ht ho s hg
    · rintro ⟨hg, hb⟩; rw [removeP_good t s hg] at hb; cases hb
    · rintro ⟨hr, hne⟩; exact hne (removeP_reject t s hr)
    · rintro ⟨hg, hb⟩; rw [orientP_good s hg] at hb; cases hb
    · rintro ⟨hg, hr, hne⟩; exact hne (orientP_reject s hg hr)
    · rintro ⟨hg, ha, hn⟩; exact hn (orientP_only s hg ha)
    · exact fun h => h (isValidP_eq_good s)
  · refine List.flatMap_eq_nil_iff.2 fun s _ => ?_
    simp only [List.flatMap_eq_nil_iff, List.append_eq_nil_iff, ite_eq_right_iff,
      List.cons_ne_nil, imp_false, Bool.not_eq_true']
    refine ⟨⟨fun t _ => ⟨⟨⟨⟨?_, ?_⟩, ?_⟩, ?_⟩, ?_⟩, ⟨?_, ?_⟩, ?_⟩, ?_⟩
    · rintro ⟨ht, hg, ha, hb⟩; rw [addC_good t ht s hg ha] at hb; cases hb
    · rintro ⟨hr, hne⟩; exact hne (addC_reject t s hr)
    · rintro ⟨ht, hg, hne⟩
      apply hne; rw [Bool.eq_iff_iff, Bool.not_eq_true']; exact addC_exact t ht s hg
    · rintro ⟨hg, hb⟩; rw [removeC_good t s hg] at hb; cases hb
    · rintro ⟨hr, hne⟩; exact hne (removeC_reject t s hr)
    · rintro ⟨hg, hb⟩; rw [orientC_good s hg] at hb; cases hb
    · rintro ⟨hg, hr, hne⟩; exact hne (orientC_reject s hg hr)
    · rintro ⟨hg, ha, hn⟩; exact hn (orientC_only s hg ha)
    · exact fun h => h (isValidC_eq_good s)

end C03
