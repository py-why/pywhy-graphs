/-! C03 — a graph as a finite map  unordered pair ↦ pair state.

`g a b` is meaningful for `a < b` only and holds the marks of {a,b} *relative to (a,b)*.
`rd g u v` reads the marks relative to the ordered pair (u,v) the caller names, `wr` writes them
back.  An operation that names (u,v) goes through `rd`/`wr` and therefore touches exactly one key
(`wr_other`). -/
namespace C03

class PairState (σ : Type) where
  swap : σ → σ
  swap_swap : ∀ s, swap (swap s) = s
  empty : σ
  swap_empty : swap empty = empty

def PairMap (σ : Type) := Nat → Nat → σ

namespace PairMap
variable {σ : Type} [PairState σ]
open PairState

def emp : PairMap σ := fun _ _ => empty

def rd (g : PairMap σ) (u v : Nat) : σ := if u < v then g u v else swap (g v u)

def wr (g : PairMap σ) (u v : Nat) (s : σ) : PairMap σ := fun a b =>
  if u < v then (if a = u ∧ b = v then s else g a b)
  else (if a = v ∧ b = u then swap s else g a b)

/-- the stored key of the pair named (u,v) -/
def key (u v : Nat) : Nat × Nat := if u < v then (u, v) else (v, u)

theorem wr_key (g : PairMap σ) (u v : Nat) (s : σ) :
    wr g u v s (key u v).1 (key u v).2 = if u < v then s else swap s := by
  unfold wr key
  by_cases h : u < v
  · simp only [h, if_true, and_self]
  · simp only [h, if_false, and_self, if_true]

/-- an operation touches only the pair it names -/
theorem wr_other (g : PairMap σ) (u v : Nat) (s : σ) (a b : Nat) (h : (a, b) ≠ key u v) :
    wr g u v s a b = g a b := by
  unfold wr; unfold key at h
  by_cases huv : u < v
  · rw [if_pos huv] at h ⊢; exact if_neg fun hab => h (by rw [hab.1, hab.2])
  · rw [if_neg huv] at h ⊢; exact if_neg fun hab => h (by rw [hab.1, hab.2])

theorem rd_wr (g : PairMap σ) (u v : Nat) (s : σ) : rd (wr g u v s) u v = s := by
  unfold rd wr
  by_cases h : u < v
  · simp only [h, if_true, and_self]
  · simp only [h, if_false, and_self, if_true, swap_swap]

theorem wr_rd (g : PairMap σ) (u v : Nat) : wr g u v (rd g u v) = g := by
  funext a b
  unfold wr rd
  by_cases h : u < v
  · simp only [h, if_true]
    by_cases hab : a = u ∧ b = v
    · rw [if_pos hab, hab.1, hab.2]
    · rw [if_neg hab]
  · simp only [h, if_false]
    by_cases hab : a = v ∧ b = u
    · rw [if_pos hab, hab.1, hab.2, swap_swap]
    · rw [if_neg hab]

theorem rd_emp (u v : Nat) : rd (emp : PairMap σ) u v = empty := by
  unfold rd emp; split <;> simp [swap_empty]

theorem key_lt {a b : Nat} (h : a < b) : key a b = (a, b) := if_pos h

theorem key_not_lt {a b : Nat} (h : ¬ a < b) : key a b = (b, a) := if_neg h

theorem key_fst_lt {u v : Nat} (h : u ≠ v) : (key u v).1 < (key u v).2 := by
  unfold key; split <;> simp only <;> omega

theorem key_add (u v : Nat) : (key u v).1 + (key u v).2 = u + v := by
  unfold key; split
  · rfl
  · exact Nat.add_comm v u

theorem key_sum {u v u' v' : Nat} (h : key u v = key u' v') : u + v = u' + v' := by
  rw [← key_add u v, h, key_add]

theorem at_key (g : PairMap σ) (u v : Nat) :
    g (key u v).1 (key u v).2 = if u < v then rd g u v else swap (rd g u v) := by
  unfold rd key
  by_cases h : u < v
  · simp only [h, if_true]
  · simp only [h, if_false, swap_swap]

theorem rd_key (g : PairMap σ) {u v : Nat} (h : u ≠ v) :
    g.rd (key u v).1 (key u v).2 = g (key u v).1 (key u v).2 := if_pos (key_fst_lt h)

theorem rd_wr_other (g : PairMap σ) (u v a b : Nat) (s : σ) (h : key a b ≠ key u v) :
    rd (wr g u v s) a b = rd g a b := by
  unfold rd
  by_cases hab : a < b
  · rw [if_pos hab, if_pos hab]
    exact wr_other g u v s a b (key_lt hab ▸ h)
  · rw [if_neg hab, if_neg hab, wr_other g u v s b a (key_not_lt hab ▸ h)]

/-- graph-level invariant: every stored pair satisfies `P` -/
def All (P : σ → Prop) (g : PairMap σ) : Prop := ∀ a b, a < b → P (g a b)

theorem All.rd {P : σ → Prop} (hsw : ∀ s, P s → P (swap s)) {g : PairMap σ} (h : All P g)
    (u v : Nat) (huv : u ≠ v) : P (rd g u v) := by
  unfold PairMap.rd
  by_cases hlt : u < v
  · rw [if_pos hlt]; exact h u v hlt
  · rw [if_neg hlt]; exact hsw _ (h v u (by omega))

/-- nothing is asked of the state written on a self loop: its key is never read -/
theorem All.wr {P : σ → Prop} (hsw : ∀ s, P s → P (swap s)) {g : PairMap σ} (h : All P g)
    (u v : Nat) (s : σ) (hs : u ≠ v → P s) : All P (wr g u v s) := by
  intro a b hab
  unfold PairMap.wr
  by_cases hlt : u < v
  · rw [if_pos hlt]; split
    · exact hs (Nat.ne_of_lt hlt)
    · exact h a b hab
  · rw [if_neg hlt]; split
    · rename_i hk; exact hsw _ (hs (by omega))
    · exact h a b hab

theorem All.emp {P : σ → Prop} (h0 : P (empty : σ)) : All P (emp : PairMap σ) := fun _ _ _ => h0

end PairMap
end C03
