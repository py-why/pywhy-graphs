import Pw.C03.Full
/-! C03 — stationary time-series variants (conditional result).

`StationaryTimeSeriesCPDAG.add_edge(u, v, t)` evaluates the guard on the *named* pair only and then
stores the entry on every homologous copy of the pair (all time shifts inside the window).  If the
graph is shift-invariant on those copies — all of them carry the same marks, which is what C13 is
about — the single-pair table is enough: the invariant survives, and the copies stay equal.

The hypothesis `hstat` (homologous pairs carry equal bits) is *assumed* here; for the C13 model of the
class it is a theorem (`tsBitsAt_shift`, discharged in `C03_tscpdag_add` of `TimeSeries.lean`). -/
namespace C03
open PairState

variable {σ : Type} [PairState σ]

/-- store `raw` on every copy -/
def storeCopies (raw : σ → σ) (g : PairMap σ) (copies : List (Nat × Nat)) : PairMap σ :=
  copies.foldl (fun h e => h.wr e.1 e.2 (raw (h.rd e.1 e.2))) g

/-- guarded add on a stationary graph: guard on the named pair, raw store on all copies -/
def tsAdd (check : σ → Bool) (raw : σ → σ) (g : PairMap σ) (u v : Nat) (copies : List (Nat × Nat)) :
    PairMap σ × Bool :=
  if check (g.rd u v) then (g, true) else (storeCopies raw g copies, false)

theorem tsAdd_reject {check : σ → Bool} {g : PairMap σ} {u v : Nat} (h : check (g.rd u v) = true)
    (raw : σ → σ) (copies : List (Nat × Nat)) : tsAdd check raw g u v copies = (g, true) := if_pos h

theorem tsAdd_accept {check : σ → Bool} {g : PairMap σ} {u v : Nat} (h : check (g.rd u v) = false)
    (raw : σ → σ) (copies : List (Nat × Nat)) :
    tsAdd check raw g u v copies = (storeCopies raw g copies, false) := if_neg (by rw [h]; exact Bool.false_ne_true)

theorem storeCopies_cons (raw : σ → σ) (g : PairMap σ) (e : Nat × Nat) (es : List (Nat × Nat)) :
    storeCopies raw g (e :: es) = storeCopies raw (g.wr e.1 e.2 (raw (g.rd e.1 e.2))) es := rfl

theorem storeCopies_eq_storeAll (raw : σ → σ) (g : PairMap σ) (copies : List (Nat × Nat)) :
    storeCopies raw g copies = storeAll raw g copies := by
  induction copies generalizing g with
  | nil => rfl
  | cons e es ih => exact ih _

theorem storeCopies_rd_other (raw : σ → σ) (u v : Nat) (copies : List (Nat × Nat)) (g : PairMap σ)
    (h : ∀ e ∈ copies, PairMap.key u v ≠ PairMap.key e.1 e.2) :
    (storeCopies raw g copies).rd u v = g.rd u v := by
  induction copies generalizing g with
  | nil => rfl
  | cons e es ih =>
    rw [storeCopies_cons, ih _ (fun e' he' => h e' (List.mem_cons_of_mem _ he')),
      PairMap.rd_wr_other g e.1 e.2 u v _ (h e List.mem_cons_self)]

/-- copies with pairwise different keys are each written once: every copy ends with `raw` of the
    marks it had -/
theorem storeCopies_rd (raw : σ → σ) (copies : List (Nat × Nat)) (g : PairMap σ)
    (hdist : copies.Pairwise fun e e' => PairMap.key e.1 e.2 ≠ PairMap.key e'.1 e'.2) :
    ∀ e ∈ copies, (storeCopies raw g copies).rd e.1 e.2 = raw (g.rd e.1 e.2) := by
  induction copies generalizing g with
  | nil => intro e he; cases he
  | cons e0 es ih =>
    intro e he
    have hd := List.pairwise_cons.1 hdist
    rw [storeCopies_cons]
    rcases List.mem_cons.1 he with rfl | he'
    · rw [storeCopies_rd_other raw e.1 e.2 es _ hd.1, PairMap.rd_wr]
    · rw [ih _ hd.2 e he', PairMap.rd_wr_other g e0.1 e0.2 e.1 e.2 _ (fun hk => hd.1 e he' hk.symm)]

/-- on the stored keys `storeCopies` is the only pair map that holds `raw` of the old marks on every
    copy and the old marks elsewhere -/
theorem storeCopies_unique (raw : σ → σ) (copies : List (Nat × Nat)) (g g' : PairMap σ)
    (hdist : copies.Pairwise fun e e' => PairMap.key e.1 e.2 ≠ PairMap.key e'.1 e'.2)
    (hcopy : ∀ e ∈ copies, g'.rd e.1 e.2 = raw (g.rd e.1 e.2))
    (hother : ∀ a b, a < b → (∀ e ∈ copies, (a, b) ≠ PairMap.key e.1 e.2) → g' a b = g a b) :
    ∀ a b, a < b → g' a b = storeCopies raw g copies a b := by
  intro a b hab
  by_cases hk : ∃ e ∈ copies, (a, b) = PairMap.key e.1 e.2
  · obtain ⟨e, he, hkey⟩ := hk
    obtain ⟨rfl, rfl⟩ : a = _ ∧ b = _ := ⟨congrArg Prod.fst hkey, congrArg Prod.snd hkey⟩
    rw [PairMap.at_key g', PairMap.at_key (storeCopies _ _ _), hcopy e he, storeCopies_rd raw copies g hdist e he]
  · rw [storeCopies_eq_storeAll, storeAll_other raw a b copies (fun e he hh => hk ⟨e, he, hh⟩) g]
    exact hother a b hab fun e he hh => hk ⟨e, he, hh⟩

theorem storeCopies_All {P : σ → Prop} (hsw : ∀ s, P s → P (swap s)) (raw : σ → σ)
    (copies : List (Nat × Nat)) (g : PairMap σ)
    (hdist : copies.Pairwise fun e e' => PairMap.key e.1 e.2 ≠ PairMap.key e'.1 e'.2)
    (hraw : ∀ e ∈ copies, P (raw (g.rd e.1 e.2))) (h : PairMap.All P g) :
    PairMap.All P (storeCopies raw g copies) := by
  induction copies generalizing g with
  | nil => exact h
  | cons e0 es ih =>
    have hd := List.pairwise_cons.1 hdist
    rw [storeCopies_cons]
    refine ih _ hd.2 (fun e he => ?_) (PairMap.All.wr hsw h _ _ _ fun _ => hraw e0 List.mem_cons_self)
    rw [PairMap.rd_wr_other g e0.1 e0.2 e.1 e.2 _ (fun hk => hd.1 e he hk.symm)]
    exact hraw e (List.mem_cons_of_mem _ he)

/-- **conditional (stationarity assumed)**: a guarded single addition on a shift-invariant PAG-like
    graph keeps every pair Good and keeps the homologous copies equal -/
theorem C03_ts_add_partial {M : Sem σ} {P : σ → Prop} (hS : Sound M P) (raw : ET → σ → σ) (t : ET)
    (hex : ∀ s, P s → (M.add t s).2 = false → P (raw t s))
    (g : PairMap σ) (u v : Nat) (copies : List (Nat × Nat)) (h : PairMap.All P g) (huv : u ≠ v)
    (hdist : copies.Pairwise fun e e' => PairMap.key e.1 e.2 ≠ PairMap.key e'.1 e'.2)
    (hstat : ∀ e ∈ copies, g.rd e.1 e.2 = g.rd u v) :
    PairMap.All P (tsAdd (fun s => (M.add t s).2) (raw t) g u v copies).1 ∧
      ((tsAdd (fun s => (M.add t s).2) (raw t) g u v copies).2 = true →
        (tsAdd (fun s => (M.add t s).2) (raw t) g u v copies).1 = g) ∧
      ((tsAdd (fun s => (M.add t s).2) (raw t) g u v copies).2 = false →
        ∀ e ∈ copies, (tsAdd (fun s => (M.add t s).2) (raw t) g u v copies).1.rd e.1 e.2 = raw t (g.rd u v)) := by
  cases hc : (M.add t (g.rd u v)).2 with
  | true =>
    rw [tsAdd_reject (check := fun s => (M.add t s).2) hc]
    exact ⟨h, fun _ => rfl, fun hf => Bool.noConfusion hf⟩
  | false =>
    have hraw : P (raw t (g.rd u v)) := hex _ (PairMap.All.rd hS.swapP h u v huv) hc
    rw [tsAdd_accept (check := fun s => (M.add t s).2) hc]
    exact ⟨storeCopies_All hS.swapP (raw t) copies g hdist (fun e he => hstat e he ▸ hraw) h,
      fun hf => Bool.noConfusion hf,
      fun _ e he => hstat e he ▸ storeCopies_rd (raw t) copies g hdist e he⟩

theorem C03_tscpdag_add_partial (t : ET) (ht : t = .directed ∨ t = .undirected)
    (g : PairMap CBits) (u v : Nat) (copies : List (Nat × Nat)) (h : InvC g) (huv : u ≠ v)
    (hdist : copies.Pairwise fun e e' => PairMap.key e.1 e.2 ≠ PairMap.key e'.1 e'.2)
    (hstat : ∀ e ∈ copies, g.rd e.1 e.2 = g.rd u v) :
    InvC (tsAdd (fun s => (addC t s).2) (rawAddC t) g u v copies).1 :=
  (C03_ts_add_partial soundC rawAddC t (fun s hs ha => (addC_exact t ht s hs).1 ha)
    g u v copies h huv hdist hstat).1

-- non-vacuity: (x,0)->(y,0) with its copy (x,-1)->(y,-1); nodes x-1=0, x0=1, y-1=2, y0=3
example : (tsAdd (fun s => (addC .directed s).2) (rawAddC .directed) PairMap.emp 1 3 [(1, 3), (0, 2)]).2 = false := by
  decide +kernel
example : ((tsAdd (fun s => (addC .directed s).2) (rawAddC .directed) PairMap.emp 1 3 [(1, 3), (0, 2)]).1 0 2).directed_uv = true := by
  decide +kernel

end C03
