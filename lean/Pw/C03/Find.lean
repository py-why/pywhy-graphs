import Pw.C03.Model
/-! C03 — evaluating the tables: the list of (state, op) entries on which a table statement of
`Table.lean` fails.  Empty for the committed guards (`failures_nil`, at the end of `Table.lean`); when the re-check against
freshly translated guards fails, the harness evaluates these lists against the *regenerated*
definitions to read off the failing entries and replays them on the real classes. -/
namespace C03

def bools : List Bool := [false, true]
def allP : List PBits :=
  bools.flatMap fun a => bools.flatMap fun b => bools.flatMap fun c => bools.flatMap fun d =>
  bools.flatMap fun e => bools.map fun f => ⟨a, b, c, d, e, f⟩
def allC : List CBits :=
  bools.flatMap fun a => bools.flatMap fun b => bools.map fun c => ⟨a, b, c⟩
def allET : List ET := [.all, .directed, .bidirected, .circle, .undirected, .other]

def ET.name : ET → String
  | .all => "all" | .directed => "directed" | .bidirected => "bidirected" | .circle => "circle"
  | .undirected => "undirected" | .other => "foo"

def b01' (b : Bool) : String := if b then "1" else "0"
def PBits.str (s : PBits) : String :=
  b01' s.directed_uv ++ b01' s.directed_vu ++ b01' s.circle_uv ++ b01' s.circle_vu ++ b01' s.bi ++ b01' s.un
def CBits.str (s : CBits) : String := b01' s.directed_uv ++ b01' s.directed_vu ++ b01' s.un


/-- entries `cls|state|op|why` -/
def failuresP : List String :=
  allP.flatMap fun s =>
    (allET.flatMap fun t =>
      let r := addP t s
      let q := removeP t s
      (if t ≠ .all ∧ GoodP s ∧ !r.2 ∧ !GoodP r.1 then ["P|" ++ s.str ++ "|a:" ++ t.name ++ "|accepted-add-breaks-marks"] else []) ++
      (if r.2 ∧ r.1 ≠ s then ["P|" ++ s.str ++ "|a:" ++ t.name ++ "|rejected-add-changes-state"] else []) ++
      (if t ≠ .all ∧ t ≠ .other ∧ GoodP s ∧ (!r.2) ≠ GoodP (rawAddP t s) then ["P|" ++ s.str ++ "|a:" ++ t.name ++ "|guard-not-exact"] else []) ++
      (if GoodP s ∧ !GoodP q.1 then ["P|" ++ s.str ++ "|r:" ++ t.name ++ "|remove-breaks-marks"] else []) ++
      (if q.2 ∧ q.1 ≠ s then ["P|" ++ s.str ++ "|r:" ++ t.name ++ "|rejected-remove-changes-state"] else [])) ++
    (let o := orientP s
     (if GoodP s ∧ !GoodP o.1 then ["P|" ++ s.str ++ "|o|orient-breaks-marks"] else []) ++
     (if GoodP s ∧ o.2 ∧ o.1 ≠ s then ["P|" ++ s.str ++ "|o|rejected-orient-changes-state"] else []) ++
     (if GoodP s ∧ !o.2 ∧ ¬ OrientOnlyP s o.1 then ["P|" ++ s.str ++ "|o|orient-changes-more-than-one-mark"] else [])) ++
    (if isValidP s ≠ GoodP s then ["P|" ++ s.str ++ "|v|is_valid-differs-from-good"] else [])

def failuresC : List String :=
  allC.flatMap fun s =>
    (allET.flatMap fun t =>
      let r := addC t s
      let q := removeC t s
      (if t ≠ .all ∧ GoodC s ∧ !r.2 ∧ !GoodC r.1 then ["C|" ++ s.str ++ "|a:" ++ t.name ++ "|accepted-add-breaks-marks"] else []) ++
      (if r.2 ∧ r.1 ≠ s then ["C|" ++ s.str ++ "|a:" ++ t.name ++ "|rejected-add-changes-state"] else []) ++
      (if (t = .directed ∨ t = .undirected) ∧ GoodC s ∧ (!r.2) ≠ GoodC (rawAddC t s) then ["C|" ++ s.str ++ "|a:" ++ t.name ++ "|guard-not-exact"] else []) ++
      (if GoodC s ∧ !GoodC q.1 then ["C|" ++ s.str ++ "|r:" ++ t.name ++ "|remove-breaks-marks"] else []) ++
      (if q.2 ∧ q.1 ≠ s then ["C|" ++ s.str ++ "|r:" ++ t.name ++ "|rejected-remove-changes-state"] else [])) ++
    (let o := orientC s
     (if GoodC s ∧ !GoodC o.1 then ["C|" ++ s.str ++ "|o|orient-breaks-marks"] else []) ++
     (if GoodC s ∧ o.2 ∧ o.1 ≠ s then ["C|" ++ s.str ++ "|o|rejected-orient-changes-state"] else []) ++
     (if GoodC s ∧ !o.2 ∧ ¬ OrientOnlyC s o.1 then ["C|" ++ s.str ++ "|o|orient-changes-more-than-one-mark"] else [])) ++
    (if isValidC s ≠ GoodC s then ["C|" ++ s.str ++ "|v|is_valid-differs-from-good"] else [])

end C03
