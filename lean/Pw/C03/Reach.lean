import Pw.C03.Table
import Pw.C03.Lift
/-! C03 — tightness and the bulk/single correspondence.

* `GoodP` / `GoodC` are not merely *an* invariant: every Good pair state is reached from the empty
  pair by guarded single additions that are all accepted (`buildP_reaches`, `buildC_reaches`), so
  together with `addP_good` the Good states are exactly the pair states reachable without 'all'.
  (This is also why `MixedEdgeGraph.copy`, which re-inserts every entry through the guarded
  `add_edge`, never raises on a graph without contradictory marks.)
* an accepted bulk call is the history of its single calls; a rejected one is a history in which some
  single call raises (`bulk_eq_run`, `bulk_raises_iff`). -/
namespace C03

/-- add on the pair read the other way round: `add_edge(v, u, t)` -/
def addSwapP (t : ET) (s : PBits) : PBits × Bool := let r := addP t s.swap; (r.1.swap, r.2)
def addSwapC (t : ET) (s : CBits) : CBits × Bool := let r := addC t s.swap; (r.1.swap, r.2)

/-- a fixed insertion order: undirected, bidirected, circle both ways, directed both ways;
    an entry is only inserted when the target state has it -/
def buildP (s : PBits) : PBits × Bool :=
  let step (want : Bool) (f : PBits → PBits × Bool) (acc : PBits × Bool) : PBits × Bool :=
    if want then (let r := f acc.1; (r.1, acc.2 || r.2)) else acc
  step s.directed_vu (addSwapP .directed) <| step s.directed_uv (addP .directed) <|
  step s.circle_vu (addSwapP .circle) <| step s.circle_uv (addP .circle) <|
  step s.bi (addP .bidirected) <| step s.un (addP .undirected) (PBits.empty, false)

def buildC (s : CBits) : CBits × Bool :=
  let step (want : Bool) (f : CBits → CBits × Bool) (acc : CBits × Bool) : CBits × Bool :=
    if want then (let r := f acc.1; (r.1, acc.2 || r.2)) else acc
  step s.directed_vu (addSwapC .directed) <| step s.directed_uv (addC .directed) <|
  step s.un (addC .undirected) (CBits.empty, false)

theorem buildP_reaches (s : PBits) (hg : GoodP s = true) : buildP s = (s, false) := by
  revert s; decide +kernel

theorem buildC_reaches (s : CBits) (hg : GoodC s = true) : buildC s = (s, false) := by
  revert s; decide +kernel

/-- … and in *any* insertion order of two entries the guard accepts the second iff the result is
    Good (order independence of reachability on a pair: consequence of exactness) -/
theorem addP_accept_iff_good (t : ET) (ht : t ≠ .all) (ho : t ≠ .other) (s : PBits) (hg : GoodP s = true) :
    ((addP t s).2 = false ↔ GoodP (addP t s).1 = true ∧ (addP t s).1 = rawAddP t s) := by
  constructor
  · intro ha
    rw [(addP_accept ha).1]
    exact ⟨(addP_exact t ht ho s hg).1 ha, rfl⟩
  · intro ⟨h1, h2⟩
    exact (addP_exact t ht ho s hg).2 (h2 ▸ h1)

variable {σ : Type} [PairState σ]

/-- a history, remembering whether any call raised -/
def runFlag (M : Sem σ) : PairMap σ → List Op → PairMap σ × Bool
  | g, [] => (g, false)
  | g, op :: ops =>
    let r := step M g op
    let q := runFlag M r.1 ops
    (q.1, r.2 || q.2)

/-- the single calls `add_edge(u, v, t)` for the members in order raise somewhere iff the bulk call
    raises, and end in the graph of the bulk call when it does not -/
theorem bulk_runFlag (M : Sem σ) (t : ET) (g0 : PairMap σ) (es : List (Nat × Nat)) :
    ∀ g : PairMap σ, (runFlag M g (es.map fun e => Op.add t e.1 e.2)).2 = (bulk (M.add t) g0 g es).2 ∧
      ((bulk (M.add t) g0 g es).2 = false →
        (runFlag M g (es.map fun e => Op.add t e.1 e.2)).1 = (bulk (M.add t) g0 g es).1) := by
  induction es with
  | nil => exact fun _ => ⟨rfl, fun _ => rfl⟩
  | cons e es ih =>
    intro g
    obtain ⟨u, v⟩ := e
    rw [bulk_cons]
    show ((applyAt (M.add t) g u v).2 || (runFlag M (applyAt (M.add t) g u v).1 _).2) = _ ∧
      (_ → (runFlag M (applyAt (M.add t) g u v).1 _).1 = _)
    cases (applyAt (M.add t) g u v).2
    · exact ih _
    · exact ⟨rfl, Bool.noConfusion⟩

/-- an accepted `add_edges_from(es, t)` ends in the same graph as the single calls
    `add_edge(u, v, t)` for the members in order, none of which raises -/
theorem bulk_eq_run (M : Sem σ) (t : ET) (g : PairMap σ) (es : List (Nat × Nat))
    (ha : (step M g (.addBulk t es)).2 = false) :
    runFlag M g (es.map fun e => Op.add t e.1 e.2) = ((step M g (.addBulk t es)).1, false) := by
  revert ha
  simp only [step]
  cases M.known t
  · exact Bool.noConfusion
  · intro ha
    obtain ⟨h1, h2⟩ := bulk_runFlag M t g es g
    exact Prod.ext (h2 ha) (h1.trans ha)

theorem bulk_raises_iff (M : Sem σ) (t : ET) (hk : M.known t = true) (g : PairMap σ) (es : List (Nat × Nat)) :
    (step M g (.addBulk t es)).2 = true ↔ (runFlag M g (es.map fun e => Op.add t e.1 e.2)).2 = true := by
  simp only [step, hk, if_true]
  rw [(bulk_runFlag M t g es g).1]

end C03
