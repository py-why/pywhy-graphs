import Pw.C03.Stationary
import Pw.C13.Orient
/-! C03 — the stationary time-series CPDAG (built on the C13 model) and the unguarded time-series PAG.

The C13 model is the node-level model of `StationaryTimeSeriesCPDAG`: guard on the *named* node pair,
then the entry is stored on / removed from every homologous copy.  Here the C03 vocabulary is put on top
of it: the pair state of a node pair is the state of its lag-0-anchored representative (`tsBits`), which
by C13's `ShiftClosed` invariant all homologous pairs share; the hand-written guard of the C13 model *is*
the guard translated from the source, evaluated on the pair bits (`guardBad_eq_addC`).

The StationaryTimeSeriesPAG has no guard in the library (known finding C03-tspag-unguarded): for it
only the counterexample `C03_counterexample_tspag` is stated. -/
namespace C03

/-- marks of the ordered node pair `(p, q)` of a time-series CPDAG state (layer 0 = directed,
layer 1 = undirected, looked up in both orientations like `nx.Graph.has_edge`) -/
def tsBitsAt (s : C13.St) (p q : C13.Node) : CBits :=
  ⟨(C13.layerEdges s 0).contains (p, q), (C13.layerEdges s 0).contains (q, p),
   (C13.layerEdges s 1).contains (p, q) || (C13.layerEdges s 1).contains (q, p)⟩

/-- the lag-0-anchored representative of a node pair: both nodes moved towards the present until
the later one is at lag 0 -/
def anchorPair (p q : C13.Node) : C13.Node × C13.Node :=
  ((p.1, p.2 - min p.2 q.2), (q.1, q.2 - min p.2 q.2))

/-- **pair state of a stationary time-series CPDAG**: the marks of the anchored representative -/
def tsBits (s : C13.St) (p q : C13.Node) : CBits :=
  tsBitsAt s (anchorPair p q).1 (anchorPair p q).2

theorem tsBitsAt_eq {s : C13.St} {p q : C13.Node} {b : CBits}
    (h0 : (p, q) ∈ C13.layerEdges s 0 ↔ b.directed_uv = true)
    (h1 : (q, p) ∈ C13.layerEdges s 0 ↔ b.directed_vu = true)
    (h2 : (p, q) ∈ C13.layerEdges s 1 ∨ (q, p) ∈ C13.layerEdges s 1 ↔ b.un = true) :
    tsBitsAt s p q = b := by
  simp only [tsBitsAt, List.contains_eq_mem, ← Bool.decide_or]
  rw [Bool.eq_iff_iff.2 (decide_eq_true_iff.trans h0), Bool.eq_iff_iff.2 (decide_eq_true_iff.trans h1),
    Bool.eq_iff_iff.2 (decide_eq_true_iff.trans h2)]

theorem tsBitsAt_dir (s : C13.St) (p q : C13.Node) :
    (tsBitsAt s p q).directed_uv = true ↔ (p, q) ∈ C13.layerEdges s 0 := List.contains_iff_mem

theorem tsBitsAt_rev (s : C13.St) (p q : C13.Node) :
    (tsBitsAt s p q).directed_vu = true ↔ (q, p) ∈ C13.layerEdges s 0 := List.contains_iff_mem

theorem tsBitsAt_un (s : C13.St) (p q : C13.Node) :
    (tsBitsAt s p q).un = true ↔ (p, q) ∈ C13.layerEdges s 1 ∨ (q, p) ∈ C13.layerEdges s 1 := by
  simp only [tsBitsAt, Bool.or_eq_true, List.contains_iff_mem]

theorem tsBitsAt_swap (s : C13.St) (p q : C13.Node) : (tsBitsAt s q p).swap = tsBitsAt s p q :=
  congrArg (CBits.mk _ _) (Bool.or_comm _ _)

theorem shiftClosed_layerEdges {s : C13.St} (hi : C13.Inv s) (i : Nat) :
    C13.ShiftClosed s.maxLag (C13.layerEdges s i) := by
  rw [C13.layerEdges_eq]
  cases hL : s.layers[i]? with
  | none => intro x a y b h; cases h
  | some L => exact (hi.2 L (List.mem_of_getElem? hL)).2.1

theorem mem_shift {m : Nat} {E : List C13.Edge} (hE : C13.ShiftClosed m E) {e e' : C13.Edge}
    (hs : C13.Shift e e') (h1 : e.1.2 ≤ m) (h2 : e.2.2 ≤ m) (h1' : e'.1.2 ≤ m) (h2' : e'.2.2 ≤ m) :
    e' ∈ E ↔ e ∈ E :=
  ⟨fun h => hE.shift h hs.symm h1 h2, fun h => hE.shift h hs h1' h2'⟩

/-- **homologous node pairs carry equal marks** (the hypothesis `hstat` of the conditional theorems
of `Stationary.lean`), by `ShiftClosed` -/
theorem tsBitsAt_shift {s : C13.St} (hi : C13.Inv s) {p q p' q' : C13.Node}
    (hp : p.2 ≤ s.maxLag) (hq : q.2 ≤ s.maxLag) (hp' : p'.2 ≤ s.maxLag) (hq' : q'.2 ≤ s.maxLag)
    (hx : p'.1 = p.1) (hy : q'.1 = q.1) (hl : p'.2 + q.2 = p.2 + q'.2) :
    tsBitsAt s p' q' = tsBitsAt s p q := by
  have h0 := shiftClosed_layerEdges hi 0
  have h1 := shiftClosed_layerEdges hi 1
  have s1 : C13.Shift (p, q) (p', q') := ⟨hx, hy, hl⟩
  have s2 : C13.Shift (q, p) (q', p') := ⟨hy, hx, (Nat.add_comm _ _).trans (hl.symm.trans (Nat.add_comm _ _))⟩
  refine tsBitsAt_eq ?_ ?_ ?_
  · rw [tsBitsAt_dir]; exact mem_shift h0 s1 hp hq hp' hq'
  · rw [tsBitsAt_rev]; exact mem_shift h0 s2 hq hp hq' hp'
  · rw [tsBitsAt_un, mem_shift h1 s1 hp hq hp' hq', mem_shift h1 s2 hq hp hq' hp']

theorem tsBits_eq_at {s : C13.St} (hi : C13.Inv s) {p q : C13.Node} (hp : p.2 ≤ s.maxLag)
    (hq : q.2 ≤ s.maxLag) : tsBits s p q = tsBitsAt s p q :=
  tsBitsAt_shift hi hp hq (Nat.le_trans (Nat.sub_le _ _) hp) (Nat.le_trans (Nat.sub_le _ _) hq) rfl rfl
    ((Nat.sub_add_comm (Nat.min_le_left ..)).symm.trans (Nat.add_sub_assoc (Nat.min_le_right ..) _))

theorem goodC_of_noConf {s : C13.St} (hc : C13.NoConf s) (p q : C13.Node) :
    GoodC (tsBitsAt s p q) = true := by
  simp only [GoodC_iff, Bool.eq_false_iff, ne_eq, tsBitsAt_dir, tsBitsAt_rev, tsBitsAt_un, not_or]
  exact ⟨fun h => ⟨(hc p q h).1, (hc p q h).2⟩, fun h => ⟨(hc q p h).2.2, (hc q p h).2.1⟩⟩

theorem noConf_of_goodC {s : C13.St} (h : ∀ p q, GoodC (tsBitsAt s p q) = true) : C13.NoConf s := by
  intro p q hpq
  have := ((GoodC_iff _).1 (h p q)).1 ((tsBitsAt_dir s p q).2 hpq)
  simp only [Bool.eq_false_iff, ne_eq, tsBitsAt_rev, tsBitsAt_un, not_or] at this
  exact ⟨this.1, this.2⟩

/-- edge type named by a layer index of the CPDAG -/
def layerET : Nat → ET
  | 0 => .directed
  | 1 => .undirected
  | _ => .other

theorem layerET_named {i : Nat} (hi : i = 0 ∨ i = 1) : layerET i = .directed ∨ layerET i = .undirected := by
  rcases hi with rfl | rfl
  · exact Or.inl rfl
  · exact Or.inr rfl

/-- on the two edge types a CPDAG names, `add_edge` raises exactly on the guard's tests -/
theorem addC_flag (b : CBits) : (addC .directed b).2 = (b.un || b.directed_vu) ∧
    (addC .undirected b).2 = (b.directed_uv || b.directed_vu) := by
  revert b; decide +kernel

/-- **the hand-written guard of the C13 model, on nodes the API accepts, is `_check_adding_cpdag_edge`
as translated from the source, evaluated on the bits of the named pair** -/
theorem guardBad_eq_addC (s : C13.St) (i : Nat) (hi : i = 0 ∨ i = 1) {u v : C13.TNode}
    (hu : u.2 ≤ 0) (hv : v.2 ≤ 0) :
    C13.guardBad C13.cfgCpdag s (.one i) u v =
      (addC (layerET i) (tsBitsAt s (C13.toNode u) (C13.toNode v))).2 := by
  rcases hi with rfl | rfl
  · rw [show layerET 0 = .directed from rfl, (addC_flag _).1]
    show (C13.hasDir _ u v || C13.hasDir _ v u || C13.hasDir _ v u) = _
    simp only [C13.hasDir_eq hu hv, C13.hasDir_eq hv hu]; rfl
  · rw [show layerET 1 = .undirected from rfl, (addC_flag _).2]
    show (C13.hasDir _ u v || C13.hasDir _ v u) = _
    simp only [C13.hasDir_eq hu hv, C13.hasDir_eq hv hu]; rfl

/-- **"a mutation that would break this raises and leaves the graph exactly as it was"** -/
theorem ts_add_rejects {s : C13.St} (h : C13.CInv s) (i : Nat) (hi : i = 0 ∨ i = 1) (u v : C13.TNode)
    (hu : u.2 ≤ 0) (hv : v.2 ≤ 0)
    (hbad : GoodC (rawAddC (layerET i) (tsBitsAt s (C13.toNode u) (C13.toNode v))) = false) :
    C13.addEdge C13.cfgCpdag s (.one i) u v = (s, true) := by
  apply C13.addEdge_guard_rejected
  rw [guardBad_eq_addC s i hi hu hv, ← Bool.not_eq_false]
  intro hr
  have := (addC_exact _ (layerET_named hi) _ (goodC_of_noConf h.2.2 _ _)).1 hr
  rw [hbad] at this; cases this

theorem ensureNode_some {s : C13.St} {u : C13.TNode} (hv : C13.valid s.maxLag u = true) :
    ∃ s1, C13.ensureNode s u = some s1 := by
  unfold C13.ensureNode
  rw [if_pos hv]
  split <;> exact ⟨_, rfl⟩

theorem addEdgeMixed_ok {cfg : C13.Cfg} {s : C13.St} {sel : C13.Sel} {u v : C13.TNode}
    (hg : C13.guardBad cfg s sel u v = false) (hok : C13.okEdge s.maxLag u v = true)
    (hs : C13.selOk s.layers.length sel = true) :
    (C13.addEdgeMixed cfg s sel u v).2 = false ∧ (C13.addEdgeMixed cfg s sel u v).1.maxLag = s.maxLag := by
  obtain ⟨hvu, hvv, _⟩ := C13.okEdge_iff.mp hok
  obtain ⟨s1, h1⟩ := ensureNode_some hvu
  obtain ⟨a1, b1⟩ := C13.ensureNode_frame h1
  obtain ⟨s2, h2⟩ := ensureNode_some (s := s1) (a1 ▸ hvv)
  obtain ⟨a2, b2⟩ := C13.ensureNode_frame h2
  have hs2 : C13.selOk s2.layers.length sel = true := by rw [b2, b1]; exact hs
  have hok2 : C13.okEdge s2.maxLag u v = true := by rw [a2, a1]; exact hok
  rw [C13.addEdgeMixed_accept hg h1 h2 hs2 hok2]
  exact ⟨rfl, a2.trans a1⟩

/-- what an accepted guarded addition on a named layer has checked -/
theorem addEdge_acc {s : C13.St} {i : Nat} (hi : i = 0 ∨ i = 1) {u v : C13.TNode}
    (hacc : (C13.addEdge C13.cfgCpdag s (.one i) u v).2 = false) :
    (addC (layerET i) (tsBitsAt s (C13.toNode u) (C13.toNode v))).2 = false ∧
      (C13.toNode u).2 ≤ s.maxLag ∧ (C13.toNode v).2 ≤ s.maxLag ∧ (C13.toNode v).2 ≤ (C13.toNode u).2 ∧
      (C13.addEdge C13.cfgCpdag s (.one i) u v).1.maxLag = s.maxLag := by
  obtain ⟨hg, hok, hsel, _⟩ := C13.addEdgeMixed_acc hacc
  obtain ⟨hu0, hv0⟩ := C13.okEdge_nonpos hok
  obtain ⟨hlu, hlv, hfw⟩ := C13.okEdge_lags hok
  exact ⟨guardBad_eq_addC s i hi hu0 hv0 ▸ hg, hlu, hlv, hfw, (addEdgeMixed_ok hg hok hsel).2⟩

theorem layerEdges_addDir {s : C13.St} (h : C13.CInv s) {u v : C13.TNode}
    (hacc : (C13.addEdge C13.cfgCpdag s (.one 0) u v).2 = false) :
    C13.layerEdges (C13.addEdge C13.cfgCpdag s (.one 0) u v).1 0 =
        C13.union (C13.layerEdges s 0) (C13.copies .dir s.maxLag (C13.toNode u, C13.toNode v)) ∧
      C13.layerEdges (C13.addEdge C13.cfgCpdag s (.one 0) u v).1 1 = C13.layerEdges s 1 := by
  obtain ⟨_, _, _, hlay⟩ := C13.addEdgeMixed_acc hacc
  rw [h.2.1.layers] at hlay
  exact C13.layerEdges_of_layers hlay

theorem layerEdges_addUnd {s : C13.St} (h : C13.CInv s) {u v : C13.TNode}
    (hacc : (C13.addEdge C13.cfgCpdag s (.one 1) u v).2 = false) :
    C13.layerEdges (C13.addEdge C13.cfgCpdag s (.one 1) u v).1 0 = C13.layerEdges s 0 ∧
      C13.layerEdges (C13.addEdge C13.cfgCpdag s (.one 1) u v).1 1 =
        C13.union (C13.layerEdges s 1) (C13.copies .und s.maxLag (C13.toNode u, C13.toNode v)) := by
  obtain ⟨_, _, _, hlay⟩ := C13.addEdgeMixed_acc hacc
  rw [h.2.1.layers] at hlay
  exact C13.layerEdges_of_layers hlay

theorem ts_add_named {s : C13.St} (h : C13.CInv s) (i : Nat) (hi : i = 0 ∨ i = 1) (u v : C13.TNode)
    (huv : u ≠ v) (hacc : (C13.addEdge C13.cfgCpdag s (.one i) u v).2 = false) :
    tsBitsAt (C13.addEdge C13.cfgCpdag s (.one i) u v).1 (C13.toNode u) (C13.toNode v) =
      (addC (layerET i) (tsBitsAt s (C13.toNode u) (C13.toNode v))).1 := by
  have h' := C13.cinv_addEdge h i u v huv
  obtain ⟨hg, hlu, hlv, hfw, _⟩ := addEdge_acc hi hacc
  rw [(addC_accept hg).1]
  rcases hi with rfl | rfl
  · -- directed: the named entry is among its own copies; the reverse entry is absent afterwards
    -- (`NoConf`), hence also before
    obtain ⟨e0, e1⟩ := layerEdges_addDir h hacc
    have hin : (C13.toNode u, C13.toNode v) ∈ C13.layerEdges (C13.addEdge C13.cfgCpdag s (.one 0) u v).1 0 := by
      rw [e0]
      exact C13.mem_union.2 (Or.inr (C13.shift_mem_copies (k := .dir) hfw (fun hh => by cases hh) hlu hlv rfl))
    have hn := (h'.2.2 _ _ hin).1
    refine tsBitsAt_eq (iff_of_true hin rfl) ?_ ?_
    · show _ ↔ (tsBitsAt s _ _).directed_vu = true
      rw [tsBitsAt_rev]
      exact iff_of_false hn fun hh => hn (by rw [e0]; exact C13.mem_union.2 (Or.inl hh))
    · show _ ↔ (tsBitsAt s _ _).un = true
      rw [tsBitsAt_un, e1]
  · -- undirected: the canonical form of the named entry is among its copies
    obtain ⟨e0, e1⟩ := layerEdges_addUnd h hacc
    refine tsBitsAt_eq ?_ ?_ (iff_of_true ?_ rfl)
    · show _ ↔ (tsBitsAt s _ _).directed_uv = true
      rw [tsBitsAt_dir, e0]
    · show _ ↔ (tsBitsAt s _ _).directed_vu = true
      rw [tsBitsAt_rev, e0]
    · rw [e1]
      have hc := C13.self_mem_copies_und (m := s.maxLag) (e := (C13.toNode u, C13.toNode v))
      rcases C13.canonUnd_cases (C13.toNode u, C13.toNode v) with hcc | hcc <;> rw [hcc] at hc
      · exact Or.inl (C13.mem_union.2 (Or.inr (hc hlu)))
      · exact Or.inr (C13.mem_union.2 (Or.inr (hc hlv)))

theorem ts_atomic {s : C13.St} (h : C13.CInv s) (op : C13.COp) (hr : (C13.cstep s op).2 = true)
    (p q : C13.Node) : tsBitsAt (C13.cstep s op).1 p q = tsBitsAt s p q := by
  unfold tsBitsAt
  rw [C13.layerEdges_congr (C13.cstep_rejected h op hr).1, C13.layerEdges_congr (C13.cstep_rejected h op hr).1]

/-- `orient_uncertain_edge(u, v)`, when it does not raise, turns the undirected mark of the pair into
the arrowhead earlier → later (the time-sorted pair `(a, b)`), keeps the rest of the pair (`OrientOnlyC`) -/
theorem ts_orient_only {s : C13.St} (h : C13.CInv s) (u v : C13.TNode) (huv : u ≠ v)
    (hacc : (C13.orientCpdag s u v).2 = false) :
    OrientOnlyC (tsBitsAt s (C13.toNode (C13.sortTime u v).1) (C13.toNode (C13.sortTime u v).2))
      (tsBitsAt (C13.orientCpdag s u v).1 (C13.toNode (C13.sortTime u v).1) (C13.toNode (C13.sortTime u v).2)) := by
  have h' := C13.cinv_orient h u v huv
  rcases C13.orient_spec h u v with ⟨_, h2⟩ | ⟨hund, h2⟩
  · rw [h2] at hacc; cases hacc
  · obtain ⟨hs1, hs2⟩ := C13.hasUnd_sortTime hund
    obtain ⟨ha0, hb0, hwa, hwb, hmem⟩ := C13.hasUnd_facts h hs1
    obtain ⟨e0, e1⟩ := C13.layerEdges_of_layers (t := (C13.orientCpdag s u v).1) (by rw [h2])
    have hfw : C13.lag (C13.sortTime u v).2 ≤ C13.lag (C13.sortTime u v).1 := by simp only [C13.lag]; omega
    have hin : (C13.toNode (C13.sortTime u v).1, C13.toNode (C13.sortTime u v).2) ∈
        C13.layerEdges (C13.orientCpdag s u v).1 0 := by
      rw [e0]
      exact C13.mem_union.2 (Or.inr (C13.shift_mem_copies (k := .dir) hfw (fun hh => by cases hh) hwa hwb rfl))
    -- `NoConf` afterwards: beside the new arrowhead there is neither the reverse entry nor an undirected one
    obtain ⟨n1, n2, n3⟩ := h'.2.2 _ _ hin
    refine ⟨(tsBitsAt_un ..).2 hmem, Bool.eq_false_iff.2 fun hh => ((tsBitsAt_un ..).1 hh).elim n2 n3,
      (tsBitsAt_dir ..).2 hin, ?_⟩
    rw [Bool.eq_iff_iff, tsBitsAt_rev, tsBitsAt_rev]
    exact iff_of_false n1 fun hh => n1 (by rw [e0]; exact C13.mem_union.2 (Or.inl hh))

/-- **C03 for the StationaryTimeSeriesCPDAG** (C13 model + C03 pair vocabulary): for every history
inside the calling convention, started from the empty CPDAG with any max_lag, in every state reached
(also after an operation that raised): every node pair, read directly or through its lag-0-anchored
representative, is `GoodC` and accepted by `is_valid_mec_graph`; a single addition of a named edge
type that would create contradictory marks raises and leaves the whole state as it was; every
raising operation leaves all pair states unchanged; a successful `orient_uncertain_edge` changes the
undirected mark of the time-sorted pair into an arrowhead and nothing else on that pair; the state
satisfies the C13 invariant, so homologous pairs carry equal states. -/
theorem C03_tscpdag (m : Nat) (ops : List C13.COp) (hops : ∀ op ∈ ops, op.Safe) :
    ∀ r ∈ C13.crun (C13.init C13.cfgCpdag m) ops,
      (∀ p q, GoodC (tsBitsAt r.1 p q) = true ∧ GoodC (tsBits r.1 p q) = true ∧
        isValidC (tsBitsAt r.1 p q) = true) ∧
      (∀ i, i = 0 ∨ i = 1 → ∀ u v : C13.TNode, u.2 ≤ 0 → v.2 ≤ 0 →
        GoodC (rawAddC (layerET i) (tsBitsAt r.1 (C13.toNode u) (C13.toNode v))) = false →
        C13.cstep r.1 (.op (.addEdge (.one i) u v)) = (r.1, true)) ∧
      (∀ op, (C13.cstep r.1 op).2 = true → ∀ p q, tsBitsAt (C13.cstep r.1 op).1 p q = tsBitsAt r.1 p q) ∧
      (∀ u v : C13.TNode, u ≠ v → (C13.cstep r.1 (.orient u v)).2 = false →
        OrientOnlyC (tsBitsAt r.1 (C13.toNode (C13.sortTime u v).1) (C13.toNode (C13.sortTime u v).2))
          (tsBitsAt (C13.cstep r.1 (.orient u v)).1 (C13.toNode (C13.sortTime u v).1)
            (C13.toNode (C13.sortTime u v).2))) ∧
      (∀ p q p' q' : C13.Node, p.2 ≤ r.1.maxLag → q.2 ≤ r.1.maxLag → p'.2 ≤ r.1.maxLag →
        q'.2 ≤ r.1.maxLag → p'.1 = p.1 → q'.1 = q.1 → p'.2 + q.2 = p.2 + q'.2 →
        tsBitsAt r.1 p' q' = tsBitsAt r.1 p q) := by
  intro r hr
  have h := C13.cinv_crun ops _ (C13.init_cinv m) hops r hr
  exact ⟨fun p q => ⟨goodC_of_noConf h.2.2 p q, goodC_of_noConf h.2.2 _ _, (isValidC_eq_good _).trans (goodC_of_noConf h.2.2 p q)⟩,
    fun i hi u v hu hv hbad => ts_add_rejects h i hi u v hu hv hbad,
    fun op hrj p q => ts_atomic h op hrj p q, fun u v huv hacc => ts_orient_only h u v huv hacc,
    fun p q p' q' a b c d e f g => tsBitsAt_shift h.1 a b c d e f g⟩

theorem C03_tscpdag_step {s : C13.St} (h : C13.CInv s) (op : C13.COp) (hop : op.Safe) :
    (∀ p q, GoodC (tsBitsAt (C13.cstep s op).1 p q) = true) ∧
      ((C13.cstep s op).2 = true → ∀ p q, tsBitsAt (C13.cstep s op).1 p q = tsBitsAt s p q) :=
  ⟨fun p q => goodC_of_noConf (C13.cinv_cstep h op hop).2.2 p q, fun hr p q => ts_atomic h op hr p q⟩

/-! `C03_tscpdag_add_partial` speaks about a `PairMap` (pairs of natural numbers) and *assumes* that the
homologous copies of the named pair carry equal marks.  The nodes inside the window `0..m` are numbered
`(x, a) ↦ x * (m + 1) + a`, the graph becomes the pair map `toPairMap`, the copies are the node pairs the
C13 model stores the edge on (`C13.homologous`), and the hypothesis follows from `tsBitsAt_shift`. -/

def enc (m : Nat) (p : C13.Node) : Nat := p.1 * (m + 1) + p.2
def dec (m : Nat) (i : Nat) : C13.Node := (i / (m + 1), i % (m + 1))

theorem dec_enc {m : Nat} {p : C13.Node} (h : p.2 ≤ m) : dec m (enc m p) = p := by
  unfold dec enc
  rw [Nat.mul_comm, Nat.mul_add_div (Nat.succ_pos m), Nat.mul_add_mod, Nat.div_eq_of_lt (Nat.lt_succ_of_le h),
    Nat.mod_eq_of_lt (Nat.lt_succ_of_le h)]
  rfl

theorem enc_dec (m a : Nat) : enc m (dec m a) = a := Nat.div_add_mod' a (m + 1)

theorem enc_inj {m : Nat} {p q : C13.Node} (hp : p.2 ≤ m) (hq : q.2 ≤ m) (h : enc m p = enc m q) : p = q := by
  rw [← dec_enc hp, ← dec_enc hq, h]

theorem dec_window (m i : Nat) : (dec m i).2 ≤ m :=
  Nat.le_of_lt_succ (Nat.mod_lt i (Nat.succ_pos m))

def toPairMap (s : C13.St) : PairMap CBits :=
  fun a b => tsBitsAt s (dec s.maxLag a) (dec s.maxLag b)

theorem rd_toPairMap (s : C13.St) (a b : Nat) :
    (toPairMap s).rd a b = tsBitsAt s (dec s.maxLag a) (dec s.maxLag b) := by
  unfold PairMap.rd
  split
  · rfl
  · exact tsBitsAt_swap s _ _

theorem rd_toPairMap_enc {s : C13.St} {p q : C13.Node} (hp : p.2 ≤ s.maxLag) (hq : q.2 ≤ s.maxLag) :
    (toPairMap s).rd (enc s.maxLag p) (enc s.maxLag q) = tsBitsAt s p q := by
  rw [rd_toPairMap, dec_enc hp, dec_enc hq]

/-- the node pairs on which the C13 model stores an edge named `(p, q)` (`q` not earlier than `p`),
numbered -/
def homPairs (m : Nat) (p q : C13.Node) : List (Nat × Nat) :=
  (C13.homologous m p.1 (p.2 - q.2) q.1).map fun e => (enc m e.1, enc m e.2)

theorem homologous_window {m x d y : Nat} {P Q : C13.Node} (h : (P, Q) ∈ C13.homologous m x d y) :
    P.2 ≤ m ∧ Q.2 ≤ m := by
  obtain ⟨j, hj, hPQ⟩ := C13.mem_homologous.1 h
  obtain ⟨rfl, rfl⟩ := Prod.mk.inj hPQ
  exact ⟨Nat.add_comm j d ▸ hj, Nat.le_trans (Nat.le_add_right j d) hj⟩

theorem tsBitsAt_hom {t : C13.St} (hi : C13.Inv t) {p q P Q : C13.Node} (hp : p.2 ≤ t.maxLag)
    (hq : q.2 ≤ t.maxLag) (hf : q.2 ≤ p.2) (h : (P, Q) ∈ C13.homologous t.maxLag p.1 (p.2 - q.2) q.1) :
    tsBitsAt t P Q = tsBitsAt t p q := by
  obtain ⟨j, hj, hPQ⟩ := C13.mem_homologous.1 h
  obtain ⟨rfl, rfl⟩ := Prod.mk.inj hPQ
  exact tsBitsAt_shift hi hp hq (Nat.add_comm j _ ▸ hj) (Nat.le_trans (Nat.le_add_right j _) hj) rfl rfl
    (by simp only; omega)

theorem homPairs_distinct (m : Nat) (p q : C13.Node) :
    (homPairs m p q).Pairwise fun e e' => PairMap.key e.1 e.2 ≠ PairMap.key e'.1 e'.2 := by
  unfold homPairs C13.homologous
  rw [List.map_map, List.pairwise_map]
  refine List.pairwise_lt_range.imp fun {i j} hij hk => ?_
  -- the two numbers of the i-th copy add up to a constant plus 2 i
  have := PairMap.key_sum hk
  simp only [Function.comp, enc] at this
  omega

/-- **`C03_tscpdag_add_partial` without its stationarity hypothesis**: on a time-series CPDAG state
satisfying the C13 invariant and without contradictory marks, the guarded addition on the named pair
followed by the raw store on all homologous copies leaves no contradictory marks -/
theorem C03_tscpdag_add {s : C13.St} (h : C13.CInv s) (t : ET) (ht : t = .directed ∨ t = .undirected)
    (p q : C13.Node) (hp : p.2 ≤ s.maxLag) (hq : q.2 ≤ s.maxLag) (hf : q.2 ≤ p.2) (hne : p ≠ q) :
    InvC (tsAdd (fun b => (addC t b).2) (rawAddC t) (toPairMap s) (enc s.maxLag p) (enc s.maxLag q)
      (homPairs s.maxLag p q)).1 := by
  refine C03_tscpdag_add_partial t ht _ _ _ _ (fun _ _ _ => goodC_of_noConf h.2.2 _ _) (fun hh => hne (enc_inj hp hq hh))
    (homPairs_distinct _ p q) ?_
  intro e he
  obtain ⟨⟨P, Q⟩, hPQ, rfl⟩ := List.mem_map.1 he
  obtain ⟨hP, hQ⟩ := homologous_window hPQ
  rw [rd_toPairMap_enc hP hQ, rd_toPairMap_enc hp hq]
  exact tsBitsAt_hom h.1 hp hq hf hPQ

-- non-vacuity of `C03_tscpdag_add`: after x(-1) -- y(0) (max_lag 2) the pair (x(-1), y(0)) and its copy
example : (tsAdd (fun b => (addC .directed b).2) (rawAddC .directed)
    (toPairMap (C13.step C13.cfgCpdag (C13.init C13.cfgCpdag 2) (.addEdge (.one 1) (0, -1) (1, 0))).1)
    (enc 2 (0, 1)) (enc 2 (1, 0)) (homPairs 2 (0, 1) (1, 0))).2 = true := by decide +kernel
example : homPairs 2 (0, 1) (1, 0) = [(1, 3), (2, 4)] := by decide

/-- the copies of an undirected-type edge given earlier node first are the homologous pairs, possibly
stored the other way round (contemporaneous edges: smaller variable first) -/
theorem mem_copies_und_cases {m : Nat} {a b : C13.Node} (hf : b.2 ≤ a.2) {e : C13.Edge}
    (he : e ∈ C13.copies .und m (a, b)) :
    e ∈ C13.homologous m a.1 (a.2 - b.2) b.1 ∨ C13.swap e ∈ C13.homologous m a.1 (a.2 - b.2) b.1 := by
  obtain ⟨x, i⟩ := a
  obtain ⟨y, j⟩ := b
  simp only at hf
  simp only [C13.copies, C13.canonUnd, C13.swap] at he ⊢
  split at he
  · omega
  · split at he
    · rename_i hc
      obtain ⟨hij, _⟩ := hc
      subst hij
      rw [C13.mem_homologous] at he
      obtain ⟨k, hk, rfl⟩ := he
      right
      rw [C13.mem_homologous]
      simp only at hk ⊢
      refine ⟨k, by omega, ?_⟩
      simp
    · exact Or.inl he

section link
variable {s : C13.St} (h : C13.CInv s) (i : Nat) (hi : i = 0 ∨ i = 1) (u v : C13.TNode) (huv : u ≠ v)
  (hacc : (C13.addEdge C13.cfgCpdag s (.one i) u v).2 = false)
include h hi hacc

theorem ts_add_frame {P Q : C13.Node}
    (h1 : (P, Q) ∉ C13.homologous s.maxLag (C13.toNode u).1 ((C13.toNode u).2 - (C13.toNode v).2) (C13.toNode v).1)
    (h2 : (Q, P) ∉ C13.homologous s.maxLag (C13.toNode u).1 ((C13.toNode u).2 - (C13.toNode v).2) (C13.toNode v).1) :
    tsBitsAt (C13.addEdge C13.cfgCpdag s (.one i) u v).1 P Q = tsBitsAt s P Q := by
  have hfw := (addEdge_acc hi hacc).2.2.2.1
  rcases hi with rfl | rfl
  · obtain ⟨e0, e1⟩ := layerEdges_addDir h hacc
    have hcp : C13.copies .dir s.maxLag (C13.toNode u, C13.toNode v) =
        C13.homologous s.maxLag (C13.toNode u).1 ((C13.toNode u).2 - (C13.toNode v).2) (C13.toNode v).1 :=
      if_pos hfw
    refine tsBitsAt_eq ?_ ?_ ?_
    · rw [tsBitsAt_dir, e0, C13.mem_union, hcp]; exact or_iff_left h1
    · rw [tsBitsAt_rev, e0, C13.mem_union, hcp]; exact or_iff_left h2
    · rw [tsBitsAt_un, e1]
  · obtain ⟨e0, e1⟩ := layerEdges_addUnd h hacc
    have n1 : (P, Q) ∉ C13.copies .und s.maxLag (C13.toNode u, C13.toNode v) :=
      fun hh => (mem_copies_und_cases hfw hh).elim h1 h2
    have n2 : (Q, P) ∉ C13.copies .und s.maxLag (C13.toNode u, C13.toNode v) :=
      fun hh => (mem_copies_und_cases hfw hh).elim h2 h1
    refine tsBitsAt_eq ?_ ?_ ?_
    · rw [tsBitsAt_dir, e0]
    · rw [tsBitsAt_rev, e0]
    · rw [tsBitsAt_un, e1, C13.mem_union, C13.mem_union, or_iff_left n1, or_iff_left n2]

include huv

/-- homologous pairs carry equal marks before and after, so it is enough to look at the named pair -/
theorem ts_add_copy {P Q : C13.Node}
    (hPQ : (P, Q) ∈ C13.homologous s.maxLag (C13.toNode u).1 ((C13.toNode u).2 - (C13.toNode v).2) (C13.toNode v).1) :
    tsBitsAt (C13.addEdge C13.cfgCpdag s (.one i) u v).1 P Q = rawAddC (layerET i) (tsBitsAt s P Q) := by
  have h' := C13.cinv_addEdge h i u v huv
  obtain ⟨hg, hlu, hlv, hfw, hm⟩ := addEdge_acc hi hacc
  rw [tsBitsAt_hom (p := C13.toNode u) (q := C13.toNode v) h'.1 (by rw [hm]; exact hlu) (by rw [hm]; exact hlv) hfw
      (by rw [hm]; exact hPQ),
    tsBitsAt_hom (p := C13.toNode u) (q := C13.toNode v) h.1 hlu hlv hfw hPQ, ts_add_named h i hi u v huv hacc, (addC_accept hg).1]

end link

/-- **the guarded `add_edge` of the C13 model of the StationaryTimeSeriesCPDAG is `tsAdd`** ("guard on the
named pair, raw store on all homologous copies"): on valid nodes `u ≠ v` (to-node not earlier) and a named
edge type, the call raises iff `tsAdd` on the pair map does, and the pair map of the state it leaves is the
pair map `tsAdd` returns (compared on the stored keys `a < b`) -/
theorem toPairMap_addEdge {s : C13.St} (h : C13.CInv s) (i : Nat) (hi : i = 0 ∨ i = 1) (u v : C13.TNode)
    (huv : u ≠ v) (hok : C13.okEdge s.maxLag u v = true) :
    (C13.addEdge C13.cfgCpdag s (.one i) u v).2 =
      (tsAdd (fun b => (addC (layerET i) b).2) (rawAddC (layerET i)) (toPairMap s)
        (enc s.maxLag (C13.toNode u)) (enc s.maxLag (C13.toNode v))
        (homPairs s.maxLag (C13.toNode u) (C13.toNode v))).2 ∧
    ∀ a b, a < b → toPairMap (C13.addEdge C13.cfgCpdag s (.one i) u v).1 a b =
      (tsAdd (fun b => (addC (layerET i) b).2) (rawAddC (layerET i)) (toPairMap s)
        (enc s.maxLag (C13.toNode u)) (enc s.maxLag (C13.toNode v))
        (homPairs s.maxLag (C13.toNode u) (C13.toNode v))).1 a b := by
  obtain ⟨hu0, hv0⟩ := C13.okEdge_nonpos hok
  obtain ⟨hlu, hlv, _⟩ := C13.okEdge_lags hok
  have hchk : (addC (layerET i) ((toPairMap s).rd (enc s.maxLag (C13.toNode u)) (enc s.maxLag (C13.toNode v)))).2 =
      C13.guardBad C13.cfgCpdag s (.one i) u v := by
    rw [rd_toPairMap_enc hlu hlv, guardBad_eq_addC s i hi hu0 hv0]
  cases hg : C13.guardBad C13.cfgCpdag s (.one i) u v with
  | true =>
    rw [C13.addEdge_guard_rejected s _ u v hg,
      tsAdd_reject (check := fun b => (addC (layerET i) b).2) (hchk.trans hg)]
    exact ⟨rfl, fun _ _ _ => rfl⟩
  | false =>
    have hsel : C13.selOk s.layers.length (.one i) = true := by
      rw [h.2.1.layers]; rcases hi with rfl | rfl <;> rfl
    obtain ⟨hacc, hm⟩ : (C13.addEdge C13.cfgCpdag s (.one i) u v).2 = false ∧
        (C13.addEdge C13.cfgCpdag s (.one i) u v).1.maxLag = s.maxLag := addEdgeMixed_ok hg hok hsel
    rw [tsAdd_accept (check := fun b => (addC (layerET i) b).2) (hchk.trans hg)]
    refine ⟨hacc, storeCopies_unique _ _ _ _ (homPairs_distinct _ _ _) (fun e he => ?_) (fun a b hab hk => ?_)⟩
    · obtain ⟨⟨P, Q⟩, hPQ, rfl⟩ := List.mem_map.1 he
      obtain ⟨hP, hQ⟩ := homologous_window hPQ
      rw [rd_toPairMap_enc hP hQ, rd_toPairMap, hm, dec_enc hP, dec_enc hQ]
      exact ts_add_copy h i hi u v huv hacc hPQ
    · show tsBitsAt _ (dec (C13.addEdge C13.cfgCpdag s (.one i) u v).1.maxLag a) (dec _ b) = _
      rw [hm]
      -- a copy among `(dec a, dec b)`, `(dec b, dec a)` would have the key `(a, b)`
      exact ts_add_frame h i hi u v hacc
        (fun hin => hk _ (List.mem_map.2 ⟨_, hin, rfl⟩) (by rw [enc_dec, enc_dec, PairMap.key_lt hab]))
        (fun hin => hk _ (List.mem_map.2 ⟨_, hin, rfl⟩)
          (by rw [enc_dec, enc_dec, PairMap.key_not_lt (Nat.lt_asymm hab)]))

/-- x(-1) -- y(0); orient it (asked the "wrong" way round: the edge is oriented forward in time);
x -- y contemporaneous; a directed edge on a homologous copy of that pair and an undirected edge on a
homologous copy of the directed pair are rejected by the guard; copy; orient the contemporaneous edge -/
def exTs : List C13.COp :=
  [.op (.addEdge (.one 1) (0, -1) (1, 0)), .orient (1, 0) (0, -1), .op (.addEdge (.one 1) (1, -2) (0, -2)),
   .op (.addEdge (.one 0) (0, -2) (1, -2)), .op (.addEdge (.one 1) (0, -2) (1, -1)), .op .copy,
   .orient (0, 0) (1, 0)]

example : ∀ op ∈ exTs, op.Safe := by
  intro op hop
  simp only [exTs, List.mem_cons, List.not_mem_nil, or_false] at hop
  rcases hop with rfl | rfl | rfl | rfl | rfl | rfl | rfl <;> simp [C13.COp.Safe, C13.Op.CpdagSafe]

example : (C13.crun (C13.init C13.cfgCpdag 2) exTs).map (·.2) =
    [false, false, false, true, true, false, false] := by decide +kernel

example : (C13.crun (C13.init C13.cfgCpdag 2) exTs).map (fun r => r.1.layers.map (·.edges.length)) =
    [[0, 2], [2, 0], [2, 3], [2, 3], [2, 3], [2, 3], [5, 0]] := by decide +kernel

/-- marks of a node pair of a time-series PAG state (layers: directed, circle, undirected, bidirected) -/
def tsBitsAtP (s : C13.St) (p q : C13.Node) : PBits :=
  ⟨(C13.layerEdges s 0).contains (p, q), (C13.layerEdges s 0).contains (q, p),
   (C13.layerEdges s 1).contains (p, q), (C13.layerEdges s 1).contains (q, p),
   (C13.layerEdges s 3).contains (p, q) || (C13.layerEdges s 3).contains (q, p),
   (C13.layerEdges s 2).contains (p, q) || (C13.layerEdges s 2).contains (q, p)⟩

/-- **known finding C03-tspag-unguarded**: on the StationaryTimeSeriesPAG (no mark guard in the
library, none in the model) `x(0) -> y(0)` followed by `x(0) *-o y(0)` is accepted twice and leaves an
arrowhead and a circle at `y(0)` – on the named pair and on its homologous copy -/
theorem C03_counterexample_tspag :
    (C13.run C13.cfgPag (C13.init C13.cfgPag 1)
      [.addEdge (.one 0) (0, 0) (1, 0), .addEdge (.one 1) (0, 0) (1, 0)]).map
      (fun r => (r.2, GoodP (tsBitsAtP r.1 (0, 0) (1, 0)), GoodP (tsBitsAtP r.1 (0, 1) (1, 1)))) =
    [(false, true, true), (false, false, false)] := by decide +kernel

end C03
