import Pw.C03.Table
import Pw.C03.Lift
/-! C03 — the property theorems: the 64-state and 8-state tables lifted to graphs, bulk calls, histories and
the constructor.  No size bound anywhere: graphs are arbitrary pair maps, histories arbitrary lists. -/
namespace C03

theorem soundP : Sound semP (fun s => GoodP s = true) where
  swapP := fun s h => (GoodP_swap s).trans h
  emptyP := rfl
  add_good := addP_good
  add_reject := addP_reject
  remove_good := removeP_good
  remove_reject := removeP_reject
  rs_good := removeSilentP_good
  rs_reject := removeSilentP_reject
  orient_good := orientP_good
  orient_reject := orientP_reject
  valid_iff := fun s => by rw [show semP.isValid s = isValidP s from rfl, isValidP_eq_good]

theorem soundC : Sound semC (fun s => GoodC s = true) where
  swapP := fun s h => (GoodC_swap s).trans h
  emptyP := rfl
  add_good := addC_good
  add_reject := addC_reject
  remove_good := removeC_good
  remove_reject := removeC_reject
  rs_good := removeSilentC_good
  rs_reject := removeSilentC_reject
  orient_good := orientC_good
  orient_reject := orientC_reject
  valid_iff := fun s => by rw [show semC.isValid s = isValidC s from rfl, isValidC_eq_good]

/-- **C03 for PAG / AugmentedPAG** (model = spec, all graphs, all operations) -/
theorem C03_pag : Holds GoodP OrientOnlyP rawAddP (fun t => t ≠ .all ∧ t ≠ .other) (step semP) isValidP :=
  holds_of_sound soundP (fun t ht s hs ha => (addP_exact t ht.1 ht.2 s hs).1 ha) orientP_only

/-- **C03 for CPDAG** -/
theorem C03_cpdag : Holds GoodC OrientOnlyC rawAddC (fun t => t = .directed ∨ t = .undirected)
    (step semC) isValidC :=
  holds_of_sound soundC (fun t ht s hs ha => (addC_exact t ht s hs).1 ha) orientC_only

/-- every history on a PAG that starts without contradictory marks ends without them — and so does
    every prefix, the list being arbitrary -/
theorem C03_pag_history (g : PairMap PBits) (ops : List Op) (h : InvP g) (hops : ∀ op ∈ ops, op.NoAll) :
    InvP (run semP g ops) ∧ ∀ a b, a < b → isValidP (run semP g ops a b) = true :=
  have hi := run_All soundP ops g h hops
  ⟨hi, fun a b hab => valid_of_All soundP hi a b hab⟩

theorem C03_cpdag_history (g : PairMap CBits) (ops : List Op) (h : InvC g) (hops : ∀ op ∈ ops, op.NoAll) :
    InvC (run semC g ops) ∧ ∀ a b, a < b → isValidC (run semC g ops a b) = true :=
  have hi := run_All soundC ops g h hops
  ⟨hi, fun a b hab => valid_of_All soundC hi a b hab⟩

/-- the PAG constructor's validity check accepts the stored lists iff no pair carries
    contradictory marks (the ADMG base class additionally demands an acyclic directed layer, which
    only rejects more) -/
theorem C03_pag_ctor (D B U C : List (Nat × Nat)) (hl : ∀ e ∈ D ++ B ++ U ++ C, e.1 ≠ e.2) :
    ctorOk semP (ofListsP D B U C) (D ++ B ++ U ++ C) = true ↔ InvP (ofListsP D B U C) := by
  apply ctorOk_iff_All soundP _ _ hl
  intro a b _ hout
  unfold ofListsP
  rw [storeAll_other _ a b C fun e he => hout e (by simp [he]), storeAll_other _ a b U fun e he => hout e (by simp [he]),
    storeAll_other _ a b B fun e he => hout e (by simp [he]), storeAll_other _ a b D fun e he => hout e (by simp [he])]
  rfl

theorem C03_cpdag_ctor (D U : List (Nat × Nat)) (hl : ∀ e ∈ D ++ U, e.1 ≠ e.2) :
    ctorOk semC (ofListsC D U) (D ++ U) = true ↔ InvC (ofListsC D U) := by
  apply ctorOk_iff_All soundC _ _ hl
  intro a b _ hout
  unfold ofListsC
  rw [storeAll_other _ a b U fun e he => hout e (by simp [he]), storeAll_other _ a b D fun e he => hout e (by simp [he])]
  rfl

/-- constructor + any history: every graph reachable from an accepted constructor call -/
theorem C03_pag_reachable (D B U C : List (Nat × Nat)) (hl : ∀ e ∈ D ++ B ++ U ++ C, e.1 ≠ e.2)
    (hc : ctorOk semP (ofListsP D B U C) (D ++ B ++ U ++ C) = true)
    (ops : List Op) (hops : ∀ op ∈ ops, op.NoAll) : InvP (run semP (ofListsP D B U C) ops) :=
  (C03_pag_history _ ops ((C03_pag_ctor D B U C hl).1 hc) hops).1

theorem C03_cpdag_reachable (D U : List (Nat × Nat)) (hl : ∀ e ∈ D ++ U, e.1 ≠ e.2)
    (hc : ctorOk semC (ofListsC D U) (D ++ U) = true)
    (ops : List Op) (hops : ∀ op ∈ ops, op.NoAll) : InvC (run semC (ofListsC D U) ops) :=
  (C03_cpdag_history _ ops ((C03_cpdag_ctor D U hl).1 hc) hops).1

/-! non-vacuity: the hypotheses are satisfiable by non-trivial inputs, and the interesting branches are
really taken -/

-- a constructor call that is accepted: 0 o-> 1, 1 <-> 2, 0 -- 2
example : ctorOk semP (ofListsP [(0, 1)] [(1, 2)] [(0, 2)] [(1, 0)]) ([(0, 1)] ++ [(1, 2)] ++ [(0, 2)] ++ [(1, 0)]) = true := by
  decide +kernel
-- one that is rejected: 0 -> 1 together with 0 <-> 1
example : ctorOk semP (ofListsP [(0, 1)] [(1, 0)] [] []) ([(0, 1)] ++ [(1, 0)] ++ [] ++ []) = false := by decide +kernel
-- a bulk call whose members contradict one another is rejected and changes nothing
example : (step semP PairMap.emp (.addBulk .directed [(0, 1), (2, 1), (1, 0)])).2 = true := by decide +kernel
example : (step semP PairMap.emp (.addBulk .directed [(0, 1), (2, 1), (1, 0)])).1 0 1 = PBits.empty := by decide +kernel
example : (step semC PairMap.emp (.addBulk .directed [(0, 1), (1, 0)])).2 = true := by decide +kernel
-- a bulk call with duplicated members and a reversed undirected member is accepted
example : (step semP PairMap.emp (.addBulk .circle [(0, 1), (1, 0), (0, 1)])).2 = false := by decide +kernel
-- orient on 0 <-o 1 (asked for the mark at 1 … i.e. circle (0,1) with directed (1,0)) gives 0 <-> 1
example : ((step semP (ofListsP [(1, 0)] [] [] [(0, 1)]) (.orient 0 1)).1 0 1) = ⟨false, false, false, false, true, false⟩ := by decide +kernel
-- the guard really rejects something from a Good state, and really accepts something
example : (addP .directed ⟨false, false, true, false, false, false⟩).2 = true := by decide +kernel
example : (addP .directed ⟨false, false, false, true, false, false⟩).2 = false := by decide +kernel

end C03
