import Pw.C03.Model
/-! C03 — lifting the pair tables to graphs and histories (generic in the class semantics `M`).

Nothing here mentions the guards: the hypotheses are exactly the table theorems (`Sound`), so the
lifting holds for whatever guard text the translator produces as long as the tables re-check. -/
namespace C03
open PairState

variable {σ : Type} [PairState σ]

/-- the pair tables of one class, as hypotheses -/
structure Sound (M : Sem σ) (P : σ → Prop) : Prop where
  swapP : ∀ s, P s → P (swap s)
  emptyP : P (empty : σ)
  add_good : ∀ t, t ≠ .all → ∀ s, P s → (M.add t s).2 = false → P (M.add t s).1
  add_reject : ∀ t s, (M.add t s).2 = true → (M.add t s).1 = s
  remove_good : ∀ t s, P s → P (M.remove t s).1
  remove_reject : ∀ t s, (M.remove t s).2 = true → (M.remove t s).1 = s
  rs_good : ∀ t s, P s → P (M.removeSilent t s).1
  rs_reject : ∀ t s, (M.removeSilent t s).2 = true → (M.removeSilent t s).1 = s
  orient_good : ∀ s, P s → P (M.orient s).1
  orient_reject : ∀ s, P s → (M.orient s).2 = true → (M.orient s).1 = s
  valid_iff : ∀ s, M.isValid s = true ↔ P s

section lifting
variable {M : Sem σ} {P : σ → Prop}

theorem applyAt_All (hsw : ∀ s, P s → P (swap s)) {f : σ → σ × Bool} (hf : ∀ s, P s → P (f s).1)
    {g : PairMap σ} (h : PairMap.All P g) (u v : Nat) : PairMap.All P (applyAt f g u v).1 := by
  unfold applyAt
  exact PairMap.All.wr hsw h u v _ (fun huv => hf _ (PairMap.All.rd hsw h u v huv))

theorem applyAt_reject {f : σ → σ × Bool} (g : PairMap σ) (u v : Nat)
    (hrej : (f (g.rd u v)).2 = true → (f (g.rd u v)).1 = g.rd u v)
    (hr : (applyAt f g u v).2 = true) : (applyAt f g u v).1 = g := by
  unfold applyAt at hr ⊢
  simp only at hr ⊢
  rw [hrej hr, PairMap.wr_rd]

theorem applyAt_other {f : σ → σ × Bool} (g : PairMap σ) (u v a b : Nat)
    (h : (a, b) ≠ PairMap.key u v) : (applyAt f g u v).1 a b = g a b := by
  unfold applyAt; exact PairMap.wr_other g u v _ a b h

/-- a bulk call stops at the first rejected member and returns the original graph, or goes on from the
    graph that member left -/
theorem bulk_cons (f : σ → σ × Bool) (g0 g : PairMap σ) (u v : Nat) (es : List (Nat × Nat)) :
    bulk f g0 g ((u, v) :: es) =
      if (applyAt f g u v).2 then (g0, true) else bulk f g0 (applyAt f g u v).1 es := rfl

theorem bulk_All (hsw : ∀ s, P s → P (swap s)) {f : σ → σ × Bool} (hf : ∀ s, P s → P (f s).1)
    {g0 : PairMap σ} (h0 : PairMap.All P g0) (es : List (Nat × Nat)) :
    ∀ g : PairMap σ, PairMap.All P g → PairMap.All P (bulk f g0 g es).1 := by
  induction es with
  | nil => exact fun _ h => h
  | cons e es ih =>
    intro g h
    obtain ⟨u, v⟩ := e
    rw [bulk_cons]
    split
    · exact h0
    · exact ih _ (applyAt_All hsw hf h u v)

theorem bulk_spec (f : σ → σ × Bool) (g0 : PairMap σ) (es : List (Nat × Nat)) :
    ∀ g : PairMap σ,
      ((bulk f g0 g es).2 = false →
        (bulk f g0 g es).1 = (es.foldl (fun h e => (applyAt f h e.1 e.2).1) g)) ∧
      ((bulk f g0 g es).2 = true → (bulk f g0 g es).1 = g0) := by
  induction es with
  | nil => exact fun _ => ⟨fun _ => rfl, Bool.noConfusion⟩
  | cons e es ih =>
    intro g
    obtain ⟨u, v⟩ := e
    rw [bulk_cons]
    split
    · exact ⟨Bool.noConfusion, fun _ => rfl⟩
    · exact ih _

theorem bulk_other {f : σ → σ × Bool} (g0 : PairMap σ) (a b : Nat) (es : List (Nat × Nat))
    (h : ∀ e ∈ es, (a, b) ≠ PairMap.key e.1 e.2) :
    ∀ g : PairMap σ, g a b = g0 a b → (bulk f g0 g es).1 a b = g0 a b := by
  induction es with
  | nil => exact fun _ hg => hg
  | cons e es ih =>
    intro g hg
    obtain ⟨u, v⟩ := e
    rw [bulk_cons]
    split
    · rfl
    · exact ih (fun e he => h e (List.mem_cons_of_mem _ he)) _
        ((applyAt_other g u v a b (h (u, v) List.mem_cons_self)).trans hg)

/-- an operation that does not add with 'all' keeps every pair `P` -/
theorem step_All (hS : Sound M P) {g : PairMap σ} (h : PairMap.All P g) (op : Op) (hop : op.NoAll) :
    PairMap.All P (step M g op).1 := by
  have addOk : ∀ t, t ≠ .all → ∀ s, P s → P (M.add t s).1 := by
    intro t ht s hs
    by_cases hr : (M.add t s).2 = true
    · rw [hS.add_reject t s hr]; exact hs
    · exact hS.add_good t ht s hs (Bool.eq_false_iff.2 hr)
  cases op with
  | add t u v => exact applyAt_All hS.swapP (addOk t hop) h u v
  | addBulk t es =>
    simp only [step]
    cases M.known t
    · exact h
    · exact bulk_All hS.swapP (addOk t hop) h es g h
  | remove t u v => exact applyAt_All hS.swapP (hS.remove_good t) h u v
  | removeBulk t es =>
    simp only [step]
    cases M.known t
    · exact h
    · exact bulk_All hS.swapP (hS.rs_good t) h es g h
  | orient u v => exact applyAt_All hS.swapP hS.orient_good h u v

/-- a rejected mutation leaves the graph exactly as it was (also for 'all') -/
theorem step_reject (hS : Sound M P) {g : PairMap σ} (h : PairMap.All P g) (op : Op) (hl : op.NoLoop)
    (hr : (step M g op).2 = true) : (step M g op).1 = g := by
  cases op with
  | add t u v => exact applyAt_reject g u v (hS.add_reject t _) hr
  | addBulk t es =>
    revert hr
    simp only [step]
    cases M.known t
    · exact fun _ => rfl
    · exact (bulk_spec _ g es g).2
  | remove t u v => exact applyAt_reject g u v (hS.remove_reject t _) hr
  | removeBulk t es =>
    revert hr
    simp only [step]
    cases M.known t
    · exact fun _ => rfl
    · exact (bulk_spec _ g es g).2
  | orient u v =>
    have huv : u ≠ v := hl (u, v) List.mem_cons_self
    exact applyAt_reject g u v (hS.orient_reject _ (PairMap.All.rd hS.swapP h u v huv)) hr

theorem step_other (g : PairMap σ) (op : Op) (a b : Nat)
    (h : ∀ e ∈ op.pairs, (a, b) ≠ PairMap.key e.1 e.2) : (step M g op).1 a b = g a b := by
  cases op with
  | add t u v => exact applyAt_other g u v a b (h (u, v) List.mem_cons_self)
  | addBulk t es =>
    simp only [step]
    cases M.known t
    · rfl
    · exact bulk_other g a b es h g rfl
  | remove t u v => exact applyAt_other g u v a b (h (u, v) List.mem_cons_self)
  | removeBulk t es =>
    simp only [step]
    cases M.known t
    · rfl
    · exact bulk_other g a b es h g rfl
  | orient u v => exact applyAt_other g u v a b (h (u, v) List.mem_cons_self)

/-- the list being arbitrary, the invariant holds after every prefix, i.e. in every reachable graph -/
theorem run_All (hS : Sound M P) (ops : List Op) :
    ∀ g : PairMap σ, PairMap.All P g → (∀ op ∈ ops, op.NoAll) → PairMap.All P (run M g ops) := by
  induction ops with
  | nil => intro g h _; exact h
  | cons op ops ih =>
    intro g h hops
    unfold run
    exact ih _ (step_All hS h op (hops op List.mem_cons_self))
      (fun o ho => hops o (List.mem_cons_of_mem _ ho))

theorem valid_of_All (hS : Sound M P) {g : PairMap σ} (h : PairMap.All P g) (a b : Nat) (hab : a < b) :
    M.isValid (g a b) = true := (hS.valid_iff _).2 (h a b hab)

theorem storeAll_other (raw : σ → σ) (a b : Nat) (es : List (Nat × Nat))
    (h : ∀ e ∈ es, (a, b) ≠ PairMap.key e.1 e.2) :
    ∀ g : PairMap σ, storeAll raw g es a b = g a b := by
  induction es with
  | nil => intro g; rfl
  | cons e es ih =>
    intro g
    rcases e with ⟨u, v⟩
    unfold storeAll
    rw [ih (fun e he => h e (List.mem_cons_of_mem _ he))]
    exact PairMap.wr_other g u v _ a b (h (u, v) List.mem_cons_self)

theorem key_of_lt {a b : Nat} (h : a < b) : PairMap.key a b = (a, b) := PairMap.key_lt h

/-- the constructor check passes iff every named pair is `P`; if in addition every pair outside
    `keys` is empty, iff the whole graph satisfies the invariant -/
theorem ctorOk_iff_All (hS : Sound M P) (g : PairMap σ) (keys : List (Nat × Nat))
    (hl : ∀ e ∈ keys, e.1 ≠ e.2)
    (hout : ∀ a b, a < b → (∀ e ∈ keys, (a, b) ≠ PairMap.key e.1 e.2) → g a b = empty) :
    ctorOk M g keys = true ↔ PairMap.All P g := by
  unfold ctorOk
  rw [List.all_eq_true]
  constructor
  · intro h a b hab
    by_cases hin : ∃ e ∈ keys, (a, b) = PairMap.key e.1 e.2
    · rcases hin with ⟨e, he, hk⟩
      have := (hS.valid_iff _).1 (h e he)
      rw [PairMap.rd_key g (hl e he), ← hk] at this
      exact this
    · rw [hout a b hab (fun e he hk => hin ⟨e, he, hk⟩)]; exact hS.emptyP
  · intro h e he
    rw [PairMap.rd_key g (hl e he)]
    exact (hS.valid_iff _).2 (h _ _ (PairMap.key_fst_lt (hl e he)))

/-- the property of a class from its pair tables: `Sound`, exactness of the guard on the named edge
    types (an accepted addition stores a Good state) and the orient table -/
theorem holds_of_sound {Good : σ → Bool} (hS : Sound M (fun s => Good s = true)) {OrientOnly : σ → σ → Prop}
    {store : ET → σ → σ} {named : ET → Prop}
    (hex : ∀ t, named t → ∀ s, Good s = true → (M.add t s).2 = false → Good (store t s) = true)
    (honly : ∀ s, Good s = true → (M.orient s).2 = false → OrientOnly s (M.orient s).1) :
    Holds Good OrientOnly store named (step M) M.isValid where
  preserved := fun _ op h hop => step_All hS h op hop
  rejects := fun g t u v h ht huv hbad => by
    show (M.add t (g.rd u v)).2 = true
    rw [← Bool.not_eq_false]
    intro ha
    have := hex t ht _ (PairMap.All.rd hS.swapP h u v huv) ha
    rw [hbad] at this; cases this
  atomic := fun _ op h hl hr => step_reject hS h op hl hr
  valid := hS.valid_iff
  orient_only := fun g u v h huv ha => by
    refine ⟨?_, fun a b hab => step_other g (.orient u v) a b fun e he => List.mem_singleton.1 he ▸ hab⟩
    show OrientOnly (g.rd u v) ((g.wr u v (M.orient (g.rd u v)).1).rd u v)
    rw [PairMap.rd_wr]
    exact honly _ (PairMap.All.rd hS.swapP h u v huv) ha
  frame := fun g op a b h => step_other g op a b h

end lifting
end C03
