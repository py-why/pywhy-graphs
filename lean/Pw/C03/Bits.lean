/-! C03 — mark state of ONE node pair.

A PAG stores a pair {u,v} in four networkx layers: `directed` and `circle` are `DiGraph`s (so each
has a (u,v) and a (v,u) entry), `bidirected` and `undirected` are `Graph`s (one symmetric entry each):
6 bits, 64 states.  A CPDAG has `directed` (2 bits) and `undirected` (1 bit): 8 states.
The bits are always read *relative to an ordered pair (u,v)*; `swap` re-reads them relative to (v,u).

The accessor names `<layer>_uv`, `<layer>_vu`, `any_uv`, `any_vu` are what the guard translator
(`translate/guards.py`) emits for `graph.has_edge(u, v, graph.<layer>_edge_name)`,
`graph.has_edge(v, u, …)` and `graph.has_edge(u, v)`. -/
namespace C03

/-- edge-type argument of the public methods; `other` = any string that names no layer -/
inductive ET | all | directed | bidirected | circle | undirected | other
deriving DecidableEq, Repr

/-- PAG pair state relative to the ordered pair (u,v).
    `directed_uv`: u -> v stored (arrowhead at v); `circle_uv`: u *-o v stored (circle at v). -/
structure PBits where
  directed_uv : Bool
  directed_vu : Bool
  circle_uv : Bool
  circle_vu : Bool
  bi : Bool
  un : Bool
deriving DecidableEq, Repr

namespace PBits
def empty : PBits := ⟨false, false, false, false, false, false⟩
def swap (s : PBits) : PBits := ⟨s.directed_vu, s.directed_uv, s.circle_vu, s.circle_uv, s.bi, s.un⟩
@[inline] def bidirected_uv (s : PBits) : Bool := s.bi
@[inline] def bidirected_vu (s : PBits) : Bool := s.bi
@[inline] def undirected_uv (s : PBits) : Bool := s.un
@[inline] def undirected_vu (s : PBits) : Bool := s.un
/-- `has_edge(u, v)` with the default `edge_type="any"`: any layer reports the (u,v) entry -/
def any_uv (s : PBits) : Bool := s.directed_uv || s.bi || s.un || s.circle_uv
def any_vu (s : PBits) : Bool := s.directed_vu || s.bi || s.un || s.circle_vu
theorem swap_swap (s : PBits) : s.swap.swap = s := rfl
end PBits

/-- CPDAG pair state relative to the ordered pair (u,v) -/
structure CBits where
  directed_uv : Bool
  directed_vu : Bool
  un : Bool
deriving DecidableEq, Repr

namespace CBits
def empty : CBits := ⟨false, false, false⟩
def swap (s : CBits) : CBits := ⟨s.directed_vu, s.directed_uv, s.un⟩
@[inline] def undirected_uv (s : CBits) : Bool := s.un
@[inline] def undirected_vu (s : CBits) : Bool := s.un
def any_uv (s : CBits) : Bool := s.directed_uv || s.un
def any_vu (s : CBits) : Bool := s.directed_vu || s.un
theorem swap_swap (s : CBits) : s.swap.swap = s := rfl
end CBits


instance {p : PBits → Prop} [DecidablePred p] : Decidable (∀ s, p s) :=
  decidable_of_iff (∀ a b c d e f, p ⟨a, b, c, d, e, f⟩)
    ⟨fun h ⟨a, b, c, d, e, f⟩ => h a b c d e f, fun h _ _ _ _ _ _ => h _⟩

instance {p : CBits → Prop} [DecidablePred p] : Decidable (∀ s, p s) :=
  decidable_of_iff (∀ a b c, p ⟨a, b, c⟩) ⟨fun h ⟨a, b, c⟩ => h a b c, fun h _ _ _ => h _⟩

instance {p : ET → Prop} [DecidablePred p] : Decidable (∀ t, p t) :=
  decidable_of_iff (p .all ∧ p .directed ∧ p .bidirected ∧ p .circle ∧ p .undirected ∧ p .other)
    ⟨fun ⟨h1, h2, h3, h4, h5, h6⟩ t => by cases t <;> assumption, fun h => ⟨h _, h _, h _, h _, h _, h _⟩⟩

end C03
