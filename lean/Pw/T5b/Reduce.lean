import Pw.T5b.Chain
open Closure MG

/-! # T5b, part 3d: reducing a chain and reading it as a semi-open M-walk

A collider-type anchor that is a D-ancestor of one of its two neighbours is removed (its two links merge:
the anchor becomes a legitimate collider of the longer inducing walk).  In an irreducible chain every
collider-type anchor is a collider of `M`, every other inner anchor is outside Z. -/
namespace T5b
open C06

variable {D M : MG} {L S : List Nat}

/-- the chain of anchors `(node, collider flag)` after `q` cannot be shortened: two consecutive non-collider anchors
    differ, and a collider anchor is an ancestor of neither of its neighbours -/
def Irred (D : MG) : Nat → Bool → List (Nat × Bool) → Prop
  | _, _, [] => True
  | q, cq, [(v, cv)] => (cq = false → cv = false → q ≠ v)
  | q, cq, (v, cv) :: (w, cw) :: rest =>
      (cq = false → cv = false → q ≠ v) ∧ (cv = true → ¬ Anc D v q ∧ ¬ Anc D v w) ∧
        Irred D v cv ((w, cw) :: rest)

/-- what irreducibility says about the first link of a chain whose last anchor is no collider: the
    next anchor differs from the first if both are non-colliders, and if it is a collider it is not the
    last one and no ancestor of its two neighbours -/
theorem irred_cons {q : Nat} {cq : Bool} {v : Nat} {cv : Bool} {rest : List (Nat × Bool)}
    (h : Irred D q cq ((v, cv) :: rest)) (hl : lastFlag cv rest = false) :
    (cq = false → cv = false → q ≠ v) ∧
      (cv = true → ¬ Anc D v q ∧ ∀ p ∈ rest.head?, ¬ Anc D v p.1) ∧ Irred D v cv rest := by
  cases rest with
  | nil => exact ⟨h, fun hcv => (nomatch hcv.symm.trans hl), trivial⟩
  | cons b rest' =>
    obtain ⟨w, cw⟩ := b
    exact ⟨h.1, fun hcv => ⟨(h.2.1 hcv).1, fun p hp => by cases hp; exact (h.2.1 hcv).2⟩, h.2.2⟩

theorem dich {Z T : List Nat} : ∀ (l : List (Nat × Bool)) (q : Nat) (cq : Bool),
    ChainOK D L S Z T q cq l →
    Irred D q cq l ∨ ∃ l', l'.length < l.length ∧ ChainOK D L S Z T q cq l' ∧
      endOf q l' = endOf q l ∧ lastFlag cq l' = lastFlag cq l := by
  intro l
  induction l with
  | nil => exact fun _ _ _ => Or.inl trivial
  | cons a l ih =>
    obtain ⟨v, cv⟩ := a
    intro q cq hc
    obtain ⟨lk1, gv, hrest⟩ := hc
    -- a first link from a non-collider anchor to itself is dropped
    by_cases hq : cq = false ∧ cv = false ∧ q = v
    · obtain ⟨rfl, rfl, rfl⟩ := hq
      exact Or.inr ⟨l, Nat.lt_succ_self _, hrest, rfl, rfl⟩
    have hne : cq = false → cv = false → q ≠ v := fun h1 h2 h3 => hq ⟨h1, h2, h3⟩
    cases l with
    | nil => exact Or.inl hne
    | cons b rest =>
      obtain ⟨w, cw⟩ := b
      obtain ⟨lk2, gw, hrest'⟩ := hrest
      by_cases hr : cv = true ∧ (Anc D v q ∨ Anc D v w)
      · obtain ⟨rfl, h2⟩ := hr
        exact Or.inr ⟨(w, cw) :: rest, Nat.lt_succ_self _,
          ⟨lk_merge lk1 lk2 (h2.imp_right Or.inl) (Or.inl rfl), gw, hrest'⟩, rfl, rfl⟩
      · rcases ih v cv ⟨lk2, gw, hrest'⟩ with hi | ⟨l', hlen, hc', he', hf'⟩
        · exact Or.inl ⟨hne,
            fun hcv => ⟨fun h => hr ⟨hcv, Or.inl h⟩, fun h => hr ⟨hcv, Or.inr h⟩⟩, hi⟩
        · exact Or.inr ⟨(v, cv) :: l', Nat.succ_lt_succ hlen, ⟨lk1, gv, hc'⟩, he', hf'⟩

theorem reduce_all {Z T : List Nat} {x : Nat} : ∀ (n : Nat) (l : List (Nat × Bool)), l.length ≤ n →
    ChainOK D L S Z T x false l →
    ∃ l', ChainOK D L S Z T x false l' ∧ Irred D x false l' ∧ endOf x l' = endOf x l ∧
      lastFlag false l' = lastFlag false l := by
  intro n
  induction n with
  | zero =>
    intro l hn hc
    obtain rfl := List.eq_nil_of_length_eq_zero (Nat.le_zero.mp hn)
    exact ⟨[], trivial, trivial, rfl, rfl⟩
  | succ n ih =>
    intro l hn hc
    rcases dich l x false hc with hi | ⟨l', hlen, hc', he', hf'⟩
    · exact ⟨l, hc, hi, rfl, rfl⟩
    · obtain ⟨l'', h1, h2, h3, h4⟩ := ih l' (Nat.le_of_lt_succ (Nat.lt_of_lt_of_le hlen hn)) hc'
      exact ⟨l'', h1, h2, h3.trans he', h4.trans hf'⟩

/-- the M-walk through the anchors of a chain; marks are read off ancestry in `D` -/
noncomputable def mkW (D : MG) (S : List Nat) : Nat → List (Nat × Bool) → List Hop
  | _, [] => []
  | q, (v, _) :: rest => ⟨mkAt D S v q, mkAt D S q v, v⟩ :: mkW D S v rest

/-- an irreducible chain, read as an M-walk, is open given `Z`.  `e` is the mark with which the walk
    enters `q`: a collider-type anchor is entered by an arrowhead and, being no ancestor of S or of the
    next anchor, is also left by one; any other anchor is outside `Z`, or the walk starts there -/
theorem conv (su : Setup D L S M) {Z T : List Nat} : ∀ (l : List (Nat × Bool)) (q : Nat) (cq : Bool)
    (e : Option Mark), Obs D L S q → ChainOK D L S Z T q cq l → Irred D q cq l →
    lastFlag cq l = false →
    (cq = true → ¬ AnS D S q ∧ e = some .head ∧ ∀ p ∈ l.head?, ¬ Anc D q p.1) →
    (cq = false → q ∉ Z ∨ e = none) →
    ValidW M q (mkW D S q l) ∧ OpenP Tr Z e q (mkW D S q l) ∧ endNode q (mkW D S q l) = endOf q l := by
  intro l
  induction l with
  | nil => exact fun _ _ _ _ _ _ _ _ _ => ⟨trivial, trivial, rfl⟩
  | cons a rest ih =>
    obtain ⟨v, cv⟩ := a
    intro q cq e hq hc hi hl hq1 hq0
    obtain ⟨lk, gv, hrest⟩ := hc
    obtain ⟨hne0, hvirr, hirest⟩ := irred_cons hi hl
    have hne : q ≠ v := by
      intro heq
      cases hcq : cq with
      | true => exact (hq1 hcq).2.2 (v, cv) rfl (heq ▸ Anc.refl q)
      | false =>
        cases hcv : cv with
        | true => exact (hvirr hcv).1 (heq ▸ Anc.refl q)
        | false => exact hne0 hcq hcv heq
    obtain ⟨rv, ro, re⟩ := ih v cv (some (mkAt D S q v)) gv.obs hrest hirest hl
      (fun hcv => ⟨gv.col hcv, by rw [mkAt_head (gv.col hcv) (hvirr hcv).1], (hvirr hcv).2⟩)
      (fun hcv => Or.inl (gv.free hcv))
    refine ⟨⟨edge_of_lk su hq gv.obs hne lk, rv⟩, ⟨?_, ro⟩, re⟩
    cases e with
    | none => trivial
    | some m =>
      refine condP_tr.mpr ?_
      cases hcq : cq with
      | true =>
        obtain ⟨h1, h2, h3⟩ := hq1 hcq
        exact Or.inl ⟨Option.some.inj h2, mkAt_head h1 (h3 (v, cv) rfl)⟩
      | false => exact (hq0 hcq).elim Or.inr fun h => nomatch h

theorem mkW_inAnt (su : Setup D L S M) {Z T : List Nat} (hT : ∀ t ∈ T, Obs D L S t) :
    ∀ (l : List (Nat × Bool)) (q : Nat) (cq : Bool), InAnt M T q → ChainOK D L S Z T q cq l →
      ValidW M q (mkW D S q l) → ∀ w ∈ nodesOf q (mkW D S q l), InAnt M T w := by
  intro l
  induction l with
  | nil =>
    intro q _ hq _ _ w hw
    rw [List.eq_of_mem_singleton hw]; exact hq
  | cons a rest ih =>
    obtain ⟨v, cv⟩ := a
    intro q cq hq hc hv w hw
    obtain ⟨_, gv, hrest⟩ := hc
    -- an ancestor of S has a tail at `v` on the M-edge to `q`
    have hvA : InAnt M T v := by
      by_cases hS : AnS D S v
      · obtain ⟨s, hs, ha⟩ := hS
        cases ha with
        | refl => exact absurd hs gv.obs.2.2
        | @step _ c _ e hcs =>
          have hedge : HasEdge M v q (mkAt D S q v) (mkAt D S v q) := hv.1.symm
          rw [mkAt_tail.mpr ⟨s, List.mem_append_left _ hs, c, e, hcs⟩] at hedge
          exact InAnt.step hedge hq
      · rcases gv.tgt with h | ⟨t, ht, ha⟩
        · exact absurd h hS
        · exact ⟨t, ht, antM_of_anc su gv.obs (hT t ht) hS ha⟩
    rcases List.mem_cons.mp hw with rfl | hw
    · exact hq
    · exact ih v cv hvA hrest hv.2 w hw

end T5b
