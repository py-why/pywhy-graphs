import Pw.T5b.ToD
open Closure MG

/-! # T5b, part 3a: inducing walks ("links") between observed nodes of `D`

`IW u v π`: a D-walk from u to v on which every inner non-collider is latent and every inner collider is an
ancestor of u, v or S.  Between distinct observed nodes such a walk shortens to an inducing path, hence
gives an M-edge whose marks are read off ancestry (`mkAt`). -/
namespace T5b
open C06

variable {D M : MG} {L S : List Nat}

/-- the non-latent nodes, as the "forbidden non-collider" list of `OpenP` -/
def NL (D : MG) (L : List Nat) : List Nat := D.nodes.filter (fun w => decide (w ∉ L))

theorem not_mem_NL {w : Nat} (h : w ∈ L) : w ∉ NL D L := by
  simp only [NL, List.mem_filter, decide_eq_true_eq, not_and]
  intro _ hn; exact hn h

theorem mem_L_of_not_NL {w : Nat} (hn : w ∈ D.nodes) (h : w ∉ NL D L) : w ∈ L := by
  simp only [NL, List.mem_filter, decide_eq_true_eq, not_and] at h
  exact Classical.not_not.mp (h hn)

def Obs (D : MG) (L S : List Nat) (v : Nat) : Prop := v ∈ D.nodes ∧ v ∉ L ∧ v ∉ S

theorem mem_L_of_not_obs {v : Nat} (hn : v ∈ D.nodes) (hS : v ∉ S) (h : ¬ Obs D L S v) : v ∈ L :=
  Classical.not_not.mp fun hL => h ⟨hn, hL, hS⟩

def AnS (D : MG) (S : List Nat) (w : Nat) : Prop := ∃ s ∈ S, Anc D w s

structure IW (D : MG) (L S : List Nat) (u v : Nat) (π : List Hop) : Prop where
  valid : ValidW D u π
  endn : endNode u π = v
  opn : OpenP (AncOf D u v S) (NL D L) none u π

/-- a link: a non-empty inducing walk; the flags record arrowheads of `D` at the two ends -/
def Lk (D : MG) (L S : List Nat) (u v : Nat) (cu cv : Bool) : Prop :=
  ∃ π : List Hop, π ≠ [] ∧ IW D L S u v π ∧ (cu = true → ∀ p ∈ π.head?, p.mp = .head) ∧
    (cv = true → exitMark none π = some .head)

protected theorem nodesOf_mem_nodes (hwf : D.WF) {a : Nat} (ha : a ∈ D.nodes) {hs : List Hop}
    (hv : ValidW D a hs) : ∀ w ∈ nodesOf a hs, w ∈ D.nodes :=
  MG.nodesOf_mem_nodes hwf ha hv

theorem innerOK_of_openP_NL {x y : Nat} :
    ∀ (hs : List Hop) (m : Mark) (a : Nat), OpenP (AncOf D x y S) (NL D L) (some m) a hs →
      (∀ w ∈ nodesOf a hs, w ∈ D.nodes) → InnerOK D L S x y (some m) a hs := by
  intro hs
  induction hs with
  | nil => exact fun _ _ _ _ => trivial
  | cons h t ih =>
    intro m a ho hn
    refine ⟨?_, ih h.mn h.nx ho.2 fun w hw => hn w (List.mem_cons_of_mem _ hw)⟩
    have ho1 : condP (AncOf D x y S) (NL D L) m h.mp a := ho.1
    by_cases hcol : m = .head ∧ h.mp = .head
    · exact ⟨Or.inr hcol, fun _ => (condP_collider hcol).mp ho1⟩
    · exact ⟨Or.inl (mem_L_of_not_NL (hn a List.mem_cons_self) ((condP_nonCollider hcol).mp ho1)),
        fun hc => absurd hc hcol⟩

theorem ind_of_IW (su : Setup D L S M) {u v : Nat} (hu : u ∈ D.nodes) (huv : u ≠ v) {π : List Hop}
    (h : IW D L S u v π) : HasInducingPath D L S u v := by
  have hallC : ∀ w ∈ nodesOf u π, AncOf D u v S w := fun w hw =>
    (all_ancOf su.un h.valid h.endn h.opn w hw).imp fun _ ht => ⟨ht.1, T5.anc_of_ant su.un ht.2⟩
  obtain ⟨ps, pv, po, pe, pn, _⟩ := T5.openP_walk_to_path su.sl π none u h.valid h.opn hallC
  rw [h.endn] at pe
  refine ⟨ps, pv, pe, pn, ?_⟩
  cases ps with
  | nil => exact absurd pe huv
  | cons p t =>
    show InnerOK D L S u v (some p.mn) p.nx t
    exact innerOK_of_openP_NL t p.mn p.nx po.2 fun w hw =>
      nodesOf_mem_nodes su.wf hu pv w (List.mem_cons_of_mem _ hw)

theorem exitMark_append (e e' : Option Mark) (P Q : List Hop) (hQ : Q ≠ []) :
    exitMark e (P ++ Q) = exitMark e' Q := by
  obtain ⟨s, hop, rfl⟩ := exists_snoc Q hQ
  rw [← List.append_assoc, exitMark_snoc, exitMark_snoc]

theorem ancOf_iff {u v w : Nat} : AncOf D u v S w ↔ (Anc D w u ∨ Anc D w v ∨ AnS D S w) := by
  simp only [AncOf, AnS, List.mem_cons, or_and_right, exists_or, exists_eq_left]

/-- ancestors of `u`, `v` or S are ancestors of `u'`, `v'` or S if `u` and `v` are -/
theorem ancOf_trans {u v u' v' w : Nat} (hu : AncOf D u' v' S u) (hv : AncOf D u' v' S v)
    (h : AncOf D u v S w) : AncOf D u' v' S w := by
  obtain ⟨t, ht, ha⟩ := h
  rcases List.mem_cons.mp ht with rfl | ht
  · exact hu.imp fun _ h' => ⟨h'.1, ha.trans h'.2⟩
  · rcases List.mem_cons.mp ht with rfl | ht
    · exact hv.imp fun _ h' => ⟨h'.1, ha.trans h'.2⟩
    · exact ⟨t, List.mem_cons_of_mem _ (List.mem_cons_of_mem _ ht), ha⟩

/-- two links through a common end `v` that is an ancestor of one of the outer ends (or of S) merge
    into one link, provided `v` is latent or carries arrowheads on both sides: either way `v` may be an
    inner node of an inducing walk -/
theorem lk_merge {q v w : Nat} {cq cv cw : Bool} (h1 : Lk D L S q v cq cv) (h2 : Lk D L S v w cv cw)
    (hanc : Anc D v q ∨ Anc D v w ∨ AnS D S v) (hv : cv = true ∨ v ∈ L) : Lk D L S q w cq cw := by
  obtain ⟨π1, hne1, iw1, hf1, hl1⟩ := h1
  obtain ⟨π2, hne2, iw2, hf2, hl2⟩ := h2
  obtain ⟨p1, ps1, rfl⟩ := List.exists_cons_of_ne_nil hne1
  obtain ⟨p2, ps2, rfl⟩ := List.exists_cons_of_ne_nil hne2
  refine ⟨(p1 :: ps1) ++ p2 :: ps2, List.cons_ne_nil _ _, ⟨?_, ?_, ?_⟩, fun hc p hp => hf1 hc p hp,
    fun hc => ?_⟩
  · rw [validW_append, iw1.endn]; exact ⟨iw1.valid, iw2.valid⟩
  · rw [endNode_append, iw1.endn, iw2.endn]
  · have hC : AncOf D q w S v := ancOf_iff.mpr hanc
    rw [openP_append, iw1.endn]
    refine ⟨OpenP.mono (fun _ => ancOf_trans ancOf_x hC) _ none q iw1.opn, ?_,
      (OpenP.mono (fun _ => ancOf_trans hC ancOf_y) (p2 :: ps2) none v iw2.opn).2⟩
    show condP _ _ (lastMn p1.mn ps1) p2.mp v
    refine condP_intro (fun _ => hC) fun hnc => ?_
    rcases hv with rfl | hvL
    · exact absurd ⟨Option.some.inj (hl1 rfl), hf2 rfl p2 rfl⟩ hnc
    · exact not_mem_NL hvL
  · rw [exitMark_append none none _ _ (List.cons_ne_nil _ _)]; exact hl2 hc

theorem lk_weaken {u v : Nat} {cu cv cu' cv' : Bool} (h : Lk D L S u v cu cv)
    (h1 : cu' = true → cu = true) (h2 : cv' = true → cv = true) : Lk D L S u v cu' cv' := by
  obtain ⟨π, hne, iw, hf, hl⟩ := h
  exact ⟨π, hne, iw, fun hc => hf (h1 hc), fun hc => hl (h2 hc)⟩

open Classical in
/-- the mark at `b` of the M-edge between `a` and `b` -/
noncomputable def mkAt (D : MG) (S : List Nat) (a b : Nat) : Mark :=
  if TailAt D S a b then .tail else .head

theorem mkAt_tail {a b : Nat} : mkAt D S a b = .tail ↔ TailAt D S a b := by
  unfold mkAt
  split
  · next h => exact iff_of_true rfl h
  · next h => exact iff_of_false (fun e => nomatch e) h

theorem mkAt_head {a b : Nat} (hS : ¬ AnS D S b) (hab : ¬ Anc D b a) : mkAt D S a b = .head := by
  unfold mkAt
  rw [if_neg]
  intro h
  rcases tailAt_cases h with ⟨t, ht, c, hc, hct⟩ | ⟨c, hc, hca⟩
  · exact hS ⟨t, ht, Anc.step hc hct⟩
  · exact hab (Anc.step hc hca)

theorem edge_of_lk (su : Setup D L S M) {u v : Nat} {cu cv : Bool} (hu : Obs D L S u) (hv : Obs D L S v)
    (huv : u ≠ v) (h : Lk D L S u v cu cv) : HasEdge M u v (mkAt D S v u) (mkAt D S u v) := by
  obtain ⟨π, _, iw, _, _⟩ := h
  exact hasEdge_of_info su.hs
    ⟨hu.1, hv.1, huv, Or.inl (ind_of_IW su hu.1 huv iw), hu.2.1, hu.2.2, hv.2.1, hv.2.2, mkAt_tail, mkAt_tail⟩

end T5b
