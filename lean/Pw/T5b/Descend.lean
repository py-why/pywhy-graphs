import Pw.T5b.IndWalk
open Closure MG

/-! # T5b, part 3b: directed D-walks through latent nodes

`descend`: from a node that is not an ancestor of S, follow a directed path towards an observed target
until the first observed node; from there on the path, cut at its observed nodes, is a directed path
of `M`. -/
namespace T5b
open C06

variable {D M : MG} {L S : List Nat}

/-- every hop is a directed edge traversed forwards -/
def DownW : List Hop → Prop
  | [] => True
  | h :: t => h.mp = .tail ∧ h.mn = .head ∧ DownW t

/-- every node that has an outgoing hop is latent -/
def SrcL (L : List Nat) : Nat → List Hop → Prop
  | _, [] => True
  | a, h :: t => a ∈ L ∧ SrcL L h.nx t

theorem anc_of_down : ∀ (δ : List Hop) (a : Nat), ValidW D a δ → DownW δ →
    Anc D a (endNode a δ) := by
  intro δ
  induction δ with
  | nil => exact fun a _ _ => Anc.refl a
  | cons h t ih =>
    intro a ⟨hv1, hv2⟩ ⟨h1, h2, hd2⟩
    rw [h1, h2] at hv1
    exact Anc.step hv1.dir_of_tail_head (ih h.nx hv2 hd2)

theorem not_anS_of_anc {a b : Nat} (h : Anc D a b) (ha : ¬ AnS D S a) : ¬ AnS D S b := by
  rintro ⟨s, hs, hb⟩
  exact ha ⟨s, hs, h.trans hb⟩

theorem not_mem_S_of_not_anS {a : Nat} (ha : ¬ AnS D S a) : a ∉ S :=
  fun h => ha ⟨a, h, Anc.refl a⟩

/-- a downward walk through latent sources is open (no colliders, non-colliders latent) -/
theorem openP_down {C : Nat → Prop} : ∀ (δ : List Hop) (c : Nat) (e : Option Mark),
    DownW δ → SrcL L c δ → OpenP C (NL D L) e c δ := by
  intro δ
  induction δ with
  | nil => exact fun _ _ _ _ => trivial
  | cons h t ih =>
    intro c e hd hl
    refine ⟨?_, ih h.nx _ hd.2.2 hl.2⟩
    cases e with
    | none => trivial
    | some m =>
      show condP C (NL D L) m h.mp c
      rw [hd.1]
      exact (condP_nonCollider (mo := .tail) fun h => nomatch h.2).mpr (not_mem_NL hl.1)

/-- `v -> b` and a downward walk from `b` through latent nodes to an observed node: an M-edge -/
theorem edge_of_down (su : Setup D L S M) {v b : Nat} {δ : List Hop} (e : (v, b) ∈ D.dir)
    (hv : ValidW D b δ) (hd : DownW δ) (hl : SrcL L b δ) (hov : Obs D L S v)
    (hou : Obs D L S (endNode b δ)) :
    HasEdge M v (endNode b δ) .tail (mkAt D S v (endNode b δ)) := by
  have hanc : Anc D b (endNode b δ) := anc_of_down δ b hv hd
  have hne : v ≠ endNode b δ := fun heq => su.acy _ _ e (by rw [heq]; exact hanc)
  have hlk : Lk D L S v (endNode b δ) false false :=
    ⟨⟨.tail, .head, b⟩ :: δ, List.cons_ne_nil _ _,
      ⟨⟨Or.inl ⟨rfl, rfl, e⟩, hv⟩, rfl, trivial, openP_down δ b _ hd hl⟩,
      (fun h => nomatch h), fun h => nomatch h⟩
  have hedge := edge_of_lk su hov hou hne hlk
  rwa [mkAt_tail.mpr ⟨_, List.mem_append_right _ List.mem_cons_self, b, e, hanc⟩] at hedge

/-- each piece between consecutive observed nodes of the path from `o` to `t` is an M-edge by
    `edge_of_down` -/
theorem descend (su : Setup D L S M) {c t : Nat} (ha : Anc D c t) (ht : Obs D L S t)
    (hc : ¬ AnS D S c) :
    ∃ δ o, ValidW D c δ ∧ endNode c δ = o ∧ DownW δ ∧ SrcL L c δ ∧ Obs D L S o ∧ Anc D o t ∧
      Ant M o t := by
  induction ha with
  | refl c => exact ⟨[], c, trivial, rfl, trivial, trivial, ht, Anc.refl c, Ant.refl c⟩
  | @step c b t e hbt ih =>
    obtain ⟨δ, o, dv, rfl, dd, dl, ho, hot, hant⟩ :=
      ih ht (not_anS_of_anc (Anc.step e (Anc.refl b)) hc)
    by_cases hobs : Obs D L S c
    · exact ⟨[], c, trivial, rfl, trivial, trivial, hobs, Anc.step e hbt,
        Ant.step (edge_of_down su e dv dd dl hobs ho) hant⟩
    · have hcL : c ∈ L := mem_L_of_not_obs (su.wf.1 _ e).1 (not_mem_S_of_not_anS hc) hobs
      exact ⟨⟨.tail, .head, b⟩ :: δ, _, ⟨Or.inl ⟨rfl, rfl, e⟩, dv⟩, rfl, ⟨rfl, rfl, dd⟩, ⟨hcL, dl⟩,
        ho, hot, hant⟩

theorem exitMark_down : ∀ (δ : List Hop) (e : Option Mark), DownW δ → δ ≠ [] →
    exitMark e δ = some .head
  | [], _, _, hne => absurd rfl hne
  | [_], _, hd, _ => congrArg some hd.2.1
  | h :: h2 :: t, e, hd, _ =>
    (exitMark_cons e h (h2 :: t)).trans (exitMark_down (h2 :: t) _ hd.2.2 (List.cons_ne_nil _ _))

theorem revHops_ne_nil (δ : List Hop) (c : Nat) (hne : δ ≠ []) : revHops c δ ≠ [] := by
  cases δ with
  | nil => exact absurd rfl hne
  | cons h t => exact List.append_ne_nil_of_right_ne_nil _ (List.cons_ne_nil _ _)

/-- walked upwards, every hop of a downward walk starts with an arrowhead -/
theorem rev_down_head : ∀ (δ : List Hop) (c : Nat), DownW δ → ∀ p ∈ revHops c δ, p.mp = .head := by
  intro δ
  induction δ with
  | nil => exact fun _ _ _ hp => nomatch hp
  | cons h t ih =>
    intro c hd p hp
    rcases List.mem_append.mp hp with hp | hp
    · exact ih h.nx hd.2.2 p hp
    · rw [List.eq_of_mem_singleton hp]; exact hd.2.1

theorem openP_up {C : Nat → Prop} (δ : List Hop) (c : Nat) (hd : DownW δ) (hl : SrcL L c δ) :
    OpenP C (NL D L) none (endNode c δ) (revHops c δ) := by
  have hend : condPO C (NL D L) (exitMark none δ) none (endNode c δ) := by
    cases δ <;> trivial
  exact ((openP_revHops δ c none none).mp ⟨openP_down δ c none hd hl, hend⟩).1

theorem antM_of_anc (su : Setup D L S M) {v t : Nat} (hv : Obs D L S v) (ht : Obs D L S t)
    (hvS : ¬ AnS D S v) (h : Anc D v t) : Ant M v t := by
  obtain ⟨δ, o, _, rfl, _, dl, _, _, hant⟩ := descend su h ht hvS
  cases δ with
  | nil => exact hant
  | cons p δ => exact absurd dl.1 hv.2.1

end T5b
