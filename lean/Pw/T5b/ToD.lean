import Pw.T5b.Basic
open Closure MG

/-! # T5b, part 2: an m-connection in the MAG `M` yields an m-connection in `D` given `Z ∪ S`

A semi-open walk of `M` inside the anterior set of `{x,y} ∪ Z` (T2 applied to `M`) is unfolded edge by
edge into inducing paths of `D`; an arrowhead of `M` at `c` forces every inducing path to end with an
edge into `c`, so colliders of the M-walk stay colliders of the D-walk. -/
namespace T5b
open C06

variable {D M : MG} {L S : List Nat}


theorem anc_of_antM (hs : MagStructure D L S M) {a c : Nat} (h : Ant M a c) :
    Anc D a c ∨ ∃ s ∈ S, Anc D a s := by
  induction h with
  | refl => exact Or.inl (Anc.refl _)
  | @step a b c mb he _ ih =>
    rcases tailAt_cases ((edgeInfo_of_hasEdge hs he).ma_tail.mp rfl) with
      ⟨t, ht, w, hw, hwt⟩ | ⟨w, hw, hwb⟩
    · exact Or.inr ⟨t, ht, Anc.step hw hwt⟩
    · have hab : Anc D a b := Anc.step hw hwb
      exact ih.imp hab.trans fun ⟨s, hs', ih⟩ => ⟨s, hs', hab.trans ih⟩

theorem exists_snoc : ∀ (l : List Hop), l ≠ [] → ∃ s h, l = s ++ [h] :=
  fun l hne => ⟨l.dropLast, l.getLast hne, (List.dropLast_concat_getLast hne).symm⟩

theorem mark_head (su : Setup D L S M) {T : List Nat} {a c w : Nat} {mc mw : Mark}
    (hnt : ¬ TailAt D S a c) (he : HasEdge D c w mc mw) (hw : InAnt D T w)
    (hT : ∀ t ∈ T, t = c ∨ t = a ∨ t ∈ S) : mc = .head := by
  cases mc with
  | head => rfl
  | tail =>
    exfalso
    have hd : (c, w) ∈ D.dir := (dir_of_tail su.un he).1
    obtain ⟨t, ht, hant⟩ := hw
    have hanc := T5.anc_of_ant su.un hant
    rcases hT t ht with rfl | rfl | htS
    · exact su.acy _ _ hd hanc
    · exact hnt ⟨t, List.mem_append_right _ List.mem_cons_self, w, hd, hanc⟩
    · exact hnt ⟨t, List.mem_append_left _ htS, w, hd, hanc⟩

theorem all_ancOf (hun : D.un = []) {a b : Nat} {Zs : List Nat} {π : List Hop} (hv : ValidW D a π)
    (hend : endNode a π = b) (ho : OpenP (AncOf D a b S) Zs none a π) :
    ∀ w ∈ nodesOf a π, InAnt D (a :: b :: S) w :=
  all_inAnt (noUndirAtHead_of_un_nil D hun) (T := a :: b :: S)
    (fun v ⟨t, ht, ha⟩ => ⟨t, ht, Ant.of_anc ha⟩) π a hv ho ⟨a, List.mem_cons_self, Ant.refl a⟩
    (by rw [hend]; exact ⟨b, List.mem_cons_of_mem _ List.mem_cons_self, Ant.refl b⟩)

/-- every M-edge unfolds into an inducing path of `D` whose end marks dominate the M-marks -/
theorem edge_expand (su : Setup D L S M) {Zs : List Nat} (hLZ : ∀ v, v ∈ L → v ∉ Zs) {a b : Nat}
    {ma mb : Mark} (he : HasEdge M a b ma mb) :
    ∃ π : List Hop, π ≠ [] ∧ ValidW D a π ∧ endNode a π = b ∧ OpenP Tr Zs none a π ∧
      (∀ w ∈ nodesOf a π, InAnt D (a :: b :: S) w) ∧
      (ma = .head → ∀ p ∈ π.head?, p.mp = .head) ∧ (mb = .head → exitMark none π = some .head) := by
  have i := edgeInfo_of_hasEdge su.hs he
  obtain ⟨π, hv, hend, _, hin⟩ : HasInducingPath D L S a b := i.ind.elim id
    (C06.hasInducingPath_symm su.wf su.un su.sl su.hSn su.hLS (Ne.symm i.hab) i.hb i.ha i.hbS i.haS)
  have hoP := T5.openP_of_innerOK hLZ π none a hin
  have hall := all_ancOf su.un hv hend hoP
  have hne : π ≠ [] := by
    rintro rfl
    exact i.hab hend
  refine ⟨π, hne, hv, hend, OpenP.mono (fun _ _ => trivial) π none a hoP, hall, ?_, ?_⟩
  · intro hma p hp
    cases π with
    | nil => cases hp
    | cons q qs =>
      obtain rfl : q = p := Option.some.inj hp
      exact mark_head su (fun ht => nomatch (i.ma_tail.mpr ht).symm.trans hma) hv.1
        (hall q.nx (List.mem_cons_of_mem _ List.mem_cons_self))
        (fun t ht => by simpa only [List.mem_cons] using ht)
  · intro hmb
    obtain ⟨s, hop, rfl⟩ := exists_snoc π hne
    rw [validW_append] at hv
    rw [endNode_snoc] at hend
    have hedge : HasEdge D (endNode a s) hop.nx hop.mp hop.mn := hv.2.1
    rw [hend] at hedge
    have hmem : endNode a s ∈ nodesOf a (s ++ [hop]) := by
      rw [nodesOf_append]
      exact List.mem_append_left _ (endNode_mem_nodesOf s a)
    rw [exitMark_snoc, mark_head su (fun ht => nomatch (i.mb_tail.mpr ht).symm.trans hmb)
      hedge.symm (hall _ hmem) (fun t ht => or_left_comm.mp (by simpa only [List.mem_cons] using ht))]

theorem condP_tr {Z : List Nat} {m mo : Mark} {v : Nat} :
    condP Tr Z m mo v ↔ (m = .head ∧ mo = .head) ∨ v ∉ Z := by
  by_cases h : m = .head ∧ mo = .head
  · exact iff_of_true ((condP_collider h).mpr trivial) (Or.inl h)
  · exact (condP_nonCollider h).trans (or_iff_right h).symm

/-- the condition at a node outside `S` survives conditioning on `S` as well, as long as a collider
    stays a collider -/
theorem condP_append {Z S : List Nat} {m mo m' mo' : Mark} {a : Nat} (h : condP Tr Z m mo a)
    (haS : a ∉ S) (hcol : m = .head ∧ mo = .head → m' = .head ∧ mo' = .head) :
    condP Tr (Z ++ S) m' mo' a :=
  condP_tr.mpr <| (condP_tr.mp h).imp hcol fun hz hm => (List.mem_append.mp hm).elim hz haS

/-- an open walk of `M` unfolds into an open walk of `D` between the same ends.  Where the M-walk enters
    a node with an arrowhead the D-walk does too (`edge_expand`), so colliders stay colliders; a
    non-collider of the M-walk is outside `Z ∪ S` and may become either.  Hence the entry mark `e'` of
    the D-walk is tied to `e` only where `e` is `none` or an arrowhead. -/
theorem walk_M_to_D (su : Setup D L S M) {Z : List Nat} (hZL : ∀ v, v ∈ L → v ∉ Z) (A : Nat → Prop)
    (hA : ∀ a b w, A a → A b → InAnt D (a :: b :: S) w → A w) :
    ∀ (hs : List Hop) (a : Nat) (e : Option Mark), ValidW M a hs → OpenP Tr Z e a hs →
      (∀ w ∈ nodesOf a hs, A w) →
      ∃ ds, ValidW D a ds ∧ endNode a ds = endNode a hs ∧ (∀ w ∈ nodesOf a ds, A w) ∧
        (∀ e' : Option Mark, (e = none → e' = none) → (e = some .head → e' = some .head) →
          OpenP Tr (Z ++ S) e' a ds) := by
  have hLZs : ∀ v, v ∈ L → v ∉ Z ++ S := fun v hvL hz =>
    (List.mem_append.mp hz).elim (hZL v hvL) (su.hLS v hvL)
  intro hs
  induction hs with
  | nil => exact fun a e _ _ hall => ⟨[], trivial, rfl, hall, fun _ _ _ => trivial⟩
  | cons h t ih =>
    intro a e hv ho hall
    have haS := (edgeInfo_of_hasEdge su.hs hv.1).haS
    obtain ⟨π, hne, pv, pend, po, pall, pfirst, plast⟩ := edge_expand su hLZs hv.1
    obtain ⟨ds', dv, dend, dall, dopen⟩ := ih h.nx (some h.mn) hv.2 ho.2
      fun w hw => hall w (List.mem_cons_of_mem _ hw)
    cases π with
    | nil => exact absurd rfl hne
    | cons p ps =>
      refine ⟨(p :: ps) ++ ds', ?_, ?_, ?_, ?_⟩
      · rw [validW_append, pend]; exact ⟨pv, dv⟩
      · rw [endNode_append, pend, dend]; rfl
      · intro w hw
        rw [nodesOf_append] at hw
        rcases List.mem_append.mp hw with hw | hw
        · exact hA a h.nx w (hall a List.mem_cons_self)
            (hall h.nx (List.mem_cons_of_mem _ List.mem_cons_self)) (pall w hw)
        · exact dall w (List.mem_cons_of_mem _ hw)
      · intro e' h1 h2
        rw [openP_append, pend]
        refine ⟨⟨?_, po.2⟩, dopen _ (fun hc => nomatch hc) fun hc => plast (Option.some.inj hc)⟩
        cases e' with
        | none => trivial
        | some m' =>
          cases e with
          | none => exact nomatch h1 rfl
          | some m =>
            exact condP_append ho.1 haS fun hcol =>
              ⟨Option.some.inj (h2 (congrArg some hcol.1)), pfirst hcol.2 p rfl⟩

/-- nodes m-connected in the MAG given `Z` are m-connected in `D` given `Z ∪ S` -/
theorem not_msep_D_of_not_msep_M (su : Setup D L S M) {x y : Nat} {Z : List Nat}
    (hx : x ∈ M.nodes) (hy : y ∈ M.nodes) (hZ : ∀ z ∈ Z, z ∈ M.nodes ∧ z ≠ x ∧ z ≠ y)
    (h : ¬ MSep M [x] [y] Z) : ¬ MSep D [x] [y] (Z ++ S) := by
  obtain ⟨hs, hv, hend, ho, hall⟩ := (not_mSep_M_iff su hZ).mp h
  have hconv : ∀ w, AntSet M [x] [y] Z w → AntSet D [x] [y] (Z ++ S) w := by
    rintro w ⟨t, ht, hant⟩
    rcases anc_of_antM su.hs hant with h | ⟨s, hsS, h⟩
    · refine ⟨t, ?_, Ant.of_anc h⟩
      rw [← List.append_assoc]
      exact List.mem_append_left _ ht
    · exact ⟨s, List.mem_append_right _ (List.mem_append_right _ hsS), Ant.of_anc h⟩
  have hA : ∀ a b w, AntSet D [x] [y] (Z ++ S) a → AntSet D [x] [y] (Z ++ S) b →
      InAnt D (a :: b :: S) w → AntSet D [x] [y] (Z ++ S) w := by
    rintro a b w ⟨ta, hta, haa⟩ ⟨tb, htb, hab⟩ ⟨t, ht, hant⟩
    rcases List.mem_cons.mp ht with rfl | ht
    · exact ⟨ta, hta, Ant.trans hant haa⟩
    · rcases List.mem_cons.mp ht with rfl | ht
      · exact ⟨tb, htb, Ant.trans hant hab⟩
      · exact ⟨t, List.mem_append_right _ (List.mem_append_right _ ht), hant⟩
  obtain ⟨ds, dv, dend, dall, dopen⟩ := walk_M_to_D su
    (fun v hvL hz => ((su.hs.nodes v).mp (hZ v hz).1).2.1 hvL) _ hA hs x none hv ho
    (fun w hw => hconv w (hall w hw))
  exact (not_mSep_D_iff su hx hy hZ).mpr
    ⟨ds, dv, dend.trans hend, dopen none (fun _ => rfl) (fun hc => nomatch hc), dall⟩

end T5b
