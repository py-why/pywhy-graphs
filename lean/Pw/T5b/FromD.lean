import Pw.T5b.Reduce
open Closure MG

/-! # T5b, part 3e: an m-connection in `D` given `Z ∪ S` yields an m-connection in the MAG given `Z` -/
namespace T5b
open C06

variable {D M : MG} {L S : List Nat}

theorem obs_of_mem (hs : MagStructure D L S M) {v : Nat} (h : v ∈ M.nodes) : Obs D L S v :=
  (hs.nodes v).mp h

/-- observed nodes m-connected in `D` given `Z ∪ S` are m-connected in the MAG given `Z` -/
theorem not_msep_M_of_not_msep_D (su : Setup D L S M) {x y : Nat} {Z : List Nat}
    (hx : x ∈ M.nodes) (hy : y ∈ M.nodes) (hZ : ∀ z ∈ Z, z ∈ M.nodes ∧ z ≠ x ∧ z ≠ y)
    (h : ¬ MSep D [x] [y] (Z ++ S)) : ¬ MSep M [x] [y] Z := by
  obtain ⟨hs, hv, hend, ho, hall⟩ := (not_mSep_D_iff su hx hy hZ).mp h
  refine (not_mSep_M_iff su hZ).mpr ?_
  have hxo := obs_of_mem su.hs hx
  have hyo := obs_of_mem su.hs hy
  have hxA : AntSet M [x] [y] Z x :=
    ⟨x, List.mem_append_left _ (List.mem_append_left _ List.mem_cons_self), Ant.refl x⟩
  cases hs with
  | nil =>
    exact ⟨[], trivial, hend, trivial, fun w hw => by rw [List.eq_of_mem_singleton hw]; exact hxA⟩
  | cons hop t =>
    -- the targets of the chain are x, y and Z
    have hT : ∀ t ∈ [x] ++ [y] ++ Z, Obs D L S t := by
      intro t ht
      rcases List.mem_append.mp ht with ht | ht
      · rcases List.mem_cons.mp ht with rfl | ht
        · exact hxo
        · rw [List.eq_of_mem_singleton ht]; exact hyo
      · exact obs_of_mem su.hs (hZ t ht).1
    have hnodes := nodesOf_mem_nodes su.wf hxo.1 hv
    have hall' : ∀ w ∈ nodesOf hop.nx t,
        w ∈ D.nodes ∧ (AnS D S w ∨ ∃ t ∈ [x] ++ [y] ++ Z, Anc D w t) := by
      intro w hw
      have hmem : w ∈ nodesOf x (hop :: t) := List.mem_cons_of_mem _ hw
      refine ⟨hnodes w hmem, ?_⟩
      obtain ⟨tt, htt, hant⟩ := hall w hmem
      have hanc := T5.anc_of_ant su.un hant
      rw [← List.append_assoc] at htt
      exact (List.mem_append.mp htt).symm.imp (fun h => ⟨tt, h, hanc⟩) fun h => ⟨tt, h, hanc⟩
    have hyG : Good D L S Z ([x] ++ [y] ++ Z) y false :=
      ⟨hyo, Or.inr ⟨y, List.mem_append_left _ (List.mem_append_right _ List.mem_cons_self),
        Anc.refl y⟩, (fun h => nomatch h), fun _ hz => (hZ y hz).2.2 rfl⟩
    obtain ⟨o, co, π, l, pv, pe, po, pex, pgood, pchain, pend, plast⟩ :=
      walk_to_chain su hT hyG t hop.nx hop.mn hv.2 ho.2 hall' hend
    have hchain : ChainOK D L S Z ([x] ++ [y] ++ Z) x false ((o, co) :: l) :=
      ⟨lk_of_pending hv.1 pv pe po pex (fun h => nomatch h), pgood, pchain⟩
    obtain ⟨l', hc', hi', he', hf'⟩ := reduce_all _ _ (Nat.le_refl _) hchain
    obtain ⟨mv, mo, me⟩ := conv su l' x false none hxo hc' hi' (hf'.trans plast)
      (fun h => nomatch h) (fun _ => Or.inr rfl)
    exact ⟨mkW D S x l', mv, me.trans (he'.trans pend), mo, mkW_inAnt su hT l' x false hxA hc' mv⟩

end T5b
