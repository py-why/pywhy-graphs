import Pw.T5b.FromD
import Pw.C07.DecProofs
open Closure MG

/-! # T5b (Richardson–Spirtes 2002, Thm 4.18, for ADMGs without undirected edges): statements

`D` is an acyclic directed mixed graph (directed and bidirected edges), `L` latent and `S` selection nodes,
`M` any graph with `C06.MagStructure D L S M` (adjacent iff an inducing path exists, marks by ancestry) –
in particular the result of the model `C06.dagToMag`.  Then for observed x, y and a list Z of observed
nodes other than x, y:   `MSep M [x] [y] Z ↔ MSep D [x] [y] (Z ++ S)`. -/
namespace T5b
open C06

variable {D M : MG} {L S : List Nat}

/-- the MAG of an acyclic `D` is a well-formed ancestral graph without self loops, so the
    C01 / T2 theorems apply to it. -/
theorem mag_ancestral (hs : MagStructure D L S M) (hacy : Acyclic D) :
    NoUndirAtHead M ∧ NoSelfLoop M ∧ M.WF :=
  ⟨mag_noUndirAtHead hs hacy, mag_noSelfLoop hs, mag_wf hs⟩

/-- Thm 4.18, "⇐" half -/
theorem msep_mag_of_dsep (su : Setup D L S M) {x y : Nat} {Z : List Nat}
    (hx : x ∈ M.nodes) (hy : y ∈ M.nodes) (hZ : ∀ z ∈ Z, z ∈ M.nodes ∧ z ≠ x ∧ z ≠ y)
    (h : MSep D [x] [y] (Z ++ S)) : MSep M [x] [y] Z :=
  Classical.byContradiction fun hn => not_msep_D_of_not_msep_M su hx hy hZ hn h

/-- Thm 4.18, "⇒" half -/
theorem dsep_of_msep_mag (su : Setup D L S M) {x y : Nat} {Z : List Nat}
    (hx : x ∈ M.nodes) (hy : y ∈ M.nodes) (hZ : ∀ z ∈ Z, z ∈ M.nodes ∧ z ≠ x ∧ z ≠ y)
    (h : MSep M [x] [y] Z) : MSep D [x] [y] (Z ++ S) :=
  Classical.byContradiction fun hn => not_msep_M_of_not_msep_D su hx hy hZ hn h

/-- **T5b (Richardson–Spirtes Thm 4.18).** The MAG represents exactly the m-separations of `D` among the
    observed nodes after marginalising `L` and conditioning on `S`. -/
theorem msep_mag_iff (su : Setup D L S M) {x y : Nat} {Z : List Nat}
    (hx : x ∈ M.nodes) (hy : y ∈ M.nodes) (hZ : ∀ z ∈ Z, z ∈ M.nodes ∧ z ≠ x ∧ z ≠ y) :
    MSep M [x] [y] Z ↔ MSep D [x] [y] (Z ++ S) :=
  ⟨dsep_of_msep_mag su hx hy hZ, msep_mag_of_dsep su hx hy hZ⟩

/-- **T5b for the model of `dag_to_mag`.** -/
theorem msep_dagToMag_iff (hwf : D.WF) (hun : D.un = []) (hcirc : D.circ = []) (hacy : Acyclic D)
    (hsl : NoSelfLoop D) (hSn : ∀ s ∈ S, s ∈ D.nodes) (hLS : ∀ v, v ∈ L → v ∉ S)
    (hM : dagToMag D L S = .ok M) {x y : Nat} {Z : List Nat} (hx : x ∈ M.nodes) (hy : y ∈ M.nodes)
    (hZ : ∀ z ∈ Z, z ∈ M.nodes ∧ z ≠ x ∧ z ≠ y) :
    MSep M [x] [y] Z ↔ MSep D [x] [y] (Z ++ S) :=
  msep_mag_iff ⟨dagToMag_structure hwf hun hcirc (no2_of_acyclic hacy) hM, hwf, hun, hacy, hsl, hSn,
    hLS⟩ hx hy hZ

/-- with the two ancestral-graph facts, the model-level decision procedure agrees as well -/
theorem mSeparated_dagToMag (su : Setup D L S M) {x y : Nat} {Z : List Nat}
    (hx : x ∈ M.nodes) (hy : y ∈ M.nodes) (hZ : ∀ z ∈ Z, z ∈ M.nodes ∧ z ≠ x ∧ z ≠ y) :
    mSeparated M [x] [y] Z = mSeparated D [x] [y] (Z ++ S) := by
  have hD := su.side hx hy hZ
  have e1 := mSeparated_pair_iff (mag_wf su.hs) (mag_noUndirAtHead su.hs su.acy)
    (mag_noSelfLoop su.hs) (y := y) hx (fun z hz => (hZ z hz).1) (fun h => (hZ x h).2.1 rfl)
  have e2 := mSeparated_pair_iff su.wf (noUndirAtHead_of_un_nil D su.un) su.sl (y := y)
    (obs_of_mem su.hs hx).1 hD.1 hD.2.1
  exact Bool.eq_iff_iff.mpr (e1.trans ((msep_mag_iff su hx hy hZ).trans e2.symm))

/-- the DAG `0 <- 1 -> 2 <- 3, 2 -> 4` with latent 1 and selection node 4 satisfies `Setup` -/
theorem exG_setup : ∃ M, dagToMag exG [1] [4] = .ok M ∧ Setup exG [1] [4] M := by
  obtain ⟨M, hM⟩ := dagToMag_ok (G := exG) (L := [1]) (S := [4]) rfl rfl
  exact ⟨M, hM, dagToMag_structure exG_dom.wf rfl rfl exG_dom.no2 hM, exG_dom.wf, rfl, exG_acyclic,
    exG_noSelfLoop, by decide, by decide⟩

/-- an instance of the theorem on that DAG -/
example : ∃ M, dagToMag exG [1] [4] = .ok M ∧
    (MSep M [0] [3] [2] ↔ MSep exG [0] [3] ([2] ++ [4])) := by
  obtain ⟨M, hM, su⟩ := exG_setup
  have hn : ∀ v ∈ [0, 2, 3], v ∈ M.nodes := fun v hv => (su.hs.nodes v).mpr
    ((by decide : ∀ v ∈ [0, 2, 3], v ∈ exG.nodes ∧ v ∉ [1] ∧ v ∉ [4]) v hv)
  refine ⟨M, hM, msep_mag_iff su (hn 0 (by decide)) (hn 3 (by decide)) fun z hz => ?_⟩
  rw [List.eq_of_mem_singleton hz]
  exact ⟨hn 2 (by decide), by decide, by decide⟩

end T5b
