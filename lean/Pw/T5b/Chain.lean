import Pw.T5b.Descend
open Closure MG

/-! # T5b, part 3c: a semi-open D-walk is cut into a chain of links between observed anchors

Anchors are (i) observed non-colliders of the walk (flag `false`; they are outside Z), (ii) observed
colliders that are not ancestors of S, and (iii) for every latent collider that is not an ancestor of S
the first observed node below it (flag `true`: both adjacent links end with an arrowhead of `D`). -/
namespace T5b
open C06

variable {D M : MG} {L S : List Nat}

/-- what a chain asks of an anchor `o` with collider flag `co`: it is observed; it is an ancestor of `S` or of a
    target in `T`; as a collider it is no ancestor of `S`, as a non-collider it is outside `Z` -/
structure Good (D : MG) (L S Z T : List Nat) (o : Nat) (co : Bool) : Prop where
  obs : Obs D L S o
  tgt : AnS D S o ∨ ∃ t ∈ T, Anc D o t
  col : co = true → ¬ AnS D S o
  free : co = false → o ∉ Z

def ChainOK (D : MG) (L S Z T : List Nat) : Nat → Bool → List (Nat × Bool) → Prop
  | _, _, [] => True
  | u, cu, (v, cv) :: rest => Lk D L S u v cu cv ∧ Good D L S Z T v cv ∧ ChainOK D L S Z T v cv rest

def endOf : Nat → List (Nat × Bool) → Nat
  | u, [] => u
  | _, (v, _) :: rest => endOf v rest

def lastFlag : Bool → List (Nat × Bool) → Bool
  | c, [] => c
  | _, (_, cv) :: rest => lastFlag cv rest

/-- an anchor, one hop and a pending walk form a link -/
theorem lk_of_pending {v o : Nat} {h : Hop} {π : List Hop} {cv co : Bool}
    (hv1 : HasEdge D v h.nx h.mp h.mn) (pv : ValidW D h.nx π) (pe : endNode h.nx π = o)
    (po : OpenP (AnS D S) (NL D L) (some h.mn) h.nx π)
    (hex : co = true → exitMark (some h.mn) π = some .head) (hcv : cv = true → h.mp = .head) :
    Lk D L S v o cv co := by
  refine ⟨h :: π, List.cons_ne_nil _ _, ⟨⟨hv1, pv⟩, pe, trivial,
    OpenP.mono (fun w hw => ancOf_iff.mpr (Or.inr (Or.inr hw))) π _ _ po⟩, fun hc p hp => ?_,
    fun hc => (exitMark_cons _ _ _).trans (hex hc)⟩
  obtain rfl := Option.some.inj hp
  exact hcv hc

/-- from the first observed node below a latent node `v`, the walk back up to `v` prolongs a link
    that starts at `v` -/
theorem lk_of_detour {v o : Nat} {δ : List Hop} {co : Bool} (dv : ValidW D v δ) (dd : DownW δ)
    (dl : SrcL L v δ) (hne : δ ≠ []) (hvL : v ∈ L) (h : Lk D L S v o false co) :
    Lk D L S (endNode v δ) o true co :=
  lk_merge (cv := false)
    ⟨revHops v δ, revHops_ne_nil δ v hne,
      ⟨validW_revHops δ v dv, endNode_revHops δ v, openP_up δ v dd dl⟩,
      fun _ p hp => rev_down_head δ v dd p (List.mem_of_mem_head? hp), fun h => nomatch h⟩
    h (Or.inl (anc_of_down δ v dv dd)) (Or.inr hvL)

/-- a node of the D-walk stays inside the pending inducing walk, or becomes an anchor with flag
    `cv`, or is a latent collider outside An(S) from which one descends -/
theorem node_cases {Z : List Nat} {v : Nat} {m mo : Mark} (hvn : v ∈ D.nodes)
    (ho : condP Tr (Z ++ S) m mo v) :
    condP (AnS D S) (NL D L) m mo v ∨
      (Obs D L S v ∧ ∃ cv : Bool, (cv = true → (m = .head ∧ mo = .head) ∧ ¬ AnS D S v) ∧
        (cv = false → v ∉ Z)) ∨
      (v ∈ L ∧ ¬ AnS D S v ∧ m = .head ∧ mo = .head) := by
  by_cases hcol : m = .head ∧ mo = .head
  · rw [condP_collider hcol]
    by_cases hS : AnS D S v
    · exact Or.inl hS
    · by_cases hobs : Obs D L S v
      · exact Or.inr (Or.inl ⟨hobs, true, fun _ => ⟨hcol, hS⟩, fun h => nomatch h⟩)
      · exact Or.inr (Or.inr ⟨mem_L_of_not_obs hvn (not_mem_S_of_not_anS hS) hobs, hS, hcol⟩)
  · rw [condP_nonCollider hcol] at ho ⊢
    by_cases hobs : Obs D L S v
    · exact Or.inr (Or.inl ⟨hobs, false, (fun h => nomatch h),
        fun _ hz => ho (List.mem_append_left _ hz)⟩)
    · exact Or.inl (not_mem_NL
        (mem_L_of_not_obs hvn (fun hz => ho (List.mem_append_right _ hz)) hobs))

theorem walk_to_chain (su : Setup D L S M) {Z T : List Nat} (hT : ∀ t ∈ T, Obs D L S t) {y : Nat}
    (hy : Good D L S Z T y false) :
    ∀ (hs : List Hop) (v : Nat) (m : Mark), ValidW D v hs → OpenP Tr (Z ++ S) (some m) v hs →
      (∀ w ∈ nodesOf v hs, w ∈ D.nodes ∧ (AnS D S w ∨ ∃ t ∈ T, Anc D w t)) → endNode v hs = y →
      ∃ o co π l, ValidW D v π ∧ endNode v π = o ∧ OpenP (AnS D S) (NL D L) (some m) v π ∧
        (co = true → exitMark (some m) π = some .head) ∧ Good D L S Z T o co ∧
        ChainOK D L S Z T o co l ∧ endOf o l = y ∧ lastFlag co l = false := by
  intro hs
  induction hs with
  | nil =>
    intro v m _ _ _ hend
    rw [show v = y from hend]
    exact ⟨y, false, [], [], trivial, rfl, trivial, (fun h => nomatch h), hy, trivial, rfl, rfl⟩
  | cons h t ih =>
    intro v m hv ho hall hend
    obtain ⟨o, co, π, l, pv, pe, po, pex, pgood, pchain, pend, plast⟩ :=
      ih h.nx h.mn hv.2 ho.2 (fun w hw => hall w (List.mem_cons_of_mem _ hw)) hend
    obtain ⟨hvn, hvtgt⟩ := hall v List.mem_cons_self
    rcases node_cases hvn ho.1 with hc | ⟨hobs, cv, hcv1, hcv0⟩ | ⟨hvL, hS, hcol⟩
    · exact ⟨o, co, h :: π, l, ⟨hv.1, pv⟩, pe, ⟨hc, po⟩,
        fun hc' => (exitMark_cons _ _ _).trans (pex hc'), pgood, pchain, pend, plast⟩
    · exact ⟨v, cv, [], (o, co) :: l, trivial, rfl, trivial, fun hc => congrArg some (hcv1 hc).1.1,
        ⟨hobs, hvtgt, fun hc => (hcv1 hc).2, hcv0⟩,
        ⟨lk_of_pending hv.1 pv pe po pex fun hc => (hcv1 hc).1.2, pgood, pchain⟩, pend, plast⟩
    · rcases hvtgt with hvt | ⟨tt, htt, hanc⟩
      · exact absurd hvt hS
      · obtain ⟨δ, o', dv, rfl, dd, dl, ho', hot, _⟩ := descend su hanc (hT tt htt) hS
        have hne : δ ≠ [] := by
          rintro rfl
          exact ho'.2.1 hvL
        exact ⟨endNode v δ, true, δ, (o, co) :: l, dv, rfl, openP_down δ v _ dd dl,
          fun _ => exitMark_down δ _ dd hne,
          ⟨ho', Or.inr ⟨tt, htt, hot⟩, fun _ => not_anS_of_anc (anc_of_down δ v dv dd) hS,
            fun h => nomatch h⟩,
          ⟨lk_of_detour dv dd dl hne hvL (lk_of_pending hv.1 pv pe po pex fun h => nomatch h), pgood,
            pchain⟩, pend, plast⟩

end T5b
