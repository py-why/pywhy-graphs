import Pw.C06.Full
open Closure MG

/-! # T5b (Richardson–Spirtes Thm 4.18 for ADMGs), part 1: the MAG of a DAG is an ancestral graph

`M` is any graph with `C06.MagStructure D L S M`.  Marks of `M` are read off ancestry in `D`:
tail at `b` on the edge between `a` and `b` iff `b` is a strict ancestor of `S ∪ {a}`.
Under the standing hypotheses `Setup` T2 therefore applies to `M` as well as to `D`: m-connection in
either graph is a semi-open walk inside an anterior set (`not_mSep_M_iff`, `not_mSep_D_iff`). -/
namespace T5b
open C06

variable {D M : MG} {L S : List Nat}

/-- every M-edge, decoded: adjacency data plus the meaning of both marks -/
structure EdgeInfo (D : MG) (L S : List Nat) (a b : Nat) (ma mb : Mark) : Prop where
  ha : a ∈ D.nodes
  hb : b ∈ D.nodes
  hab : a ≠ b
  ind : HasInducingPath D L S a b ∨ HasInducingPath D L S b a
  haL : a ∉ L
  haS : a ∉ S
  hbL : b ∉ L
  hbS : b ∉ S
  ma_tail : ma = .tail ↔ TailAt D S b a
  mb_tail : mb = .tail ↔ TailAt D S a b

theorem EdgeInfo.of_adjSpec {a b : Nat} {ma mb : Mark} (h : AdjSpec D L S a b)
    (t1 : ma = .tail ↔ TailAt D S b a) (t2 : mb = .tail ↔ TailAt D S a b) :
    EdgeInfo D L S a b ma mb := by
  obtain ⟨h1, h2, h3, h4, h5, h6, h7, h8⟩ := h
  exact ⟨h1, h2, h3, h4, h5, h6, h7, h8, t1, t2⟩

theorem edgeInfo_of_hasEdge (hs : MagStructure D L S M) {a b : Nat} {ma mb : Mark}
    (he : HasEdge M a b ma mb) : EdgeInfo D L S a b ma mb := by
  have hne : Mark.head ≠ Mark.tail := fun h => nomatch h
  rcases he with ⟨rfl, rfl, h⟩ | ⟨rfl, rfl, h⟩ | ⟨rfl, rfl, h⟩ | ⟨rfl, rfl, h⟩
  · obtain ⟨hadj, t1, t2⟩ := and_adjSpec.mp ((hs.dir a b).mp h)
    exact .of_adjSpec hadj (iff_of_true rfl t1) (iff_of_false hne t2)
  · obtain ⟨hadj, t1, t2⟩ := and_adjSpec.mp ((hs.dir b a).mp h)
    exact .of_adjSpec hadj.symm (iff_of_false hne t2) (iff_of_true rfl t1)
  · obtain ⟨hadj, t1, t2⟩ := and_adjSpec.mp ((hs.bi a b).mp h)
    exact .of_adjSpec hadj (iff_of_false hne t1) (iff_of_false hne t2)
  · obtain ⟨hadj, t1, t2⟩ := and_adjSpec.mp ((hs.un a b).mp h)
    exact .of_adjSpec hadj (iff_of_true rfl t1) (iff_of_true rfl t2)

theorem hasEdge_of_info (hs : MagStructure D L S M) {a b : Nat} {ma mb : Mark}
    (h : EdgeInfo D L S a b ma mb) : HasEdge M a b ma mb := by
  have hadj : AdjSpec D L S a b := ⟨h.ha, h.hb, h.hab, h.ind, h.haL, h.haS, h.hbL, h.hbS⟩
  have hne : Mark.head ≠ Mark.tail := fun h => nomatch h
  cases ma <;> cases mb
  · exact Or.inr (Or.inr (Or.inr ⟨rfl, rfl,
      (hs.un a b).mpr (and_adjSpec.mpr ⟨hadj, h.ma_tail.mp rfl, h.mb_tail.mp rfl⟩)⟩))
  · exact Or.inl ⟨rfl, rfl, (hs.dir a b).mpr
      (and_adjSpec.mpr ⟨hadj, h.ma_tail.mp rfl, fun ht => hne (h.mb_tail.mpr ht)⟩)⟩
  · exact Or.inr (Or.inl ⟨rfl, rfl, (hs.dir b a).mpr
      (and_adjSpec.mpr ⟨hadj.symm, h.mb_tail.mp rfl, fun ht => hne (h.ma_tail.mpr ht)⟩)⟩)
  · exact Or.inr (Or.inr (Or.inl ⟨rfl, rfl, (hs.bi a b).mpr
      (and_adjSpec.mpr ⟨hadj, fun ht => hne (h.ma_tail.mpr ht), fun ht => hne (h.mb_tail.mpr ht)⟩)⟩))

/-- a tail at `b` on the edge between `a` and `b`: `b` is a strict ancestor of S or of `a` -/
theorem tailAt_cases {a b : Nat} (h : TailAt D S a b) : SAncOfSet D S b ∨ C07.SAnc D b a := by
  obtain ⟨t, ht, c, hc, hct⟩ := h
  rcases List.mem_append.mp ht with ht | ht
  · exact Or.inl ⟨t, ht, c, hc, hct⟩
  · rw [List.eq_of_mem_singleton ht] at hct
    exact Or.inr ⟨c, hc, hct⟩

theorem tailAt_of_sAncS {a b : Nat} (h : SAncOfSet D S b) : TailAt D S a b := by
  obtain ⟨t, ht, c, hc, hct⟩ := h
  exact ⟨t, List.mem_append_left _ ht, c, hc, hct⟩

/-- both ends of an undirected M-edge are strict ancestors of S -/
theorem sAncS_of_two_tails (hacy : Acyclic D) {a b : Nat} (h1 : TailAt D S b a) (h2 : TailAt D S a b) :
    SAncOfSet D S a := by
  rcases tailAt_cases h1 with h | ⟨c, hc, hcb⟩
  · exact h
  · rcases tailAt_cases h2 with ⟨t, ht, c', hc', hct⟩ | ⟨c', hc', hca⟩
    · exact ⟨t, ht, c, hc, hcb.trans (Anc.step hc' hct)⟩
    · exact absurd (hcb.trans (Anc.step hc' hca)) (hacy _ _ hc)

theorem mag_wf (hs : MagStructure D L S M) : M.WF := by
  have key : ∀ {a b : Nat} {ma mb : Mark}, HasEdge M a b ma mb → a ∈ M.nodes ∧ b ∈ M.nodes :=
    fun he =>
      have i := edgeInfo_of_hasEdge hs he
      ⟨(hs.nodes _).mpr ⟨i.ha, i.haL, i.haS⟩, (hs.nodes _).mpr ⟨i.hb, i.hbL, i.hbS⟩⟩
  exact ⟨fun _ he => key (Or.inl ⟨rfl, rfl, he⟩),
    fun _ he => key (Or.inr (Or.inr (Or.inl ⟨rfl, rfl, Or.inl he⟩))),
    fun _ he => key (Or.inr (Or.inr (Or.inr ⟨rfl, rfl, Or.inl he⟩)))⟩

theorem mag_noSelfLoop (hs : MagStructure D L S M) : NoSelfLoop M := by
  intro a ma mb he
  exact (edgeInfo_of_hasEdge hs he).hab rfl

theorem mag_noUndirAtHead (hs : MagStructure D L S M) (hacy : Acyclic D) : NoUndirAtHead M := by
  intro a p mp hp c hc
  have i1 := edgeInfo_of_hasEdge hs hp
  have i2 := edgeInfo_of_hasEdge hs hc
  have hS : SAncOfSet D S a := sAncS_of_two_tails hacy (i2.ma_tail.mp rfl) (i2.mb_tail.mp rfl)
  have := i1.mb_tail.mpr (tailAt_of_sAncS hS)
  cases this

/-- standing hypotheses on the DAG / ADMG `D` and its MAG `M` -/
structure Setup (D : MG) (L S : List Nat) (M : MG) : Prop where
  hs : MagStructure D L S M
  wf : D.WF
  un : D.un = []
  acy : Acyclic D
  sl : NoSelfLoop D
  hSn : ∀ s ∈ S, s ∈ D.nodes
  hLS : ∀ v, v ∈ L → v ∉ S

/-- T2 for single nodes, read on walks: `x` and `y` are m-connected given `Z` iff a walk joins them that
    stays inside the anterior set of `{x, y} ∪ Z` and on which no non-collider is in `Z` -/
theorem not_mSep_iff_semiOpen {G : MG} (hwf : G.WF) (hb : NoUndirAtHead G) (hsl : NoSelfLoop G)
    {x y : Nat} {Z : List Nat} (hZ : ∀ z ∈ Z, z ∈ G.nodes) (hxZ : x ∉ Z) (hyZ : y ∉ Z) :
    ¬ MSep G [x] [y] Z ↔ ∃ hs, ValidW G x hs ∧ endNode x hs = y ∧ OpenP Tr Z none x hs ∧
      ∀ w ∈ nodesOf x hs, AntSet G [x] [y] Z w := by
  have hxA : AntSet G [x] [y] Z x := ⟨x, List.mem_append_left _ List.mem_cons_self, Ant.refl x⟩
  rw [mSep_pair_iff hwf hb hsl hZ hxZ hyZ, Classical.not_not]
  constructor
  · exact fun hh => semiOpen_of_hconn hh hxA
  · rintro ⟨hs, hv, hend, ho, hall⟩
    exact hconn_of_openP hv hend ho hall hyZ

theorem Setup.side (su : Setup D L S M) {x y : Nat} {Z : List Nat} (hx : x ∈ M.nodes) (hy : y ∈ M.nodes)
    (hZ : ∀ z ∈ Z, z ∈ M.nodes ∧ z ≠ x ∧ z ≠ y) :
    (∀ z ∈ Z ++ S, z ∈ D.nodes) ∧ x ∉ Z ++ S ∧ y ∉ Z ++ S :=
  ⟨fun z hz => (List.mem_append.mp hz).elim (fun h => ((su.hs.nodes z).mp (hZ z h).1).1) (su.hSn z),
    fun hz => (List.mem_append.mp hz).elim (fun h => (hZ x h).2.1 rfl) ((su.hs.nodes x).mp hx).2.2,
    fun hz => (List.mem_append.mp hz).elim (fun h => (hZ y h).2.2 rfl) ((su.hs.nodes y).mp hy).2.2⟩

theorem not_mSep_M_iff (su : Setup D L S M) {x y : Nat} {Z : List Nat}
    (hZ : ∀ z ∈ Z, z ∈ M.nodes ∧ z ≠ x ∧ z ≠ y) :
    ¬ MSep M [x] [y] Z ↔ ∃ hs, ValidW M x hs ∧ endNode x hs = y ∧ OpenP Tr Z none x hs ∧
      ∀ w ∈ nodesOf x hs, AntSet M [x] [y] Z w :=
  not_mSep_iff_semiOpen (mag_wf su.hs) (mag_noUndirAtHead su.hs su.acy) (mag_noSelfLoop su.hs)
    (fun z hz => (hZ z hz).1) (fun h => (hZ x h).2.1 rfl) (fun h => (hZ y h).2.2 rfl)

theorem not_mSep_D_iff (su : Setup D L S M) {x y : Nat} {Z : List Nat} (hx : x ∈ M.nodes)
    (hy : y ∈ M.nodes) (hZ : ∀ z ∈ Z, z ∈ M.nodes ∧ z ≠ x ∧ z ≠ y) :
    ¬ MSep D [x] [y] (Z ++ S) ↔ ∃ hs, ValidW D x hs ∧ endNode x hs = y ∧
      OpenP Tr (Z ++ S) none x hs ∧ ∀ w ∈ nodesOf x hs, AntSet D [x] [y] (Z ++ S) w :=
  not_mSep_iff_semiOpen su.wf (noUndirAtHead_of_un_nil D su.un) su.sl (su.side hx hy hZ).1
    (su.side hx hy hZ).2.1 (su.side hx hy hZ).2.2

end T5b
