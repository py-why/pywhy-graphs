import Pw.C07.Spec
import Pw.T2.Main
open Closure MG

/-! # T5a (Verma–Pearl / Richardson–Spirtes Thm 4.2), derived from T2

In an ADMG, relative to latent `L` and selection `S`: there is an inducing path between x and y iff
no set Z of other observed nodes m-separates x and y given Z ∪ S. -/
namespace T5
open C06

variable {G : MG}

theorem anc_of_ant (hun : G.un = []) {a c : Nat} (h : Ant G a c) : Anc G a c := by
  induction h with
  | refl => exact Anc.refl _
  | @step a b c mb he _ ih =>
    cases hasEdge_tail_of_un_nil hun he
    exact Anc.step he.dir_of_tail_head ih

theorem openP_iff_openG {C : Nat → Prop} {Z : List Nat} : ∀ (hs : List Hop) (e : Option Mark) (a : Nat),
    OpenP C Z e a hs ↔
      OpenG (fun e a h => condPO C Z e (some h.mp) a) (fun _ h => some h.mn) e a hs := by
  intro hs
  induction hs with
  | nil => exact fun _ _ => Iff.rfl
  | cons _ t ih => exact fun _ _ => and_congr Iff.rfl (ih _ _)

theorem spliceP {C : Nat → Prop} {Z : List Nat} {a : Nat} (hCa : C a) :
    Splice (fun e a h => condPO C Z e (some h.mp) a) (fun _ h => some h.mn) G a := by
  intro e h s hop h2 _ _ _ _ c1 _ c2
  cases e with
  | none => trivial
  | some m0 =>
    refine condP_intro (fun _ => hCa) fun hcol => ?_
    cases m0 with
    | tail => exact (condP_nonCollider (mi := .tail) (mo := h.mp) (fun hx => nomatch hx.1)).mp c1
    | head =>
      have hm2 : ¬ h2.mp = .head := fun hx => hcol ⟨rfl, hx⟩
      exact (condP_nonCollider (mi := hop.mn) (mo := h2.mp) (fun hx => hm2 hx.2)).mp c2

theorem openP_walk_to_path {C : Nat → Prop} {Z : List Nat} (hsl : NoSelfLoop G) :
    ∀ (hs : List Hop) (e : Option Mark) (a : Nat), ValidW G a hs → OpenP C Z e a hs →
      (∀ v ∈ nodesOf a hs, C v) →
      ∃ ps, ValidW G a ps ∧ OpenP C Z e a ps ∧ endNode a ps = endNode a hs ∧ (nodesOf a ps).Nodup ∧
        (∀ v ∈ nodesOf a ps, C v) := by
  intro hs e a hv ho hC
  obtain ⟨ps, pv, po, pe, pn, psub⟩ := cutLoops _ _ hsl hs e a hv ((openP_iff_openG _ _ _).mp ho)
    (fun v hv => spliceP (hC v hv))
  exact ⟨ps, pv, (openP_iff_openG _ _ _).mpr po, pe, pn, fun v hv => hC v (psub.subset hv)⟩

theorem sepSet_ok {Z S : List Nat} {x y : Nat} {P : Nat → Prop}
    (hZ : ∀ z ∈ Z, z ∈ G.nodes ∧ P z ∧ z ∉ S ∧ z ≠ x ∧ z ≠ y) (hSn : ∀ s ∈ S, s ∈ G.nodes)
    (hxS : x ∉ S) (hyS : y ∉ S) : (∀ z ∈ Z ++ S, z ∈ G.nodes) ∧ x ∉ Z ++ S ∧ y ∉ Z ++ S :=
  ⟨fun z hz => (List.mem_append.mp hz).elim (fun h => (hZ z h).1) (hSn z),
    fun hz => (List.mem_append.mp hz).elim (fun h => (hZ x h).2.2.2.1 rfl) hxS,
    fun hz => (List.mem_append.mp hz).elim (fun h => (hZ y h).2.2.2.2 rfl) hyS⟩

theorem antSet_fst {x y : Nat} {Z : List Nat} : AntSet G [x] [y] Z x :=
  ⟨x, List.mem_append_left _ (List.mem_append_left _ List.mem_cons_self), Ant.refl x⟩

theorem antSet_snd {x y : Nat} {Z : List Nat} : AntSet G [x] [y] Z y :=
  ⟨y, List.mem_append_left _ (List.mem_append_right _ List.mem_cons_self), Ant.refl y⟩

theorem openP_of_innerOK {L S Zs : List Nat} {x y : Nat} (hL : ∀ v, v ∈ L → v ∉ Zs) :
    ∀ (hs : List Hop) (e : Option Mark) (a : Nat), InnerOK G L S x y e a hs →
      OpenP (AncOf G x y S) Zs e a hs := by
  intro hs
  induction hs with
  | nil => exact fun _ _ _ => trivial
  | cons h t ih =>
    intro e a hi
    cases e with
    | none => exact ⟨trivial, ih _ _ hi⟩
    | some m =>
      obtain ⟨⟨h1, h2⟩, hi2⟩ := hi
      exact ⟨condP_intro h2 fun hcol => h1.elim (hL a) fun h => absurd h hcol, ih _ _ hi2⟩

theorem ancOf_inAnt {S Z : List Nat} {x y v : Nat} (h : AncOf G x y S v) :
    InAnt G ([x] ++ [y] ++ (Z ++ S)) v := by
  obtain ⟨t, ht, ha⟩ := h
  refine ⟨t, ?_, Ant.of_anc ha⟩
  simp only [List.mem_cons] at ht
  simp only [List.mem_append, List.mem_cons, List.mem_nil_iff, or_false]
  rcases ht with rfl | rfl | ht
  · exact Or.inl (Or.inl rfl)
  · exact Or.inl (Or.inr rfl)
  · exact Or.inr (Or.inr ht)

theorem not_sep_of_inducing (hwf : G.WF) (hun : G.un = []) (hsl : NoSelfLoop G)
    {L S : List Nat} {x y : Nat} (hyS : y ∉ S) (hxS : x ∉ S) (hSn : ∀ s ∈ S, s ∈ G.nodes)
    (hLS : ∀ v, v ∈ L → v ∉ S) (hp : HasInducingPath G L S x y) (Z : List Nat)
    (hZ : ∀ z ∈ Z, z ∈ G.nodes ∧ z ∉ L ∧ z ∉ S ∧ z ≠ x ∧ z ≠ y) :
    ¬ MSep G [x] [y] (Z ++ S) := by
  obtain ⟨hs, hv, hend, _, hin⟩ := hp
  obtain ⟨hZs, hxZ, hyZ⟩ := sepSet_ok hZ hSn hxS hyS
  have hLZ : ∀ v, v ∈ L → v ∉ Z ++ S := fun v hvL hz =>
    (List.mem_append.mp hz).elim (fun h => (hZ v h).2.1 hvL) (hLS v hvL)
  rw [mSep_pair_iff hwf (noUndirAtHead_of_un_nil G hun) hsl hZs hxZ hyZ, Classical.not_not]
  have hoP := openP_of_innerOK hLZ hs none x hin
  have hall := all_inAnt (noUndirAtHead_of_un_nil G hun) (fun v hv => ancOf_inAnt (Z := Z) hv) hs x hv
    hoP antSet_fst (by rw [hend]; exact antSet_snd)
  have hsemi : OpenP Tr (Z ++ S) none x hs := OpenP.mono (fun _ _ => trivial) hs none x hoP
  exact hconn_of_openP hv hend hsemi hall hyZ

/-- the canonical separator: observed ancestors of x, y, S other than x and y -/
def canonZ (G : MG) (L S : List Nat) (x y : Nat) : List Nat :=
  (G.anc (x :: y :: S)).filter fun v => decide (v ∉ L ∧ v ∉ S ∧ v ≠ x ∧ v ≠ y)

/-- nodes that may NOT be inner non-colliders of an inducing walk -/
def forbid (G : MG) (L S : List Nat) (x y : Nat) : List Nat :=
  (G.anc (x :: y :: S)).filter fun v => decide (v ∉ L ∧ v ≠ x ∧ v ≠ y)

theorem mem_canonZ {L S : List Nat} {x y v : Nat} :
    v ∈ canonZ G L S x y ↔ v ∈ G.anc (x :: y :: S) ∧ v ∉ L ∧ v ∉ S ∧ v ≠ x ∧ v ≠ y := by
  rw [canonZ, List.mem_filter, decide_eq_true_eq]

theorem mem_forbid {L S : List Nat} {x y v : Nat} :
    v ∈ forbid G L S x y ↔ v ∈ G.anc (x :: y :: S) ∧ v ∉ L ∧ v ≠ x ∧ v ≠ y := by
  rw [forbid, List.mem_filter, decide_eq_true_eq]

theorem canonZ_other {L S : List Nat} {x y : Nat} :
    ∀ z ∈ canonZ G L S x y, z ∈ G.nodes ∧ z ∉ L ∧ z ∉ S ∧ z ≠ x ∧ z ≠ y :=
  fun _ hz => ⟨closure_subset (mem_canonZ.mp hz).1, (mem_canonZ.mp hz).2⟩

theorem innerOK_of_openP_forbid {L S : List Nat} {x y : Nat} (hwf : G.WF)
    (hT : ∀ t ∈ x :: y :: S, t ∈ G.nodes) :
    ∀ (hs : List Hop) (m : Mark) (a : Nat), OpenP (AncOf G x y S) (forbid G L S x y) (some m) a hs →
      (nodesOf a hs).Nodup → x ∉ nodesOf a hs → endNode a hs = y →
      (∀ v ∈ nodesOf a hs, AncOf G x y S v) → InnerOK G L S x y (some m) a hs := by
  intro hs
  induction hs with
  | nil => exact fun _ _ _ _ _ _ _ => trivial
  | cons h t ih =>
    intro m a ⟨ho1, ho2⟩ hn hx hend hC
    rw [nodesOf_cons] at hn hx hC
    obtain ⟨hat, hnt⟩ := List.nodup_cons.mp hn
    have hax : a ≠ x := fun e => hx (e ▸ List.mem_cons_self)
    have hay : a ≠ y := by
      -- `y` ends the rest of the path, which does not come back to `a`
      intro e
      rw [e, ← hend] at hat
      exact hat (endNode_mem_nodesOf t h.nx)
    have hCa := hC a List.mem_cons_self
    refine ⟨⟨?_, fun _ => hCa⟩, ih h.mn h.nx ho2 hnt
      (fun hm => hx (List.mem_cons_of_mem _ hm)) hend fun v hv => hC v (List.mem_cons_of_mem _ hv)⟩
    by_cases hcol : m = .head ∧ h.mp = .head
    · exact Or.inr hcol
    · -- a non-collider is outside `forbid`, yet an ancestor of x, y or S other than x and y
      rw [condPO_some, condP_nonCollider hcol, mem_forbid] at ho1
      exact Or.inl (Classical.not_not.mp fun haL => ho1 ⟨(mem_anc hwf hT).mpr hCa, haL, hax, hay⟩)

theorem sep_of_no_inducing (hwf : G.WF) (hun : G.un = []) (hsl : NoSelfLoop G)
    {L S : List Nat} {x y : Nat} (hxy : x ≠ y) (hx : x ∈ G.nodes) (hy : y ∈ G.nodes)
    (hxS : x ∉ S) (hyS : y ∉ S) (hSn : ∀ s ∈ S, s ∈ G.nodes)
    (hno : ¬ HasInducingPath G L S x y) :
    MSep G [x] [y] (canonZ G L S x y ++ S) := by
  have hT : ∀ t ∈ x :: y :: S, t ∈ G.nodes :=
    List.forall_mem_cons.mpr ⟨hx, List.forall_mem_cons.mpr ⟨hy, hSn⟩⟩
  obtain ⟨hZs, hxZ, hyZ⟩ := sepSet_ok (canonZ_other (L := L)) hSn hxS hyS
  rw [mSep_pair_iff hwf (noUndirAtHead_of_un_nil G hun) hsl hZs hxZ hyZ]
  intro hh
  apply hno
  -- every anterior node is an ancestor of x, y or S
  have hA : ∀ v, AntSet G [x] [y] (canonZ G L S x y ++ S) v → AncOf G x y S v := by
    rintro v ⟨t, ht, ha⟩
    have hav := anc_of_ant hun ha
    simp only [List.mem_append, List.mem_singleton] at ht
    rcases ht with (rfl | rfl) | ht | ht
    · exact ⟨t, List.mem_cons_self, hav⟩
    · exact ⟨t, List.mem_cons_of_mem _ List.mem_cons_self, hav⟩
    · obtain ⟨t', ht', hat'⟩ := (mem_anc hwf hT).mp (mem_canonZ.mp ht).1
      exact ⟨t', ht', hav.trans hat'⟩
    · exact ⟨t, List.mem_cons_of_mem _ (List.mem_cons_of_mem _ ht), hav⟩
  obtain ⟨hs, hv, hend, ho, hall⟩ := semiOpen_of_hconn hh antSet_fst
  have hallC : ∀ v ∈ nodesOf x hs, AncOf G x y S v := fun v hv => hA v (hall v hv)
  -- the semi-open walk is open for (AncOf, forbid): a forbidden node is in the separator or in S
  have hoF : OpenP (AncOf G x y S) (forbid G L S x y) none x hs := by
    refine openP_imp hs none x (fun v hv => ⟨fun _ => hallC v hv, fun hvZ hf => hvZ ?_⟩) ho
    obtain ⟨h1, h2, h3⟩ := mem_forbid.mp hf
    by_cases hvS : v ∈ S
    · exact List.mem_append_right _ hvS
    · exact List.mem_append_left _ (mem_canonZ.mpr ⟨h1, h2, hvS, h3⟩)
  obtain ⟨ps, pv, po, pe, pn, pC⟩ := openP_walk_to_path hsl hs none x hv hoF hallC
  rw [hend] at pe
  refine ⟨ps, pv, pe, pn, ?_⟩
  cases ps with
  | nil => exact absurd pe hxy
  | cons h t =>
    rw [nodesOf_cons] at pn pC
    obtain ⟨hxt, hnt⟩ := List.nodup_cons.mp pn
    exact innerOK_of_openP_forbid hwf hT t h.mn h.nx po.2 hnt hxt pe fun v hv => pC v (List.mem_cons_of_mem _ hv)

end T5
