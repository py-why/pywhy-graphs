import Pw.T5.Inducing
open Closure MG

/-! # T5a: statements used by C06 (adjacency clause) and C07 (maximality) -/
namespace T5
open C06

variable {G : MG}

/-- **T5a.** In an ADMG, relative to latent `L` and selection `S` (disjoint), for distinct observed
    nodes x and y: an inducing path exists iff no set Z of other observed nodes m-separates x and y
    given Z ∪ S. -/
theorem inducing_iff_inseparable (hwf : G.WF) (hun : G.un = []) (hsl : NoSelfLoop G)
    {L S : List Nat} {x y : Nat} (hxy : x ≠ y) (hx : x ∈ G.nodes) (hy : y ∈ G.nodes)
    (hxS : x ∉ S) (hyS : y ∉ S) (hSn : ∀ s ∈ S, s ∈ G.nodes) (hLS : ∀ v, v ∈ L → v ∉ S) :
    HasInducingPath G L S x y ↔
      ∀ Z : List Nat, (∀ z ∈ Z, z ∈ G.nodes ∧ z ∉ L ∧ z ∉ S ∧ z ≠ x ∧ z ≠ y) →
        ¬ MSep G [x] [y] (Z ++ S) := by
  constructor
  · exact fun hp Z hZ => not_sep_of_inducing hwf hun hsl hyS hxS hSn hLS hp Z hZ
  · intro hall
    exact Classical.not_not.mp fun hp =>
      hall (canonZ G L S x y) canonZ_other (sep_of_no_inducing hwf hun hsl hxy hx hy hxS hyS hSn hp)

/-- **C07: maximality ⇔ no inducing path between non-adjacent nodes** (the hypothesis `C07.T5`,
    proved for every ADMG without self loops): T5a with `L = S = ∅`. -/
theorem c07_T5 (hwf : G.WF) (hun : G.un = []) (hsl : NoSelfLoop G) : C07.T5 G := by
  have key : ∀ a ∈ G.nodes, ∀ b ∈ G.nodes, a ≠ b →
      (HasInducingPath G [] [] a b ↔
        ¬ ∃ Z : List Nat, (∀ z ∈ Z, z ∈ G.nodes ∧ z ≠ a ∧ z ≠ b) ∧ MSep G [a] [b] Z) := by
    intro a ha b hb hab
    rw [inducing_iff_inseparable hwf hun hsl hab ha hb List.not_mem_nil List.not_mem_nil
      (fun _ h => absurd h List.not_mem_nil) (fun _ h => absurd h List.not_mem_nil)]
    simp only [List.append_nil, List.not_mem_nil, not_false_eq_true, true_and, not_exists, not_and]
  unfold C07.T5 C07.Maximal C07.NoInducingPathBetweenNonAdjacent
  constructor
  · intro hmax a ha b hb hab hnadj hp
    exact (key a ha b hb hab).mp hp (hmax a ha b hb hab hnadj)
  · intro hno a ha b hb hab hnadj
    exact Classical.not_not.mp fun h => hno a ha b hb hab hnadj ((key a ha b hb hab).mpr h)

end T5
