import Pw.C13.CpdagInv
import Pw.C13.OrientModel

/-! The model of `orient_uncertain_edge` (`Pw/C13/OrientModel.lean`) composes the public `remove_edge` /
`add_edge` of the C13 model in the order of the code; nothing is assumed about the intermediate state
(if the guarded `add_edge` raised, the undirected edge would stay removed – `orient_atomic` proves that
this does not happen in a state satisfying the invariant). -/
namespace C13

/-- calling convention (see `Op.CpdagSafe`); `orient_uncertain_edge` names two different nodes -/
def COp.Safe : COp → Prop
  | .op o => o.CpdagSafe
  | .orient u v => u ≠ v

theorem sortTime_ne {u v : TNode} (h : u ≠ v) : (sortTime u v).1 ≠ (sortTime u v).2 := by
  unfold sortTime
  split
  · exact fun hh => h hh.symm
  · exact h

theorem cinv_orient {s : St} (h : CInv s) (u v : TNode) (huv : u ≠ v) : CInv (orientCpdag s u v).1 := by
  unfold orientCpdag
  split
  · exact h
  · simp only
    have h1 := cinv_removeEdge h (.one 1) (sortTime u v).1 (sortTime u v).2
    split
    · exact h1
    · exact cinv_addEdge h1 0 _ _ (sortTime_ne huv)

theorem cinv_cstep {s : St} (h : CInv s) (op : COp) (hop : op.Safe) : CInv (cstep s op).1 := by
  cases op with
  | op o => exact cinv_step h o hop
  | orient u v => exact cinv_orient h u v hop

theorem cinv_crun : ∀ (ops : List COp) (s : St), CInv s → (∀ op ∈ ops, op.Safe) →
    ∀ r ∈ crun s ops, CInv r.1 := by
  intro ops
  induction ops with
  | nil => exact fun _ _ _ r hr => nomatch hr
  | cons op ops ih =>
    intro s h hops r hr
    have h1 := cinv_cstep h op (hops op (List.mem_cons_self ..))
    rcases List.mem_cons.1 hr with rfl | hr
    · exact h1
    · exact ih _ h1 (fun o ho => hops o (List.mem_cons_of_mem _ ho)) r hr

theorem hasUnd_facts {s : St} (h : CInv s) {a b : TNode} (hab : hasUnd (layerEdges s 1) a b = true) :
    a.2 ≤ 0 ∧ b.2 ≤ 0 ∧ lag a ≤ s.maxLag ∧ lag b ≤ s.maxLag ∧
      ((toNode a, toNode b) ∈ layerEdges s 1 ∨ (toNode b, toNode a) ∈ layerEdges s 1) := by
  have hEU : EndsIn s.nodes (layerEdges s 1) := h.layerInv.2.1
  have win : ∀ n ∈ s.nodes, n.2 ≤ s.maxLag := fun n hn => (h.1.1 _ _ hn).1
  simp only [hasUnd, hasDir, Bool.or_eq_true, Bool.and_eq_true, decide_eq_true_eq,
    List.contains_eq_mem] at hab
  rcases hab with ⟨⟨h1, h2⟩, h3⟩ | ⟨⟨h1, h2⟩, h3⟩
  · exact ⟨h1, h2, win _ (hEU _ h3).1, win _ (hEU _ h3).2, Or.inl h3⟩
  · exact ⟨h2, h1, win _ (hEU _ h3).2, win _ (hEU _ h3).1, Or.inr h3⟩

theorem hasUnd_sortTime {E : List Edge} {u v : TNode} (h : hasUnd E u v = true) :
    hasUnd E (sortTime u v).1 (sortTime u v).2 = true ∧ ¬ (sortTime u v).2.2 < (sortTime u v).1.2 := by
  unfold sortTime
  split
  · rename_i hlt
    refine ⟨?_, by simp only; omega⟩
    simp only [hasUnd] at h ⊢
    rw [Bool.or_comm]; exact h
  · exact ⟨h, ‹_›⟩

/-- what `orient_uncertain_edge` does in a state satisfying the invariant: it raises (and changes
nothing) iff there is no undirected edge between `u` and `v`; otherwise all homologous copies of the
undirected edge are removed and the directed edge earlier → later is added with all its copies -/
theorem orient_spec {s : St} (h : CInv s) (u v : TNode) :
    (hasUnd (layerEdges s 1) u v = false ∧ orientCpdag s u v = (s, true)) ∨
    (hasUnd (layerEdges s 1) u v = true ∧
      orientCpdag s u v = ({ s with layers :=
        [⟨.dir, union (layerEdges s 0)
            (copies .dir s.maxLag (toNode (sortTime u v).1, toNode (sortTime u v).2))⟩,
         ⟨.und, diff (layerEdges s 1)
            (copies .und s.maxLag (toNode (sortTime u v).1, toNode (sortTime u v).2))⟩] }, false)) := by
  cases hund : hasUnd (layerEdges s 1) u v with
  | false => exact Or.inl ⟨rfl, by simp [orientCpdag, hund]⟩
  | true =>
    refine Or.inr ⟨rfl, ?_⟩
    simp only [orientCpdag, hund, Bool.not_true, Bool.false_eq_true, if_false]
    -- the sorted pair (a, b): still joined by an undirected edge, a not later than b
    obtain ⟨hab, hle⟩ := hasUnd_sortTime hund
    generalize (sortTime u v).1 = a, (sortTime u v).2 = b at hab hle
    obtain ⟨ha0, hb0, hwa, hwb, hmem⟩ := hasUnd_facts h hab
    have hl := h.2.1.layers
    have hCU : Canon (layerEdges s 1) := h.layerInv.2.2.2.2 rfl
    have hva : valid s.maxLag a = true := valid_iff.mpr ⟨ha0, hwa⟩
    have hvb : valid s.maxLag b = true := valid_iff.mpr ⟨hb0, hwb⟩
    have hrem : removeEdge cfgCpdag s (.one 1) a b = ({ s with layers := [⟨.dir, layerEdges s 0⟩,
        ⟨.und, diff (layerEdges s 1) (copies .und s.maxLag (toNode a, toNode b))⟩] }, false) := by
      simp only [removeEdge, cfgCpdag, if_true, hva, hvb]
      rw [hl]
      rfl
    -- the stored form of the undirected edge is the canonical one, and it has been removed
    have hcanon : ∀ e : Edge, (e = (toNode a, toNode b) ∨ e = (toNode b, toNode a)) →
        e ∈ layerEdges s 1 → e ∈ copies .und s.maxLag (toNode a, toNode b) := by
      intro e he hin
      have hc : canonUnd (toNode a, toNode b) = e := by
        rcases he with rfl | rfl
        · exact hCU _ hin
        · exact (canonUnd_swap _).symm.trans (hCU _ hin)
      rw [← hc]
      refine self_mem_copies_und ?_
      rw [hc]
      exact (inWin_of h.1.1 h.layerInv.2.1 e hin).1
    have hg : guardBad cfgCpdag ({ s with layers := [⟨.dir, layerEdges s 0⟩,
        ⟨.und, diff (layerEdges s 1) (copies .und s.maxLag (toNode a, toNode b))⟩] } : St)
        (.one 0) a b = false := by
      refine (guardBad_cpdag_dir ha0 hb0).2 ⟨fun hh => ?_, fun hh => ?_, fun hh => ?_⟩
      · exact (mem_diff.1 hh).2 (hcanon _ (Or.inl rfl) (mem_diff.1 hh).1)
      · exact (mem_diff.1 hh).2 (hcanon _ (Or.inr rfl) (mem_diff.1 hh).1)
      · obtain ⟨_, h2, h3⟩ := h.2.2 _ _ hh
        exact hmem.elim h3 h2
    have hok : okEdge s.maxLag a b = true := okEdge_iff.mpr ⟨hva, hvb, hle⟩
    have hna : toNode a ∈ s.nodes ∧ toNode b ∈ s.nodes := by
      have hEU : EndsIn s.nodes (layerEdges s 1) := h.layerInv.2.1
      exact hmem.elim (fun hm => hEU _ hm) fun hm => ⟨(hEU _ hm).2, (hEU _ hm).1⟩
    have hadd := addEdgeMixed_present (cfg := cfgCpdag) hg (by simp [hasNode, ha0, hna.1])
      (by simp [hasNode, hb0, hna.2]) (by simp [selOk]) hok
    simp only [hrem, Bool.false_eq_true, if_false]
    rw [show addEdge cfgCpdag _ (.one 0) a b = addEdgeMixed cfgCpdag _ (.one 0) a b from rfl, hadd]
    rfl

/-- **atomic**: a raising `orient_uncertain_edge` leaves the graph exactly as it was -/
theorem orient_atomic {s : St} (h : CInv s) (u v : TNode) (hr : (orientCpdag s u v).2 = true) :
    (orientCpdag s u v).1 = s := by
  rcases orient_spec h u v with ⟨_, h2⟩ | ⟨_, h2⟩
  · rw [h2]
  · rw [h2] at hr; simp at hr

theorem cstep_rejected {s : St} (h : CInv s) (op : COp) (hr : (cstep s op).2 = true) :
    (cstep s op).1.layers = s.layers ∧ (cstep s op).1.maxLag = s.maxLag := by
  cases op with
  | op o => exact step_rejected cfgCpdag s o hr
  | orient u v =>
    have := orient_atomic h u v hr
    simp only [cstep] at this ⊢
    rw [this]; exact ⟨rfl, rfl⟩

/-- an addition rejected *by the mark guard* leaves the whole state (nodes included) as it was -/
theorem addEdge_guard_rejected (s : St) (sel : Sel) (u v : TNode)
    (hg : guardBad cfgCpdag s sel u v = true) : addEdge cfgCpdag s sel u v = (s, true) := by
  rw [show addEdge cfgCpdag s sel u v = addEdgeMixed cfgCpdag s sel u v from rfl]
  exact addEdgeMixed_guard hg

end C13
