import Pw.C13.Copy
import Pw.C13.Rejected

/-! The clauses of C13 along histories: `copy()` after any history on a class without mark guards
(`C13_copy`), and all clauses for one further operation after any history (`C13_step`). -/
namespace C13

theorem run_length (cfg : Cfg) (ops : List Op) (s : St) :
    ∀ r ∈ run cfg s ops, r.1.layers.length = s.layers.length :=
  run_forall (P := fun t => t.layers.length = s.layers.length) (Q := fun _ => True)
    (fun t op ht _ => (step_length cfg t op).trans ht) ops s rfl fun _ _ => trivial

/-- **C13, copy clause along histories**: on a class without mark guards, after any history `copy()`
does not raise and returns an equal graph (same nodes, max_lag, edges of every edge type). -/
theorem C13_copy (cfg : Cfg) (hg : cfg.guard = .none) (hb : cfg.mixed = false → cfg.kinds.length ≤ 1)
    (m : Nat) (ops : List Op) :
    ∀ r ∈ run cfg (init cfg m) ops, (copy cfg r.1).2 = false ∧ Same (copy cfg r.1).1 r.1 := by
  intro r hr
  refine copy_same cfg hg r.1 (run_inv cfg ops _ (init_inv cfg m) r hr) (fun hm => ?_)
  rw [run_length cfg ops _ r hr]
  simpa [init] using hb hm

/-- … in particular for the four unguarded classes of the library -/
theorem C13_copy_classes (cfg : Cfg) (hc : cfg = cfgGraph ∨ cfg = cfgDigraph ∨ cfg = cfgMixed ∨ cfg = cfgPag)
    (m : Nat) (ops : List Op) :
    ∀ r ∈ run cfg (init cfg m) ops, (copy cfg r.1).2 = false ∧ Same (copy cfg r.1).1 r.1 := by
  rcases hc with rfl | rfl | rfl | rfl
  · exact C13_copy _ rfl (fun _ => by simp [cfgGraph]) m ops
  · exact C13_copy _ rfl (fun _ => by simp [cfgDigraph]) m ops
  · exact C13_copy _ rfl (fun h => by simp [cfgMixed] at h) m ops
  · exact C13_copy _ rfl (fun h => by simp [cfgPag] at h) m ops

/-- **C13, all clauses for one step of any history** (any class): the state before and after is
stationary, and if the operation raised, no edge list and not max_lag changed. -/
theorem C13_step (cfg : Cfg) (m : Nat) (ops : List Op) (op : Op) :
    let s := ((run cfg (init cfg m) ops).getLast?.map (·.1)).getD (init cfg m)
    Stationary s ∧ Stationary (step cfg s op).1 ∧
      ((step cfg s op).2 = true →
        (step cfg s op).1.layers = s.layers ∧ (step cfg s op).1.maxLag = s.maxLag) := by
  intro s
  have hs : Inv s := by
    show Inv (((run cfg (init cfg m) ops).getLast?.map (·.1)).getD (init cfg m))
    cases h : (run cfg (init cfg m) ops).getLast? with
    | none => simpa using init_inv cfg m
    | some r =>
      simp only [Option.map_some, Option.getD_some]
      exact run_inv cfg ops _ (init_inv cfg m) r (List.mem_of_getLast? h)
  exact ⟨hs.stationary, (step_inv cfg hs op).stationary, step_rejected cfg s op⟩

end C13
