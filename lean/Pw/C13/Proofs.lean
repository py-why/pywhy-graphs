import Pw.C13.Lemmas

/-! `Inv` (complete node set; every layer joins nodes, is shift closed, forward in storage form and, for
undirected-type layers, canonical) holds initially and is preserved by every operation of every class,
hence `Stationary` (the property) holds after every history (`C13_invariant`).

An operation changes a layer in one of four ways: it adds the copies of an edge, removes them, keeps
the edges between the nodes that stay (`inv_restrict`) or re-adds every edge in a larger window
(`mem_grow_edges`).  `add_edge` is `add_edges_from` with one member (`addEdge_eq_bulk`). -/
namespace C13

/-- model invariant of one layer (`Forward` holds for the storage form of every layer kind) -/
def LayerInv (nodes : List Node) (m : Nat) (L : Layer) : Prop :=
  EndsIn nodes L.edges ∧ ShiftClosed m L.edges ∧ Forward L.edges ∧ (L.kind = .und → Canon L.edges)

def Inv (s : St) : Prop :=
  Complete s.nodes s.maxLag ∧ ∀ L ∈ s.layers, LayerInv s.nodes s.maxLag L

theorem Inv.stationary {s : St} (h : Inv s) : Stationary s :=
  ⟨h.1, fun L hL => ⟨(h.2 L hL).1, (h.2 L hL).2.1, fun _ => (h.2 L hL).2.2.1⟩⟩

theorem LayerInv.mono {nodes nodes' : List Node} {m : Nat} {L : Layer} (h : LayerInv nodes m L)
    (hs : ∀ n, n ∈ nodes → n ∈ nodes') : LayerInv nodes' m L :=
  ⟨fun e he => ⟨hs _ (h.1 e he).1, hs _ (h.1 e he).2⟩, h.2⟩

theorem Forward.le {E : List Edge} (h : Forward E) {e : Edge} (he : e ∈ E) : e.2.2 ≤ e.1.2 :=
  h _ _ _ _ he

theorem inWin_of {nodes : List Node} {m : Nat} {E : List Edge} (hc : Complete nodes m)
    (he : EndsIn nodes E) : InWin m E :=
  fun e h => ⟨(hc _ _ (he e h).1).1, (hc _ _ (he e h).2).1⟩

theorem inv_empty (m : Nat) {layers : List Layer} (h : ∀ L ∈ layers, L.edges = []) :
    Inv ⟨[], m, layers⟩ := by
  refine ⟨fun x a hx => (nomatch hx), fun L hL => ?_⟩
  simp only [LayerInv, EndsIn, ShiftClosed, Forward, Canon, h L hL, List.not_mem_nil, false_imp_iff,
    implies_true, and_self]

theorem init_inv (cfg : Cfg) (m : Nat) : Inv (init cfg m) :=
  inv_empty m fun L hL => by
    obtain ⟨k, _, rfl⟩ := List.mem_map.1 hL
    rfl

theorem valid_iff {m : Nat} {n : TNode} : valid m n = true ↔ n.2 ≤ 0 ∧ lag n ≤ m := by
  simp only [valid, Bool.and_eq_true, decide_eq_true_eq]

theorem okEdge_iff {m : Nat} {u v : TNode} :
    okEdge m u v = true ↔ valid m u = true ∧ valid m v = true ∧ ¬ v.2 < u.2 := by
  simp only [okEdge, Bool.and_eq_true, Bool.not_eq_true', decide_eq_false_iff_not, and_assoc]

theorem okEdge_nonpos {m : Nat} {u v : TNode} (h : okEdge m u v = true) : u.2 ≤ 0 ∧ v.2 ≤ 0 :=
  ⟨(valid_iff.mp (okEdge_iff.mp h).1).1, (valid_iff.mp (okEdge_iff.mp h).2.1).1⟩

theorem okEdge_lags {m : Nat} {u v : TNode} (h : okEdge m u v = true) :
    lag u ≤ m ∧ lag v ≤ m ∧ lag v ≤ lag u := by
  obtain ⟨hu, hv, hvu⟩ := okEdge_iff.mp h
  refine ⟨(valid_iff.mp hu).2, (valid_iff.mp hv).2, ?_⟩
  have hu0 := (valid_iff.mp hu).1
  have hv0 := (valid_iff.mp hv).1
  simp only [lag]
  omega

theorem layerInv_add {nodes : List Node} {m : Nat} {L : Layer} {u v : TNode}
    (hL : LayerInv nodes m L) (hu : HasVar nodes m u.1) (hv : HasVar nodes m v.1)
    (hok : okEdge m u v = true) : LayerInv nodes m (L.add m u v) := by
  refine ⟨endsIn_union hL.1 (endsIn_copies hu hv), shiftClosed_union hL.2.1 (shiftClosed_copies _ _ _),
    forward_union hL.2.2.1 (forward_copies (Or.inr (okEdge_lags hok).2.2)), fun hk => ?_⟩
  have hk : L.kind = .und := hk
  simp only [Layer.add, hk]
  exact canon_union (hL.2.2.2 hk) (canon_copies_und _ _)

theorem layerInv_remove {nodes : List Node} {m : Nat} {L : Layer} {u v : TNode}
    (hc : Complete nodes m) (hL : LayerInv nodes m L) : LayerInv nodes m (L.remove m u v) :=
  ⟨fun e he => hL.1 e (mem_diff.1 he).1,
    shiftClosed_diff hL.2.1 (shiftClosed_copies _ _ _) (inWin_of hc hL.1),
    fun x a y b h => hL.2.2.1 x a y b (mem_diff.1 h).1, fun hk e he => hL.2.2.2 hk e (mem_diff.1 he).1⟩

theorem inv_mapSel {t : St} (hi : Inv t) (sel : Sel) {f : Layer → Layer}
    (hf : ∀ L, LayerInv t.nodes t.maxLag L → LayerInv t.nodes t.maxLag (f L)) :
    Inv { t with layers := mapSel sel f 0 t.layers } :=
  ⟨hi.1, forall_mapSel hf _ _ hi.2⟩

theorem foldl_keeps {α : Type} {P : St → Prop} {f : St → α → St} (hf : ∀ s a, P s → P (f s a))
    (l : List α) (s : St) (h : P s) : P (l.foldl f s) :=
  List.foldlRecOn l f h fun s hs a _ => hf s a hs

/-- `t` is `s` with variables added: same window, same edges, more nodes, still complete -/
structure Extends (s t : St) : Prop where
  maxLag : t.maxLag = s.maxLag
  layers : t.layers = s.layers
  nodes : ∀ n, n ∈ s.nodes → n ∈ t.nodes
  complete : Complete s.nodes s.maxLag → Complete t.nodes t.maxLag

theorem Extends.refl (s : St) : Extends s s := ⟨rfl, rfl, fun _ h => h, id⟩

theorem Extends.addVar (s : St) (x : Nat) : Extends s (s.addVar x) :=
  ⟨rfl, rfl, fun _ => subset_addVarNodes, complete_addVarNodes⟩

theorem Extends.trans {s t r : St} (h : Extends s t) (h' : Extends t r) : Extends s r :=
  ⟨h'.maxLag.trans h.maxLag, h'.layers.trans h.layers, fun n hn => h'.nodes n (h.nodes n hn),
    fun hc => h'.complete (h.complete hc)⟩

theorem Extends.inv {s t : St} (h : Extends s t) (hi : Inv s) : Inv t := by
  refine ⟨h.complete hi.1, ?_⟩
  rw [h.layers, h.maxLag]
  exact fun L hL => (hi.2 L hL).mono h.nodes

theorem Extends.hasVar {s t : St} (h : Extends s t) {x : Nat} (hx : HasVar s.nodes s.maxLag x) :
    HasVar t.nodes t.maxLag x := by
  rw [h.maxLag]; exact hx.mono h.nodes

theorem inv_addVar {s : St} (h : Inv s) (x : Nat) : Inv (s.addVar x) := (Extends.addVar s x).inv h

theorem ensureNode_spec {s s1 : St} {u : TNode} (h : ensureNode s u = some s1) :
    Extends s s1 ∧ (Complete s.nodes s.maxLag → HasVar s1.nodes s1.maxLag u.1) := by
  unfold ensureNode at h
  split at h
  · rename_i hn
    cases h
    simp only [hasNode, Bool.and_eq_true, List.contains_eq_mem, decide_eq_true_eq] at hn
    exact ⟨Extends.refl s, fun hc => (hc _ _ hn.2).2⟩
  · split at h
    · cases h
      exact ⟨Extends.addVar s _, fun _ => hasVar_addVarNodes⟩
    · cases h

theorem ensureNode_frame {s s1 : St} {u : TNode} (h : ensureNode s u = some s1) :
    s1.maxLag = s.maxLag ∧ s1.layers = s.layers :=
  ⟨(ensureNode_spec h).1.maxLag, (ensureNode_spec h).1.layers⟩

theorem ensureAll_spec : ∀ (es : List (TNode × TNode)) (s : St),
    Extends s (ensureAll s es).1 ∧ ((ensureAll s es).2 = false → Complete s.nodes s.maxLag →
      ∀ e ∈ es, HasVar (ensureAll s es).1.nodes (ensureAll s es).1.maxLag e.1.1 ∧
        HasVar (ensureAll s es).1.nodes (ensureAll s es).1.maxLag e.2.1) := by
  intro es
  induction es with
  | nil => exact fun s => ⟨Extends.refl s, fun _ _ e he => nomatch he⟩
  | cons uv r ih =>
    intro s
    obtain ⟨u, v⟩ := uv
    unfold ensureAll
    split
    · exact ⟨Extends.refl s, fun hf => nomatch hf⟩
    · rename_i s1 h1
      split
      · exact ⟨(ensureNode_spec h1).1, fun hf => nomatch hf⟩
      · rename_i s2 h2
        obtain ⟨e1, v1⟩ := ensureNode_spec h1
        obtain ⟨e2, v2⟩ := ensureNode_spec h2
        obtain ⟨er, vr⟩ := ih s2
        refine ⟨(e1.trans e2).trans er, fun hf hc e he => ?_⟩
        rcases List.mem_cons.1 he with rfl | he
        · exact ⟨(e2.trans er).hasVar (v1 hc), er.hasVar (v2 (e1.complete hc))⟩
        · exact vr hf (e2.complete (e1.complete hc)) e he

theorem inv_addEdgeBase {s : St} (h : Inv s) (u v : TNode) : Inv (addEdgeBase s u v).1 := by
  unfold addEdgeBase
  split
  · exact h
  · rename_i hok
    simp only [Bool.not_eq_true', Bool.not_eq_false] at hok
    have h1 := inv_addVar (inv_addVar h u.1) v.1
    refine ⟨h1.1, fun L hL => ?_⟩
    obtain ⟨L0, hL0, rfl⟩ := List.mem_map.1 hL
    exact layerInv_add (h1.2 L0 hL0)
      ((hasVar_addVarNodes (nodes := s.nodes)).mono fun _ => subset_addVarNodes) hasVar_addVarNodes hok

theorem inv_addEdgesBase {s : St} (h : Inv s) (es : List (TNode × TNode)) :
    Inv (addEdgesBase s es).1 := by
  unfold addEdgesBase
  split
  · exact h
  · exact foldl_keeps (P := Inv) (f := fun s (e : TNode × TNode) => (addEdgeBase s e.1 e.2).1)
      (fun s e hs => inv_addEdgeBase hs e.1 e.2) es s h

theorem not_any {α : Type} {f : α → Bool} {l : List α} (h : ¬ l.any f = true) : ∀ a ∈ l, f a = false :=
  fun a ha => Bool.eq_false_iff.2 fun hf => h (List.any_eq_true.2 ⟨a, ha, hf⟩)

/-- `add_edges_from` of a mixed-edge class may add the variables of the named nodes before it raises, so
the state it leaves is some `t` above `s` in both cases -/
theorem addEdgesMixed_spec (cfg : Cfg) (s : St) (sel : Sel) (es : List (TNode × TNode)) :
    ∃ t, Extends s t ∧ (addEdgesMixed cfg s sel es = (t, true) ∨
      (addEdgesMixed cfg s sel es =
          ({ t with
              layers := mapSel sel (fun L => es.foldl (fun L e => L.add t.maxLag e.1 e.2) L) 0 t.layers },
            false) ∧
        (∀ e ∈ es, guardBad cfg s sel e.1 e.2 = false) ∧ selOk t.layers.length sel = true ∧
        (∀ e ∈ es, okEdge t.maxLag e.1 e.2 = true) ∧
        (Complete s.nodes s.maxLag → ∀ e ∈ es,
          HasVar t.nodes t.maxLag e.1.1 ∧ HasVar t.nodes t.maxLag e.2.1))) := by
  obtain ⟨ea, va⟩ := ensureAll_spec es s
  rw [addEdgesMixed]
  by_cases hg : (es.any fun e => guardBad cfg s sel e.1 e.2) = true
  · exact ⟨s, Extends.refl s, Or.inl (if_pos hg)⟩
  rw [if_neg hg]
  refine ⟨(ensureAll s es).1, ea, ?_⟩
  by_cases hr : (ensureAll s es).2 = true
  · exact Or.inl (if_pos hr)
  by_cases hs : (!selOk (ensureAll s es).1.layers.length sel) = true
  · exact Or.inl ((if_neg hr).trans (if_pos hs))
  by_cases hok : (es.any fun e => !okEdge (ensureAll s es).1.maxLag e.1 e.2) = true
  · exact Or.inl ((if_neg hr).trans ((if_neg hs).trans (if_pos hok)))
  exact Or.inr ⟨(if_neg hr).trans ((if_neg hs).trans (if_neg hok)), not_any hg, by simpa using hs,
    fun e he => by simpa using not_any hok e he, va (by simpa using hr)⟩

/-- what an accepted `add_edges_from` of a mixed-edge class has checked and done -/
theorem addEdgesMixed_acc {cfg : Cfg} {s : St} {sel : Sel} {es : List (TNode × TNode)}
    (h : (addEdgesMixed cfg s sel es).2 = false) :
    (∀ e ∈ es, guardBad cfg s sel e.1 e.2 = false) ∧ (∀ e ∈ es, okEdge s.maxLag e.1 e.2 = true) ∧
      selOk s.layers.length sel = true ∧
      (addEdgesMixed cfg s sel es).1.layers =
        mapSel sel (fun L => es.foldl (fun L e => L.add s.maxLag e.1 e.2) L) 0 s.layers := by
  obtain ⟨t, he, hr | ⟨hr, hg, hs, hok, -⟩⟩ := addEdgesMixed_spec cfg s sel es
  · rw [hr] at h; cases h
  · rw [he.maxLag] at hok
    rw [he.layers] at hs
    exact ⟨hg, hok, hs, by rw [hr, he.maxLag, he.layers]⟩

theorem inv_addEdgesMixed (cfg : Cfg) {s : St} (h : Inv s) (sel : Sel) (es : List (TNode × TNode)) :
    Inv (addEdgesMixed cfg s sel es).1 := by
  obtain ⟨t, he, hr | ⟨hr, _, _, hok, hv⟩⟩ := addEdgesMixed_spec cfg s sel es <;> rw [hr]
  · exact he.inv h
  · exact inv_mapSel (he.inv h) sel fun L hL =>
      List.foldlRecOn (motive := LayerInv t.nodes t.maxLag) es _ hL fun L hL e hmem =>
        layerInv_add hL (hv h.1 e hmem).1 (hv h.1 e hmem).2 (hok e hmem)

theorem inv_addEdges (cfg : Cfg) {s : St} (h : Inv s) (sel : Sel) (es : List (TNode × TNode)) :
    Inv (addEdges cfg s sel es).1 := by
  unfold addEdges
  split
  · exact inv_addEdgesMixed cfg h sel es
  · exact inv_addEdgesBase h es

/-- `add_edge` is `add_edges_from` with one member -/
theorem addEdgeMixed_guard {cfg : Cfg} {s : St} {sel : Sel} {u v : TNode}
    (hg : guardBad cfg s sel u v = true) : addEdgeMixed cfg s sel u v = (s, true) := by
  unfold addEdgeMixed
  rw [if_pos hg]

/-- the accepting branch: `s2` is `s` with the variables of `u` and `v` added -/
theorem addEdgeMixed_accept {cfg : Cfg} {s s1 s2 : St} {sel : Sel} {u v : TNode}
    (hg : guardBad cfg s sel u v = false) (h1 : ensureNode s u = some s1)
    (h2 : ensureNode s1 v = some s2) (hs : selOk s2.layers.length sel = true)
    (hok : okEdge s2.maxLag u v = true) :
    addEdgeMixed cfg s sel u v =
      ({ s2 with layers := mapSel sel (·.add s2.maxLag u v) 0 s2.layers }, false) := by
  simp only [addEdgeMixed, hg, h1, h2, hs, hok, Bool.false_eq_true, if_false, Bool.not_true]

theorem addEdgeMixed_eq_bulk (cfg : Cfg) (s : St) (sel : Sel) (u v : TNode) :
    addEdgeMixed cfg s sel u v = addEdgesMixed cfg s sel [(u, v)] := by
  unfold addEdgeMixed addEdgesMixed ensureAll ensureAll
  simp only [List.any_cons, List.any_nil, Bool.or_false]
  cases guardBad cfg s sel u v with
  | true => rfl
  | false =>
    cases ensureNode s u with
    | none => rfl
    | some s1 =>
      simp only []
      cases ensureNode s1 v with
      | none => rfl
      | some s2 => rfl

theorem addEdgeMixed_acc {cfg : Cfg} {s : St} {sel : Sel} {u v : TNode}
    (h : (addEdgeMixed cfg s sel u v).2 = false) :
    guardBad cfg s sel u v = false ∧ okEdge s.maxLag u v = true ∧ selOk s.layers.length sel = true ∧
      (addEdgeMixed cfg s sel u v).1.layers = mapSel sel (·.add s.maxLag u v) 0 s.layers := by
  rw [addEdgeMixed_eq_bulk] at h ⊢
  obtain ⟨hg, hok, hs, hl⟩ := addEdgesMixed_acc h
  exact ⟨hg (u, v) (List.mem_singleton_self _), hok (u, v) (List.mem_singleton_self _), hs, hl⟩

theorem addEdge_eq_bulk (cfg : Cfg) (s : St) (sel : Sel) (u v : TNode) :
    addEdge cfg s sel u v = addEdges cfg s sel [(u, v)] := by
  unfold addEdge addEdges
  split
  · exact addEdgeMixed_eq_bulk cfg s sel u v
  · unfold addEdgesBase
    simp only [List.any_cons, List.any_nil, Bool.or_false, List.foldl_cons, List.foldl_nil]
    unfold addEdgeBase
    split <;> rfl

theorem step_addEdge (cfg : Cfg) (s : St) (l : Sel) (u v : TNode) :
    step cfg s (.addEdge l u v) = step cfg s (.addEdges l [(u, v)]) :=
  addEdge_eq_bulk cfg s l u v

theorem inv_addEdge (cfg : Cfg) {s : St} (h : Inv s) (sel : Sel) (u v : TNode) :
    Inv (addEdge cfg s sel u v).1 := by
  rw [addEdge_eq_bulk]
  exact inv_addEdges cfg h sel _

/-- `remove_edge` raises, or removes the copies of the edge from the layers some selector selects -/
theorem removeEdge_cases {P : St × Bool → Prop} {cfg : Cfg} {s : St} {u v : TNode} (hrej : P (s, true))
    (hacc : ∀ sel', P ({ s with layers := mapSel sel' (·.remove s.maxLag u v) 0 s.layers }, false))
    (sel : Sel) : P (removeEdge cfg s sel u v) := by
  unfold removeEdge
  simp only []
  generalize (if cfg.mixed = true then sel else Sel.all) = sel'
  by_cases h1 : (!selOk s.layers.length sel') = true
  · rw [if_pos h1]
    exact hrej
  rw [if_neg h1]
  by_cases h2 : (!(valid s.maxLag u && valid s.maxLag v)) = true
  · rw [if_pos h2]
    exact hrej
  · rw [if_neg h2]
    exact hacc sel'

/-- `remove_edges_from` raises, or removes edge after edge under some selector -/
theorem removeEdges_cases {P : St × Bool → Prop} {cfg : Cfg} {s : St} {es : List (TNode × TNode)}
    (hrej : P (s, true))
    (hacc : ∀ sel', P (es.foldl (fun s e => (removeEdge cfg s sel' e.1 e.2).1) s, false))
    (sel : Sel) : P (removeEdges cfg s sel es) := by
  unfold removeEdges
  by_cases h1 : (es.any fun e => !(valid s.maxLag e.1 && valid s.maxLag e.2)) = true
  · rw [if_pos h1]
    exact hrej
  rw [if_neg h1]
  simp only []
  generalize (if cfg.mixed = true then sel else Sel.all) = sel'
  by_cases h2 : (!es.isEmpty && !selOk s.layers.length sel') = true
  · rw [if_pos h2]
    exact hrej
  · rw [if_neg h2]
    exact hacc sel'

theorem inv_removeEdge (cfg : Cfg) {s : St} (h : Inv s) (sel : Sel) (u v : TNode) :
    Inv (removeEdge cfg s sel u v).1 :=
  removeEdge_cases (P := fun r => Inv r.1) h (fun _ => inv_mapSel h _ fun _ hL => layerInv_remove h.1 hL) sel

theorem removeEdges_keeps {cfg : Cfg} {P : St → Prop}
    (hP : ∀ s sel u v, P s → P (removeEdge cfg s sel u v).1) {s : St} (h : P s) (sel : Sel)
    (es : List (TNode × TNode)) : P (removeEdges cfg s sel es).1 :=
  removeEdges_cases (P := fun r => P r.1) h
    (fun sel' => foldl_keeps (fun s e hs => hP s sel' e.1 e.2 hs) es s h) sel

theorem inv_removeEdges (cfg : Cfg) {s : St} (h : Inv s) (sel : Sel) (es : List (TNode × TNode)) :
    Inv (removeEdges cfg s sel es).1 :=
  removeEdges_keeps (P := Inv) (fun _ sel u v hs => inv_removeEdge cfg hs sel u v) h sel es

/-- `remove_variable` and shrinking: inside the old window `keep` holds of a whole variable up to
`m'` or of none of its time points, which is what keeps the node set complete and the layers shift closed -/
theorem inv_restrict {s : St} (h : Inv s) (keep : Node → Bool) {m' : Nat} (hm : m' ≤ s.maxLag)
    (hk : ∀ x a, a ≤ s.maxLag → keep (x, a) = true → a ≤ m' ∧ ∀ b, b ≤ m' → keep (x, b) = true) :
    Inv ⟨s.nodes.filter keep, m',
      s.layers.map fun L => { L with edges := L.edges.filter fun e => keep e.1 && keep e.2 }⟩ := by
  obtain ⟨hc, hl⟩ := h
  refine ⟨fun x a hx => ?_, fun L hL => ?_⟩
  · obtain ⟨hx, hkx⟩ := List.mem_filter.1 hx
    obtain ⟨ha, hall⟩ := hc x a hx
    exact ⟨(hk x a ha hkx).1, fun b hb =>
      List.mem_filter.2 ⟨hall b (Nat.le_trans hb hm), (hk x a ha hkx).2 b hb⟩⟩
  · obtain ⟨L0, hL0, rfl⟩ := List.mem_map.1 hL
    obtain ⟨h1, h2, h3, h4⟩ := hl L0 hL0
    have hw := inWin_of hc h1
    have hme : ∀ e : Edge, e ∈ L0.edges.filter (fun e => keep e.1 && keep e.2) ↔
        e ∈ L0.edges ∧ keep e.1 = true ∧ keep e.2 = true := fun e => by
      rw [List.mem_filter, Bool.and_eq_true]
    refine ⟨fun e he => ?_, fun x a y b he a' b' ha' hb' hab => ?_,
      fun x a y b he => h3 x a y b ((hme _).1 he).1, fun hk e he => h4 hk e ((hme e).1 he).1⟩
    · obtain ⟨he, k1, k2⟩ := (hme e).1 he
      exact ⟨List.mem_filter.2 ⟨(h1 e he).1, k1⟩, List.mem_filter.2 ⟨(h1 e he).2, k2⟩⟩
    · obtain ⟨he, k1, k2⟩ := (hme _).1 he
      exact (hme _).2 ⟨h2 x a y b he a' b' (Nat.le_trans ha' hm) (Nat.le_trans hb' hm) hab,
        (hk x a (hw _ he).1 k1).2 a' ha', (hk y b (hw _ he).2 k2).2 b' hb'⟩

theorem inv_removeVar {s : St} (h : Inv s) (x : Nat) : Inv (s.removeVar x) := by
  refine inv_restrict h (fun n => !(n.1 == x && decide (n.2 ≤ s.maxLag))) (Nat.le_refl _)
    fun y a ha hk => ⟨ha, fun b hb => ?_⟩
  simp only [ha, hb, decide_true, Bool.and_true] at hk ⊢
  exact hk

theorem inv_shrink {s : St} (h : Inv s) {k : Nat} (hk : k < s.maxLag) : Inv (shrink s k) := by
  refine inv_restrict h (fun n => !(decide (k < n.2) && decide (n.2 ≤ s.maxLag))) (Nat.le_of_lt hk)
    fun y a ha hkeep => ?_
  simp only [ha, decide_true, Bool.and_true, Bool.not_eq_true', decide_eq_false_iff_not,
    Nat.not_lt] at hkeep ⊢
  exact ⟨hkeep, fun b hb => by simp [Nat.not_lt.2 hb]⟩

theorem mem_foldl_addVarNodes {k : Nat} {n : Node} : ∀ (vs : List Nat) (nodes : List Node),
    n ∈ vs.foldl (addVarNodes k) nodes ↔ n ∈ nodes ∨ (n.1 ∈ vs ∧ n.2 ≤ k) := by
  intro vs
  induction vs with
  | nil => simp
  | cons v vs ih =>
    intro nodes
    rw [List.foldl_cons, ih, mem_addVarNodes, List.mem_cons, or_assoc, or_and_right]

theorem mem_vars {nodes : List Node} {x : Nat} : x ∈ vars nodes ↔ ∃ a, (x, a) ∈ nodes := by
  simp [vars, List.mem_eraseDups]

theorem sortedByTime_forward (e : Edge) : (sortedByTime e).2.2 ≤ (sortedByTime e).1.2 := by
  unfold sortedByTime swap
  split
  · simp only; omega
  · omega

theorem sortedByTime_of_forward {e : Edge} (h : e.2.2 ≤ e.1.2) : sortedByTime e = e :=
  if_neg (Nat.not_lt.2 h)

theorem mem_foldl_union {f : Edge → List Edge} {p : Edge} : ∀ (es acc : List Edge),
    p ∈ es.foldl (fun acc e => union acc (f e)) acc ↔ p ∈ acc ∨ ∃ e ∈ es, p ∈ f e := by
  intro es
  induction es with
  | nil => simp
  | cons e es ih =>
    intro acc
    rw [List.foldl_cons, ih, mem_union, or_assoc]
    simp only [List.mem_cons, exists_eq_or_imp]

theorem mem_grow_edges {k : Kind} {m' : Nat} {E : List Edge} (hf : Forward E) (hc : k = .und → Canon E)
    {p : Edge} : p ∈ E.foldl (fun acc e => union acc (copies k m' (sortedByTime e))) E ↔
      p ∈ E ∨ ∃ e ∈ E, Shift e p ∧ p.1.2 ≤ m' ∧ p.2.2 ≤ m' := by
  rw [mem_foldl_union (f := fun e => copies k m' (sortedByTime e))]
  refine or_congr_right (exists_congr fun e => and_congr_right fun he => ?_)
  rw [sortedByTime_of_forward (hf.le he), mem_copies, stored_of_canon fun hk => hc hk e he]

theorem inv_grow {s : St} (h : Inv s) {k : Nat} (hk : s.maxLag < k) : Inv (grow s k) := by
  obtain ⟨hc, hl⟩ := h
  have hmem : ∀ n : Node, n ∈ (grow s k).nodes ↔ n ∈ s.nodes ∨ (n.1 ∈ vars s.nodes ∧ n.2 ≤ k) :=
    fun n => mem_foldl_addVarNodes _ _
  have hvar : ∀ n ∈ s.nodes, ∀ n' : Node, n'.1 = n.1 → n'.2 ≤ k → n' ∈ (grow s k).nodes :=
    fun n hn n' h1 h2 => (hmem n').2 (Or.inr ⟨mem_vars.2 ⟨n.2, by rw [h1]; exact hn⟩, h2⟩)
  refine ⟨fun x a hx => ?_, fun L hL => ?_⟩
  · rcases (hmem (x, a)).1 hx with hx | ⟨hx1, hx2⟩
    · exact ⟨Nat.le_trans (hc x a hx).1 (Nat.le_of_lt hk), fun b hb => hvar _ hx (x, b) rfl hb⟩
    · exact ⟨hx2, fun b hb => (hmem (x, b)).2 (Or.inr ⟨hx1, hb⟩)⟩
  · obtain ⟨L0, hL0, rfl⟩ := List.mem_map.1 hL
    obtain ⟨h1, h2, h3, h4⟩ := hl L0 hL0
    -- every edge of the grown layer is a shift of an old edge, inside the new window
    have key : ∀ p, p ∈ L0.edges.foldl (fun acc e => union acc (copies L0.kind k (sortedByTime e)))
        L0.edges → ∃ e ∈ L0.edges, Shift e p ∧ p.1.2 ≤ k ∧ p.2.2 ≤ k := by
      intro p hp
      rcases (mem_grow_edges h3 h4).1 hp with hp | hp
      · exact ⟨p, hp, Shift.refl p, Nat.le_trans (inWin_of hc h1 p hp).1 (Nat.le_of_lt hk),
          Nat.le_trans (inWin_of hc h1 p hp).2 (Nat.le_of_lt hk)⟩
      · exact hp
    refine ⟨fun p hp => ?_, fun x a y b hp a' b' ha' hb' hab => ?_, fun x a y b hp => ?_,
      fun hu p hp => ?_⟩
    · obtain ⟨e, he, hs, hw1, hw2⟩ := key p hp
      exact ⟨hvar _ (h1 e he).1 p.1 hs.1 hw1, hvar _ (h1 e he).2 p.2 hs.2.1 hw2⟩
    · obtain ⟨e, he, hs, _, _⟩ := key _ hp
      exact (mem_grow_edges h3 h4).2 (Or.inr ⟨e, he, hs.trans ⟨rfl, rfl, hab⟩, ha', hb'⟩)
    · obtain ⟨e, he, hs, _, _⟩ := key _ hp
      exact hs.forward (h3.le he)
    · obtain ⟨e, he, hs, _, _⟩ := key _ hp
      exact hs.canon (h4 hu e he)

/-- `set_max_lag` raises, leaves the graph as it is, grows the window or shrinks it -/
theorem setMaxLag_cases {P : St × Bool → Prop} {s : St} (hrej : P (s, true)) (hsame : P (s, false))
    (hg : ∀ k, s.maxLag < k → P (grow s k, false)) (hs : ∀ k, k < s.maxLag → P (shrink s k, false))
    (k : Int) : P (setMaxLag s k) := by
  unfold setMaxLag
  by_cases h0 : k ≤ 0
  · rw [if_pos h0]
    exact hrej
  rw [if_neg h0]
  by_cases h1 : s.maxLag < k.toNat
  · rw [if_pos h1]
    exact hg _ h1
  rw [if_neg h1]
  by_cases h2 : k.toNat < s.maxLag
  · rw [if_pos h2]
    exact hs _ h2
  · rw [if_neg h2]
    exact hsame

theorem inv_setMaxLag {s : St} (h : Inv s) (k : Int) : Inv (setMaxLag s k).1 :=
  setMaxLag_cases (P := fun r => Inv r.1) h h (fun _ hk => inv_grow h hk) (fun _ hk => inv_shrink h hk) k

/-- what adding variables and edges keeps, `copy()` establishes from its empty start -/
theorem copy_keeps {cfg : Cfg} {P : St → Prop} (s : St)
    (h0 : P ⟨[], s.maxLag, s.layers.map fun L => ⟨L.kind, []⟩⟩)
    (hvar : ∀ t x, P t → P (t.addVar x))
    (hadd : ∀ t sel u v, P t → P (addEdge cfg t sel u v).1) : P (copy cfg s).1 := by
  have foldAdd_keeps : ∀ (i : Nat) (es : List Edge) (r : St × Bool), P r.1 → P (foldAdd cfg i r es).1 := by
    intro i es
    induction es with
    | nil => intro r h; cases r; simpa [foldAdd] using h
    | cons e es ih =>
      rintro ⟨t, _ | _⟩ h
      · exact ih _ (hadd t _ _ _ h)
      · simpa [foldAdd] using h
  have copyLayers_keeps : ∀ (Ls : List Layer) (i : Nat) (r : St × Bool), P r.1 →
      P (copyLayers cfg i r Ls).1 := by
    intro Ls
    induction Ls with
    | nil => intro i r h; simpa [copyLayers] using h
    | cons L Ls ih => intro i r h; exact ih _ _ (foldAdd_keeps i _ r h)
  unfold copy
  split
  · exact h0
  · exact copyLayers_keeps _ _ _ (List.foldlRecOn _ _ h0 fun t ht n _ => hvar t n.1 ht)

theorem inv_copy (cfg : Cfg) (s : St) : Inv (copy cfg s).1 :=
  copy_keeps s (inv_empty _ fun L hL => by obtain ⟨L0, _, rfl⟩ := List.mem_map.1 hL; rfl)
    (fun _ x h => inv_addVar h x) fun _ sel u v h => inv_addEdge cfg h sel u v

theorem step_inv (cfg : Cfg) {s : St} (h : Inv s) (op : Op) : Inv (step cfg s op).1 := by
  cases op with
  | addEdge l u v => exact inv_addEdge cfg h l u v
  | addEdges l es => exact inv_addEdges cfg h l es
  | removeEdge l u v => exact inv_removeEdge cfg h l u v
  | removeEdges l es => exact inv_removeEdges cfg h l es
  | addVar x => exact inv_addVar h x
  | removeVar x => exact inv_removeVar h x
  | setMaxLag k => exact inv_setMaxLag h k
  | copy =>
    simp only [step]
    split
    · exact h
    · exact inv_copy cfg s

theorem run_forall {cfg : Cfg} {P : St → Prop} {Q : Op → Prop}
    (hstep : ∀ s op, P s → Q op → P (step cfg s op).1) : ∀ (ops : List Op) (s : St), P s →
    (∀ op ∈ ops, Q op) → ∀ r ∈ run cfg s ops, P r.1 := by
  intro ops
  induction ops with
  | nil => exact fun _ _ _ r hr => nomatch hr
  | cons op ops ih =>
    intro s h hq r hr
    have h1 := hstep s op h (hq op (List.mem_cons_self ..))
    rcases List.mem_cons.1 hr with rfl | hr
    · exact h1
    · exact ih _ h1 (fun o ho => hq o (List.mem_cons_of_mem _ ho)) r hr

theorem run_inv (cfg : Cfg) (ops : List Op) (s : St) (h : Inv s) : ∀ r ∈ run cfg s ops, Inv r.1 :=
  run_forall (P := Inv) (Q := fun _ => True) (fun _ op hs _ => step_inv cfg hs op) ops s h fun _ _ => trivial

/-- **C13, invariant clause**: after any history of public operations on any of the five classes,
started from an empty graph with any max_lag, every state reached (also after an operation that
raised) is complete, shift closed per edge type and forward in its directed layers. -/
theorem C13_invariant (cfg : Cfg) (m : Nat) (ops : List Op) :
    ∀ r ∈ run cfg (init cfg m) ops, Stationary r.1 :=
  fun r hr => (run_inv cfg ops _ (init_inv cfg m) r hr).stationary

end C13
