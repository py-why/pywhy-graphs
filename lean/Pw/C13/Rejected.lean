import Pw.C13.Proofs

/-! An operation that raises (`step_rejected`, `step_rejected_state`), from one statement per operation: if it
raised, the state is as before (`Frame`) – for `add_edge(s)` of a mixed-edge class, hence for an arbitrary
operation (`step_frame`), every edge list and `max_lag` are (`EdgeFrame`); raised or not, the number of edge
types is.  Then: the executable decider of the property is the specification (`stationaryDec_iff`). -/
namespace C13

theorem addEdgeBase_length (s : St) (u v : TNode) :
    (addEdgeBase s u v).1.layers.length = s.layers.length := by
  unfold addEdgeBase
  split
  · rfl
  · exact List.length_map _

/-- the outcome `r` of an operation on `s`: a call that raised has changed nothing, and no call changes the
number of edge types -/
structure Frame (s : St) (r : St × Bool) : Prop where
  raised : r.2 = true → r.1 = s
  length : r.1.layers.length = s.layers.length

/-- the frame of `add_edge(s)` of a mixed-edge class, which may have added the variables of the named nodes
before it raised: a call that raised has changed no edge list and not max_lag -/
structure EdgeFrame (s : St) (r : St × Bool) : Prop where
  raised : r.2 = true → r.1.layers = s.layers ∧ r.1.maxLag = s.maxLag
  length : r.1.layers.length = s.layers.length

theorem Frame.weak {s : St} {r : St × Bool} (h : Frame s r) : EdgeFrame s r :=
  ⟨fun hr => h.raised hr ▸ ⟨rfl, rfl⟩, h.length⟩

theorem addEdgesBase_frame (s : St) (es : List (TNode × TNode)) : Frame s (addEdgesBase s es) := by
  unfold addEdgesBase
  split
  · exact ⟨fun _ => rfl, rfl⟩
  · exact ⟨fun h => (nomatch h), foldl_keeps (P := fun t => t.layers.length = s.layers.length)
      (f := fun s (e : TNode × TNode) => (addEdgeBase s e.1 e.2).1)
      (fun t e ht => (addEdgeBase_length t e.1 e.2).trans ht) es s rfl⟩

theorem addEdgesMixed_frame (cfg : Cfg) (s : St) (sel : Sel) (es : List (TNode × TNode)) :
    EdgeFrame s (addEdgesMixed cfg s sel es) := by
  obtain ⟨t, he, hr | ⟨hr, -⟩⟩ := addEdgesMixed_spec cfg s sel es <;> rw [hr]
  · exact ⟨fun _ => ⟨he.layers, he.maxLag⟩, congrArg _ he.layers⟩
  · exact ⟨fun h => (nomatch h), (mapSel_length ..).trans (congrArg _ he.layers)⟩

theorem addEdges_frame (cfg : Cfg) (s : St) (sel : Sel) (es : List (TNode × TNode)) :
    EdgeFrame s (addEdges cfg s sel es) := by
  unfold addEdges
  split
  · exact addEdgesMixed_frame cfg s sel es
  · exact (addEdgesBase_frame s es).weak

theorem removeEdge_frame (cfg : Cfg) (s : St) (sel : Sel) (u v : TNode) :
    Frame s (removeEdge cfg s sel u v) :=
  removeEdge_cases (P := Frame s) ⟨fun _ => rfl, rfl⟩ (fun _ => ⟨fun h => (nomatch h), mapSel_length ..⟩) sel

theorem removeEdges_frame (cfg : Cfg) (s : St) (sel : Sel) (es : List (TNode × TNode)) :
    Frame s (removeEdges cfg s sel es) :=
  ⟨removeEdges_cases (P := fun r => r.2 = true → r.1 = s) (fun _ => rfl) (fun _ h => nomatch h) sel,
    removeEdges_keeps (P := fun t => t.layers.length = s.layers.length)
      (fun t sel u v ht => (removeEdge_frame cfg t sel u v).length.trans ht) rfl sel es⟩

theorem setMaxLag_frame (s : St) (k : Int) : Frame s (setMaxLag s k) :=
  setMaxLag_cases (P := Frame s) ⟨fun _ => rfl, rfl⟩ ⟨fun _ => rfl, rfl⟩
    (fun _ _ => ⟨fun h => (nomatch h), List.length_map _⟩)
    (fun _ _ => ⟨fun h => (nomatch h), List.length_map _⟩) k

theorem addEdge_length (cfg : Cfg) (s : St) (sel : Sel) (u v : TNode) :
    (addEdge cfg s sel u v).1.layers.length = s.layers.length := by
  rw [addEdge_eq_bulk]
  exact (addEdges_frame cfg s sel _).length

theorem copy_length (cfg : Cfg) (s : St) : (copy cfg s).1.layers.length = s.layers.length :=
  copy_keeps (P := fun t => t.layers.length = s.layers.length) s (List.length_map _) (fun _ _ h => h)
    fun t sel u v h => (addEdge_length cfg t sel u v).trans h

theorem copyStep_frame (cfg : Cfg) (s : St) : Frame s (step cfg s .copy) := by
  simp only [step]
  split
  · exact ⟨fun _ => rfl, rfl⟩
  · exact ⟨fun h => absurd h ‹_›, copy_length cfg s⟩

theorem step_frame (cfg : Cfg) (s : St) (op : Op) : EdgeFrame s (step cfg s op) := by
  cases op with
  | addEdge l u v =>
    rw [step_addEdge]
    exact addEdges_frame cfg s l _
  | addEdges l es => exact addEdges_frame cfg s l es
  | removeEdge l u v => exact (removeEdge_frame cfg s l u v).weak
  | removeEdges l es => exact (removeEdges_frame cfg s l es).weak
  | addVar x => exact ⟨fun h => (nomatch h), rfl⟩
  | removeVar x => exact ⟨fun h => (nomatch h), List.length_map _⟩
  | setMaxLag k => exact (setMaxLag_frame s k).weak
  | copy => exact (copyStep_frame cfg s).weak

/-- **C13, rejected operations**: an operation that raises leaves every edge list and max_lag
literally unchanged (and the state still satisfies the property by `C13_invariant`; a rejected
`add_edge(s)` of a mixed-edge class may already have added the variables of the named nodes). -/
theorem step_rejected (cfg : Cfg) (s : St) (op : Op) (h : (step cfg s op).2 = true) :
    (step cfg s op).1.layers = s.layers ∧ (step cfg s op).1.maxLag = s.maxLag :=
  (step_frame cfg s op).raised h

theorem step_length (cfg : Cfg) (s : St) (op : Op) :
    (step cfg s op).1.layers.length = s.layers.length :=
  (step_frame cfg s op).length

/-- for the plain graph classes, and for every operation other than `add_edge(s)` of the mixed-edge
classes, a raising operation returns the *identical* state (nodes included) -/
theorem step_rejected_state (cfg : Cfg) (s : St) (op : Op) (h : (step cfg s op).2 = true)
    (hop : cfg.mixed = false ∨ (∀ l u v, op ≠ .addEdge l u v) ∧ (∀ l es, op ≠ .addEdges l es)) :
    (step cfg s op).1 = s := by
  have bulk : ∀ l es, (addEdges cfg s l es).2 = true → cfg.mixed = false → (addEdges cfg s l es).1 = s := by
    intro l es h hm
    simp only [addEdges, hm] at h ⊢
    exact (addEdgesBase_frame s es).raised h
  cases op with
  | addEdge l u v =>
    rw [step_addEdge] at h ⊢
    exact bulk l _ h (hop.resolve_right fun h' => h'.1 l u v rfl)
  | addEdges l es => exact bulk l es h (hop.resolve_right fun h' => h'.2 l es rfl)
  | removeEdge l u v => exact (removeEdge_frame cfg s l u v).raised h
  | removeEdges l es => exact (removeEdges_frame cfg s l es).raised h
  | addVar x => exact nomatch h
  | removeVar x => exact nomatch h
  | setMaxLag k => exact (setMaxLag_frame s k).raised h
  | copy => exact (copyStep_frame cfg s).raised h

theorem completeDec_iff (nodes : List Node) (m : Nat) : completeDec nodes m = true ↔ Complete nodes m := by
  simp only [completeDec, Complete, List.all_eq_true, Bool.and_eq_true, decide_eq_true_eq,
    List.mem_range, Nat.lt_add_one_iff, List.contains_eq_mem, Prod.forall]

theorem shiftClosedDec_iff (m : Nat) (E : List Edge) : shiftClosedDec m E = true ↔ ShiftClosed m E := by
  simp only [shiftClosedDec, ShiftClosed, List.all_eq_true, List.mem_range, Nat.lt_add_one_iff,
    Bool.or_eq_true, Bool.not_eq_true', decide_eq_false_iff_not, List.contains_eq_mem, decide_eq_true_eq,
    Prod.forall]
  exact ⟨fun h x a y b he a' b' ha' hb' hab => (h x a y b he a' ha' b' hb').resolve_left fun hn => hn hab,
    fun h x a y b he a' ha' b' hb' => Decidable.not_or_of_imp (h x a y b he a' b' ha' hb')⟩

theorem forwardDec_iff (E : List Edge) : forwardDec E = true ↔ Forward E := by
  simp only [forwardDec, Forward, List.all_eq_true, decide_eq_true_eq, Prod.forall]

theorem endsInDec_iff (nodes : List Node) (E : List Edge) : endsInDec nodes E = true ↔ EndsIn nodes E := by
  simp only [endsInDec, EndsIn, List.all_eq_true, Bool.and_eq_true, List.contains_eq_mem, decide_eq_true_eq]

theorem layerOkDec_iff (nodes : List Node) (m : Nat) (L : Layer) :
    layerOkDec nodes m L = true ↔ LayerOk nodes m L := by
  simp only [layerOkDec, LayerOk, Bool.and_eq_true, Bool.or_eq_true, endsInDec_iff, shiftClosedDec_iff,
    forwardDec_iff, bne_iff_ne, ne_eq, and_assoc, ← Decidable.imp_iff_not_or]

/-- **the executable decider the harness applies to every observed implementation state is the
specification** -/
theorem stationaryDec_iff (s : St) : stationaryDec s = true ↔ Stationary s := by
  simp only [stationaryDec, Stationary, Bool.and_eq_true, completeDec_iff, List.all_eq_true,
    layerOkDec_iff]

end C13
