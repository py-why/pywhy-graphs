import Pw.C13.Spec

/-! What the list operations of the model contain or return (`union`, `diff`, `homologous`, `addVarNodes`,
`mapSel`), and the fact about edges that the proofs rest on: the homologous copies of an edge are the time
shifts (`Shift`) of the form in which the layer stores it (`stored`) that fit in the window (`mem_copies`). -/
namespace C13

theorem mem_union {E new : List Edge} {e : Edge} : e ∈ union E new ↔ e ∈ E ∨ e ∈ new := by
  by_cases h : e ∈ E <;> simp [union, h]

theorem mem_diff {E rem : List Edge} {e : Edge} : e ∈ diff E rem ↔ e ∈ E ∧ e ∉ rem := by
  simp [diff]

theorem mem_homologous {m x d y : Nat} {p : Edge} :
    p ∈ homologous m x d y ↔ ∃ i, i + d ≤ m ∧ p = ((x, d + i), (y, i)) := by
  simp only [homologous, List.mem_map, List.mem_range]
  exact exists_congr fun i => and_congr (by omega) eq_comm

theorem mem_map_swap {E : List Edge} {e : Edge} : e ∈ E.map swap ↔ swap e ∈ E :=
  ⟨fun h => by obtain ⟨e', h', rfl⟩ := List.mem_map.1 h; exact h', fun h => List.mem_map.2 ⟨swap e, h, rfl⟩⟩

/-- the loop for an edge into the past is the loop for the reversed edge, each copy reversed -/
theorem homologousBack_eq (m x e y : Nat) : homologousBack m x e y = (homologous m y e x).map swap := by
  rw [homologous, homologousBack, List.map_map]
  exact List.map_congr_left fun k _ => congrArg (fun t => ((x, k), (y, t))) (Nat.add_comm k e)

theorem mem_addVarNodes {m : Nat} {nodes : List Node} {x : Nat} {n : Node} :
    n ∈ addVarNodes m nodes x ↔ n ∈ nodes ∨ (n.1 = x ∧ n.2 ≤ m) := by
  simp only [addVarNodes, List.mem_append, List.mem_filter, List.mem_map, List.mem_range,
    Bool.not_eq_true', List.contains_eq_mem, decide_eq_false_iff_not]
  constructor
  · rintro (h | ⟨⟨t, ht, rfl⟩, _⟩)
    · exact Or.inl h
    · exact Or.inr ⟨rfl, Nat.le_of_lt_succ ht⟩
  · rintro (h | ⟨rfl, h2⟩)
    · exact Or.inl h
    · by_cases h' : n ∈ nodes
      · exact Or.inl h'
      · exact Or.inr ⟨⟨n.2, Nat.lt_succ_of_le h2, rfl⟩, h'⟩

def HasVar (nodes : List Node) (m x : Nat) : Prop := ∀ b, b ≤ m → (x, b) ∈ nodes

theorem complete_addVarNodes {m : Nat} {nodes : List Node} {x : Nat} (h : Complete nodes m) :
    Complete (addVarNodes m nodes x) m := by
  intro y a hy
  rcases mem_addVarNodes.1 hy with hy | ⟨hy1, hy2⟩
  · exact ⟨(h y a hy).1, fun b hb => mem_addVarNodes.2 (Or.inl ((h y a hy).2 b hb))⟩
  · exact ⟨hy2, fun b hb => mem_addVarNodes.2 (Or.inr ⟨hy1, hb⟩)⟩

theorem hasVar_addVarNodes {m : Nat} {nodes : List Node} {x : Nat} :
    HasVar (addVarNodes m nodes x) m x := fun _ hb => mem_addVarNodes.2 (Or.inr ⟨rfl, hb⟩)

theorem subset_addVarNodes {m : Nat} {nodes : List Node} {x : Nat} {n : Node} (h : n ∈ nodes) :
    n ∈ addVarNodes m nodes x := mem_addVarNodes.2 (Or.inl h)

theorem HasVar.mono {nodes nodes' : List Node} {m x : Nat} (h : HasVar nodes m x)
    (hs : ∀ n, n ∈ nodes → n ∈ nodes') : HasVar nodes' m x := fun b hb => hs _ (h b hb)

theorem addVarNodes_of_hasVar {m : Nat} {nodes : List Node} {x : Nat} (h : HasVar nodes m x) :
    addVarNodes m nodes x = nodes := by
  have : (((List.range (m + 1)).map fun t => (x, t)).filter fun n => !nodes.contains n) = [] := by
    simp only [List.filter_eq_nil_iff, List.mem_map, List.mem_range]
    rintro _ ⟨t, ht, rfl⟩
    simpa using h t (by omega)
  rw [addVarNodes, this, List.append_nil]

theorem mapSel_length (sel : Sel) (f : Layer → Layer) : ∀ (ls : List Layer) (j : Nat),
    (mapSel sel f j ls).length = ls.length := by
  intro ls
  induction ls with
  | nil => exact fun _ => rfl
  | cons L r ih => exact fun j => congrArg Nat.succ (ih (j + 1))

theorem forall_mapSel {P : Layer → Prop} {sel : Sel} {f : Layer → Layer}
    (hf : ∀ L, P L → P (f L)) : ∀ (ls : List Layer) (j : Nat), (∀ L ∈ ls, P L) →
      ∀ L ∈ mapSel sel f j ls, P L := by
  intro ls
  induction ls with
  | nil => exact fun _ _ _ hL => nomatch hL
  | cons L r ih =>
    intro j h L' hL'
    rcases List.mem_cons.1 hL' with rfl | hL'
    · split
      · exact hf _ (h L (List.mem_cons_self ..))
      · exact h L (List.mem_cons_self ..)
    · exact ih (j + 1) (fun L hL => h L (List.mem_cons_of_mem _ hL)) L' hL'

theorem getElem?_mapSel (sel : Sel) (f : Layer → Layer) : ∀ (ls : List Layer) (k j : Nat),
    (mapSel sel f k ls)[j]? = (ls[j]?).map (fun L => if selHas sel (k + j) then f L else L) := by
  intro ls
  induction ls with
  | nil => intro k j; rfl
  | cons L r ih =>
    intro k j
    cases j with
    | zero => rfl
    | succ j =>
      rw [mapSel, List.getElem?_cons_succ, List.getElem?_cons_succ, ih, Nat.add_assoc, Nat.add_comm 1 j]

theorem mapSel_one (i : Nat) (f : Layer → Layer) (ls : List Layer) :
    mapSel (.one i) f 0 ls = ls.modify i f := by
  refine List.ext_getElem? fun j => ?_
  rw [getElem?_mapSel, List.getElem?_modify, Nat.zero_add]
  simp only [selHas, beq_iff_eq, Option.map_eq_map]

theorem mapSel_all (f : Layer → Layer) : ∀ (ls : List Layer) (j : Nat), mapSel .all f j ls = ls.map f := by
  intro ls
  induction ls with
  | nil => exact fun _ => rfl
  | cons L r ih => exact fun j => congrArg (f L :: ·) (ih (j + 1))

theorem mapSel_comp (sel : Sel) (f g : Layer → Layer) : ∀ (ls : List Layer) (j : Nat),
    mapSel sel g j (mapSel sel f j ls) = mapSel sel (fun L => g (f L)) j ls := by
  intro ls
  induction ls with
  | nil => exact fun _ => rfl
  | cons L r ih =>
    intro j
    simp only [mapSel, ih (j + 1)]
    split <;> rfl

theorem mapSel_id (sel : Sel) : ∀ (ls : List Layer) (j : Nat), mapSel sel (fun L => L) j ls = ls := by
  intro ls
  induction ls with
  | nil => exact fun _ => rfl
  | cons L r ih => intro j; rw [mapSel, ih, ite_self]

/-- `e'` is a time shift of `e` -/
def Shift (e e' : Edge) : Prop :=
  e'.1.1 = e.1.1 ∧ e'.2.1 = e.2.1 ∧ e'.1.2 + e.2.2 = e.1.2 + e'.2.2

theorem Shift.refl (e : Edge) : Shift e e := ⟨rfl, rfl, rfl⟩

theorem Shift.symm {e e' : Edge} (h : Shift e e') : Shift e' e :=
  ⟨h.1.symm, h.2.1.symm, by have := h.2.2; omega⟩

theorem Shift.trans {e f g : Edge} (h : Shift e f) (h' : Shift f g) : Shift e g :=
  ⟨h'.1.trans h.1, h'.2.1.trans h.2.1, by have := h.2.2; have := h'.2.2; omega⟩

theorem Shift.swap {e e' : Edge} (h : Shift e e') : Shift (swap e) (swap e') :=
  ⟨h.2.1, h.1, by have := h.2.2; simp only [C13.swap]; omega⟩

theorem Shift.eq_of_swap {e p : Edge} (h : Shift e p) (h' : Shift e (p.2, p.1)) : e.1 = e.2 :=
  Prod.ext (h.1.symm.trans h'.2.1) (by have := h.2.2; have := h'.2.2; simp only at *; omega)

theorem Shift.forward {e e' : Edge} (h : Shift e e') (hf : e.2.2 ≤ e.1.2) : e'.2.2 ≤ e'.1.2 := by
  have := h.2.2; omega

theorem ShiftClosed.shift {m : Nat} {E : List Edge} (h : ShiftClosed m E) {e e' : Edge} (he : e ∈ E)
    (hs : Shift e e') (h1 : e'.1.2 ≤ m) (h2 : e'.2.2 ≤ m) : e' ∈ E := by
  obtain ⟨⟨x, a⟩, ⟨y, b⟩⟩ := e
  obtain ⟨⟨x', a'⟩, ⟨y', b'⟩⟩ := e'
  obtain ⟨hx, hy, hl⟩ := hs
  simp only at hx hy hl h1 h2
  subst hx hy
  exact h x' a y' b he a' b' h1 h2 hl

/-- every stored edge of an undirected-type layer is in storage form -/
def Canon (E : List Edge) : Prop := ∀ e ∈ E, canonUnd e = e

def InWin (m : Nat) (E : List Edge) : Prop := ∀ e ∈ E, e.1.2 ≤ m ∧ e.2.2 ≤ m

theorem canonUnd_cases (e : Edge) : canonUnd e = e ∨ canonUnd e = swap e := by
  unfold canonUnd
  split
  · exact Or.inr rfl
  · split
    · exact Or.inr rfl
    · exact Or.inl rfl

theorem canonUnd_eq_self {e : Edge} :
    canonUnd e = e ↔ e.2.2 ≤ e.1.2 ∧ (e.1.2 = e.2.2 → e.1.1 ≤ e.2.1) := by
  obtain ⟨⟨x, a⟩, ⟨y, b⟩⟩ := e
  simp only [canonUnd, swap]
  split
  · simp only [Prod.mk.injEq]; omega
  · split
    · simp only [Prod.mk.injEq]; omega
    · simp only [true_iff]; omega

theorem canonUnd_swap (e : Edge) : canonUnd (swap e) = canonUnd e := by
  obtain ⟨⟨x, a⟩, ⟨y, b⟩⟩ := e
  simp only [canonUnd, swap]
  rcases Nat.lt_trichotomy a b with h | rfl | h
  · simp [h, Nat.lt_asymm h, Nat.ne_of_gt h]
  · rcases Nat.lt_trichotomy x y with h | rfl | h
    · simp [h, Nat.lt_asymm h]
    · simp
    · simp [h, Nat.lt_asymm h]
  · simp [h, Nat.lt_asymm h, Nat.ne_of_gt h]

theorem canonUnd_idem (e : Edge) : canonUnd (canonUnd e) = canonUnd e := by
  rcases canonUnd_cases e with h | h
  · rw [h, h]
  · rw [h, canonUnd_swap, h]

theorem canonUnd_forward (e : Edge) : (canonUnd e).2.2 ≤ (canonUnd e).1.2 :=
  (canonUnd_eq_self.1 (canonUnd_idem e)).1

/-- storage form depends on the variables and the lag difference only -/
theorem Shift.canon {e e' : Edge} (h : Shift e e') (hc : canonUnd e = e) : canonUnd e' = e' := by
  rw [canonUnd_eq_self] at hc ⊢
  obtain ⟨h1, h2, h3⟩ := h
  omega

/-- the form in which a layer of kind `k` stores the edge it is asked to add as `e` -/
def stored (k : Kind) (e : Edge) : Edge :=
  match k with
  | .und => canonUnd e
  | _ => e

theorem stored_of_canon {k : Kind} {e : Edge} (hc : k = .und → canonUnd e = e) : stored k e = e := by
  cases k
  · rfl
  · rfl
  · exact hc rfl

theorem stored_cases (k : Kind) (e : Edge) : stored k e = e ∨ (k = .und ∧ stored k e = swap e) := by
  cases k
  · exact Or.inl rfl
  · exact Or.inl rfl
  · exact (canonUnd_cases e).imp_right fun h => ⟨rfl, h⟩

theorem stored_forward {k : Kind} {e : Edge} (h : k = .und ∨ e.2.2 ≤ e.1.2) :
    (stored k e).2.2 ≤ (stored k e).1.2 := by
  cases k
  · exact h.resolve_left (by simp)
  · exact h.resolve_left (by simp)
  · exact canonUnd_forward e

theorem mem_homologous_shift {m x a y b : Nat} (h : b ≤ a) {p : Edge} :
    p ∈ homologous m x (a - b) y ↔ Shift ((x, a), (y, b)) p ∧ p.1.2 ≤ m ∧ p.2.2 ≤ m := by
  obtain ⟨d, rfl⟩ := Nat.exists_eq_add_of_le h
  rw [Nat.add_sub_cancel_left, mem_homologous]
  constructor
  · rintro ⟨i, hi, rfl⟩
    simp only [Shift, true_and]
    omega
  · rintro ⟨⟨h1, h2, h3⟩, h4, _⟩
    obtain ⟨⟨x', a'⟩, ⟨y', b'⟩⟩ := p
    simp only at h1 h2 h3 h4
    subst h1 h2
    exact ⟨b', by omega, by rw [show d + b' = a' by omega]⟩

theorem mem_homologousBack_shift {m x a y b : Nat} (h : a < b) {p : Edge} :
    p ∈ homologousBack m x (b - a) y ↔ Shift ((x, a), (y, b)) p ∧ p.1.2 ≤ m ∧ p.2.2 ≤ m := by
  rw [homologousBack_eq, mem_map_swap, mem_homologous_shift (Nat.le_of_lt h)]
  exact ⟨fun ⟨hs, h1, h2⟩ => ⟨hs.swap, h2, h1⟩, fun ⟨hs, h1, h2⟩ => ⟨hs.swap, h2, h1⟩⟩

theorem mem_copies {k : Kind} {m : Nat} {e p : Edge} :
    p ∈ copies k m e ↔ Shift (stored k e) p ∧ p.1.2 ≤ m ∧ p.2.2 ≤ m := by
  have dir : p ∈ (if e.2.2 ≤ e.1.2 then homologous m e.1.1 (e.1.2 - e.2.2) e.2.1
      else homologousBack m e.1.1 (e.2.2 - e.1.2) e.2.1) ↔ Shift e p ∧ p.1.2 ≤ m ∧ p.2.2 ≤ m := by
    split
    · exact mem_homologous_shift ‹_›
    · exact mem_homologousBack_shift (Nat.lt_of_not_le ‹_›)
  cases k
  · exact dir
  · exact dir
  · exact mem_homologous_shift (canonUnd_forward e)

theorem shiftClosed_copies (k : Kind) (m : Nat) (e : Edge) : ShiftClosed m (copies k m e) :=
  fun _ _ _ _ hp _ _ ha' hb' hab => mem_copies.2 ⟨(mem_copies.1 hp).1.trans ⟨rfl, rfl, hab⟩, ha', hb'⟩

theorem forward_copies {k : Kind} {m : Nat} {e : Edge} (h : k = .und ∨ e.2.2 ≤ e.1.2) :
    Forward (copies k m e) :=
  fun _ _ _ _ hp => (mem_copies.1 hp).1.forward (stored_forward h)

theorem canon_copies_und (m : Nat) (e : Edge) : Canon (copies .und m e) :=
  fun _ hp => (mem_copies.1 hp).1.canon (canonUnd_idem e)

theorem endsIn_copies {nodes : List Node} {k : Kind} {m : Nat} {e : Edge}
    (h1 : HasVar nodes m e.1.1) (h2 : HasVar nodes m e.2.1) : EndsIn nodes (copies k m e) := by
  intro p hp
  obtain ⟨⟨hx, hy, _⟩, hw1, hw2⟩ := mem_copies.1 hp
  obtain ⟨⟨x, a⟩, ⟨y, b⟩⟩ := p
  simp only at hx hy hw1 hw2 ⊢
  subst hx hy
  rcases stored_cases k e with hs | ⟨_, hs⟩ <;> rw [hs]
  · exact ⟨h1 a hw1, h2 b hw2⟩
  · exact ⟨h2 a hw1, h1 b hw2⟩

theorem shift_mem_copies {k : Kind} {m : Nat} {x a y b a' b' : Nat} (_hf : b ≤ a)
    (hc : k = .und → canonUnd ((x, a), (y, b)) = ((x, a), (y, b)))
    (ha' : a' ≤ m) (hb' : b' ≤ m) (hab : a' + b = a + b') :
    ((x, a'), (y, b')) ∈ copies k m ((x, a), (y, b)) := by
  rw [mem_copies, stored_of_canon hc]
  exact ⟨⟨rfl, rfl, hab⟩, ha', hb'⟩

theorem self_mem_copies_und {m : Nat} {e : Edge} (h1 : (canonUnd e).1.2 ≤ m) :
    canonUnd e ∈ copies .und m e :=
  mem_copies.2 ⟨Shift.refl _, h1, Nat.le_trans (canonUnd_forward e) h1⟩

theorem shiftClosed_union {m : Nat} {E C : List Edge} (h1 : ShiftClosed m E) (h2 : ShiftClosed m C) :
    ShiftClosed m (union E C) := by
  intro x a y b h a' b' ha' hb' hab
  rw [mem_union] at h ⊢
  exact h.imp (h1 x a y b · a' b' ha' hb' hab) (h2 x a y b · a' b' ha' hb' hab)

theorem shiftClosed_diff {m : Nat} {E C : List Edge} (h1 : ShiftClosed m E) (h2 : ShiftClosed m C)
    (hw : InWin m E) : ShiftClosed m (diff E C) := by
  intro x a y b h a' b' ha' hb' hab
  rw [mem_diff] at h ⊢
  obtain ⟨hE, hC⟩ := h
  refine ⟨h1 x a y b hE a' b' ha' hb' hab, fun hc => hC ?_⟩
  obtain ⟨hwa, hwb⟩ := hw _ hE
  exact h2 x a' y b' hc a b hwa hwb (by omega)

theorem forward_union {E C : List Edge} (h1 : Forward E) (h2 : Forward C) : Forward (union E C) :=
  fun x a y b h => (mem_union.1 h).elim (h1 x a y b) (h2 x a y b)

theorem endsIn_union {nodes : List Node} {E C : List Edge} (h1 : EndsIn nodes E) (h2 : EndsIn nodes C) :
    EndsIn nodes (union E C) :=
  fun e h => (mem_union.1 h).elim (h1 e) (h2 e)

theorem canon_union {E C : List Edge} (h1 : Canon E) (h2 : Canon C) : Canon (union E C) :=
  fun e h => (mem_union.1 h).elim (h1 e) (h2 e)

end C13
