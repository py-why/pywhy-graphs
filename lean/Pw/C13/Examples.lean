import Pw.C13.Rejected

/-! # C13 — non-vacuity: the theorems speak about non-trivial histories

Each `example` is a kernel-checked *test* on one concrete history (not a proof of the property). -/
namespace C13

/-- a PAG history: lagged and contemporaneous edges in different edge types, a rejected backward
edge, growth, shrinking, a rejected bulk call, a copy -/
def exHistory : List Op :=
  [.addEdge (.one 0) (0, -1) (1, 0), .addEdge (.one 3) (0, 0) (2, 0), .addEdge (.one 1) (1, 0) (0, -1),
   .setMaxLag 3, .addEdges (.one 2) [((1, -3), (1, 0)), ((1, -1), (0, -4))], .setMaxLag 1, .copy,
   .removeEdge (.one 0) (0, -1) (1, 0), .setMaxLag 0]

/-- which operations of `exHistory` raise: the backward circle edge, the bulk call with a lag outside
the window, `set_max_lag(0)` -/
example : (run cfgPag (init cfgPag 2) exHistory).map (·.2) =
    [false, false, true, false, true, false, false, false, true] := by decide +kernel

/-- after growth to max_lag 3 the directed edge has its three copies and the contemporaneous
bidirected edge its four (the hypotheses of `C13_invariant` / `inv_grow` are met non-trivially) -/
example : ((run cfgPag (init cfgPag 2) exHistory)[3]?.map fun r => r.1.layers.map (·.edges.length)) =
    some [3, 0, 0, 4] := by decide +kernel

example : ((run cfgPag (init cfgPag 2) exHistory).all fun r => stationaryDec r.1) = true := by decide +kernel

/-- the rejected bulk call (step 4) really had something to leave unchanged (`step_rejected`) -/
example : ((run cfgPag (init cfgPag 2) exHistory)[4]?.map fun r => (r.2, r.1.layers.map (·.edges.length))) =
    some (true, [3, 0, 0, 4]) := by decide +kernel

/-- the decider rejects an incomplete node set, a missing homologous copy and a backward directed edge -/
example : stationaryDec ⟨[(0, 0), (0, 1), (1, 0)], 1, [⟨.dir, []⟩]⟩ = false := by decide
example : stationaryDec ⟨[(0, 0), (0, 1), (1, 0), (1, 1)], 1, [⟨.dir, [((0, 0), (1, 0))]⟩]⟩ = false := by decide
example : stationaryDec ⟨[(0, 0), (0, 1), (1, 0), (1, 1)], 1, [⟨.dir, [((0, 0), (1, 1))]⟩]⟩ = false := by decide
example : stationaryDec ⟨[(0, 0), (0, 1), (1, 0), (1, 1)], 1,
    [⟨.dir, [((0, 0), (1, 0)), ((0, 1), (1, 1))]⟩]⟩ = true := by decide

/-- the state the unchanged code reached by `set_max_lag(2)` on a graph with the contemporaneous edge
x(0) -> y(0) (no nodes at lag 2, no copy of the edge at lag 2) is not stationary -/
theorem C13_counterexample_grow_unfixed :
    ¬ Stationary ⟨[(0, 0), (0, 1), (1, 0), (1, 1)], 2, [⟨.dir, [((0, 0), (1, 0)), ((0, 1), (1, 1))]⟩]⟩ := by
  rw [← stationaryDec_iff]; decide

/-- … while the model of the fixed code reaches a stationary state with the three copies -/
example : (run cfgDigraph (init cfgDigraph 1) [.addEdge .all (0, 0) (1, 0), .setMaxLag 2]).map
    (fun r => (r.1.layers.map (·.edges.length), stationaryDec r.1)) = [([2], true), ([3], true)] := by decide +kernel

end C13
