import Pw.C13.Cpdag

/-! `NoConf` (no node pair with a directed edge and an opposite directed or an undirected edge) holds in
the empty CPDAG and is preserved by every operation of the C13 model of the
StationaryTimeSeriesCPDAG that stays inside the calling convention `Op.CpdagSafe` (no
`edge_type='all'` additions, no self loops, bulk additions name pairwise different variable pairs –
the three restrictions are recorded known findings / outside C03's quantifier):

* the guard looks at the *named* node pair only, the edge is then stored on every homologous copy;
  that the copies are conflict free as well is where `ShiftClosed` (the C13 invariant) is used;
* `set_max_lag` growth re-adds every edge in the larger window: every new edge is a time shift of an
  old one, and a conflict between shifted edges shifts back to a conflict at lag 0;
* every other operation only takes edges away (`cinv_of_below`). -/
namespace C13

theorem swap_swap (e : Edge) : swap (swap e) = e := rfl

def NoConfL (D U : List Edge) : Prop :=
  ∀ p q, (p, q) ∈ D → (q, p) ∉ D ∧ (p, q) ∉ U ∧ (q, p) ∉ U

theorem noConf_iff {s : St} {D U : List Edge} (h : s.layers = [⟨.dir, D⟩, ⟨.und, U⟩]) :
    NoConf s ↔ NoConfL D U := by
  unfold NoConf NoConfL
  rw [(layerEdges_of_layers h).1, (layerEdges_of_layers h).2]

theorem NoConfL.mono {D U D' U' : List Edge} (h : NoConfL D U) (hD : ∀ e ∈ D', e ∈ D)
    (hU : ∀ e ∈ U', e ∈ U) : NoConfL D' U' := by
  intro p q hpq
  obtain ⟨h1, h2, h3⟩ := h p q (hD _ hpq)
  exact ⟨fun hh => h1 (hD _ hh), fun hh => h2 (hU _ hh), fun hh => h3 (hU _ hh)⟩

set_option linter.unusedVariables false in
/-- a guarded directed addition: the guard has looked at the named pair `(a, b)` only (`hf` is what
`add_edge` has checked as well; the copies are conflict free without it) -/
theorem noConfL_add_dir {m : Nat} {D U : List Edge} (hD : ShiftClosed m D) (hU : ShiftClosed m U)
    (h : NoConfL D U) {a b : Node} (ha : a.2 ≤ m) (hb : b.2 ≤ m) (hf : b.2 ≤ a.2) (hab : a ≠ b)
    (g1 : (b, a) ∉ D) (g2 : (a, b) ∉ U) (g3 : (b, a) ∉ U) :
    NoConfL (union D (copies .dir m (a, b))) U := by
  have hcp : ∀ p, p ∈ copies .dir m (a, b) → Shift (a, b) p ∧ p.1.2 ≤ m ∧ p.2.2 ≤ m :=
    fun p hp => mem_copies.1 hp
  intro p q hpq
  rw [mem_union] at hpq
  refine ⟨fun hqp => ?_, ?_, ?_⟩
  · rw [mem_union] at hqp
    rcases hpq with hpq | hpq <;> rcases hqp with hqp | hqp
    · exact (h p q hpq).1 hqp
    · -- (q,p) is a shift of (a,b), so (p,q) ∈ D shifts to (b,a) ∈ D
      obtain ⟨hs, _, _⟩ := hcp _ hqp
      exact g1 (hD.shift hpq hs.swap.symm hb ha)
    · obtain ⟨hs, _, _⟩ := hcp _ hpq
      exact g1 (hD.shift hqp hs.swap.symm hb ha)
    · exact hab (Shift.eq_of_swap (hcp _ hpq).1 (hcp _ hqp).1)
  · intro hpu
    rcases hpq with hpq | hpq
    · exact (h p q hpq).2.1 hpu
    · obtain ⟨hs, _, _⟩ := hcp _ hpq
      exact g2 (hU.shift hpu hs.symm ha hb)
  · intro hqu
    rcases hpq with hpq | hpq
    · exact (h p q hpq).2.2 hqu
    · obtain ⟨hs, _, _⟩ := hcp _ hpq
      exact g3 (hU.shift hqu hs.swap.symm hb ha)

theorem noConfL_add_und {m : Nat} {D U : List Edge} (hD : ShiftClosed m D)
    (h : NoConfL D U) {a b : Node} (ha : a.2 ≤ m) (hb : b.2 ≤ m)
    (g1 : (a, b) ∉ D) (g2 : (b, a) ∉ D) :
    NoConfL D (union U (copies .und m (a, b))) := by
  have hcp : ∀ p, p ∈ copies .und m (a, b) → (Shift (a, b) p ∨ Shift (b, a) p) := by
    intro p hp
    have hs : Shift (canonUnd (a, b)) p := (mem_copies.1 hp).1
    rcases canonUnd_cases (a, b) with hc | hc <;> rw [hc] at hs
    · exact Or.inl hs
    · exact Or.inr hs
  intro p q hpq
  obtain ⟨h1, h2, h3⟩ := h p q hpq
  refine ⟨h1, fun hpu => ?_, fun hqu => ?_⟩
  · rw [mem_union] at hpu
    rcases hpu with hpu | hpu
    · exact h2 hpu
    · rcases hcp _ hpu with hs | hs
      · exact g1 (hD.shift hpq hs.symm ha hb)
      · exact g2 (hD.shift hpq hs.symm hb ha)
  · rw [mem_union] at hqu
    rcases hqu with hqu | hqu
    · exact h3 hqu
    · rcases hcp _ hqu with hs | hs
      · exact g2 (hD.shift hpq hs.swap.symm hb ha)
      · exact g1 (hD.shift hpq hs.swap.symm ha hb)

/-- C13 invariant + two CPDAG edge types + C03's CPDAG invariant -/
def CInv (s : St) : Prop := Inv s ∧ Shape s ∧ NoConf s

theorem CInv.layerInv {s : St} (h : CInv s) :
    LayerInv s.nodes s.maxLag ⟨.dir, layerEdges s 0⟩ ∧ LayerInv s.nodes s.maxLag ⟨.und, layerEdges s 1⟩ := by
  have hl := h.2.1.layers
  exact ⟨h.1.2 _ (by rw [hl]; simp), h.1.2 _ (by rw [hl]; simp)⟩

theorem CInv.noConfL {s : St} (h : CInv s) : NoConfL (layerEdges s 0) (layerEdges s 1) :=
  (noConf_iff h.2.1.layers).1 h.2.2

theorem cinv_of_layers {s t : St} (hi : Inv t) (h : CInv s) (hl : t.layers = s.layers) : CInv t := by
  refine ⟨hi, ?_, ?_⟩
  · have := h.2.1; unfold Shape at this ⊢; rw [hl]; exact this
  · have := h.2.2
    unfold NoConf at this ⊢
    rw [layerEdges_congr hl, layerEdges_congr hl]
    exact this

theorem cinv_mk {t : St} (hi : Inv t) {A B : Layer} (hl : t.layers = [A, B]) (hA : A.kind = .dir)
    (hB : B.kind = .und) (hc : NoConfL A.edges B.edges) : CInv t := by
  obtain ⟨kA, D'⟩ := A
  obtain ⟨kB, U'⟩ := B
  subst hA hB
  exact ⟨hi, by rw [Shape, hl]; rfl, (noConf_iff hl).2 hc⟩

theorem cinv_of_below {s t : St} (hi : Inv t) (h : CInv s) (hb : Below t s) : CInv t := by
  obtain ⟨hlen, hlay⟩ := hb
  rw [h.2.1.layers] at hlen hlay
  match ht : t.layers, hlen with
  | [A, B], _ =>
    rw [ht] at hlay
    obtain ⟨kA, eA⟩ := hlay 0 A _ rfl rfl
    obtain ⟨kB, eB⟩ := hlay 1 B _ rfl rfl
    exact cinv_mk hi ht kA kB (h.noConfL.mono eA eB)

theorem init_cinv (m : Nat) : CInv (init cfgCpdag m) :=
  cinv_mk (A := ⟨.dir, []⟩) (B := ⟨.und, []⟩) (init_inv _ _) rfl rfl rfl fun _ _ h => nomatch h

theorem toNode_inj {u v : TNode} (hu : u.2 ≤ 0) (hv : v.2 ≤ 0) (h : toNode u = toNode v) : u = v := by
  obtain ⟨x, a⟩ := u
  obtain ⟨y, b⟩ := v
  simp only [toNode, lag, Prod.mk.injEq] at h ⊢
  simp only at hu hv
  exact ⟨h.1, by omega⟩

/-- two members of a bulk list name different (unordered) variable pairs -/
def VarDistinct (e e' : TNode × TNode) : Prop :=
  ¬ ((e.1.1 = e'.1.1 ∧ e.2.1 = e'.2.1) ∨ (e.1.1 = e'.2.1 ∧ e.2.1 = e'.1.1))

theorem noConfL_bulk_dir {m : Nat} {U : List Edge} (hU : ShiftClosed m U) :
    ∀ (es : List (TNode × TNode)) (D : List Edge), ShiftClosed m D → NoConfL D U →
    (∀ e ∈ es, okEdge m e.1 e.2 = true ∧ e.1 ≠ e.2 ∧ (toNode e.2, toNode e.1) ∉ D ∧
      (toNode e.1, toNode e.2) ∉ U ∧ (toNode e.2, toNode e.1) ∉ U) →
    es.Pairwise VarDistinct →
    NoConfL (es.foldl (fun L e => L.add m e.1 e.2) (⟨.dir, D⟩ : Layer)).edges U := by
  intro es
  induction es with
  | nil => exact fun _ _ h _ _ => h
  | cons e es ih =>
    intro D hD h hes hpw
    obtain ⟨hok, hne, g1, g2, g3⟩ := hes e (List.mem_cons_self ..)
    obtain ⟨hu0, hv0⟩ := okEdge_nonpos hok
    obtain ⟨hlu, hlv, hfw⟩ := okEdge_lags hok
    have hne' : toNode e.1 ≠ toNode e.2 := fun hh => hne (toNode_inj hu0 hv0 hh)
    have hpw' := List.pairwise_cons.1 hpw
    refine ih _ (shiftClosed_union hD (shiftClosed_copies _ _ _))
      (noConfL_add_dir hD hU h hlu hlv hfw hne' g1 g2 g3) (fun e' he' => ?_) hpw'.2
    obtain ⟨hok', hne2, k1, k2, k3⟩ := hes e' (List.mem_cons_of_mem _ he')
    refine ⟨hok', hne2, fun hmem => ?_, k2, k3⟩
    -- a later member reversed is not among the copies just added: it names other variables
    rcases mem_union.1 hmem with hmem | hmem
    · exact k1 hmem
    · have hs : Shift (toNode e.1, toNode e.2) _ := (mem_copies (k := .dir).1 hmem).1
      exact hpw'.1 e' he' (Or.inr ⟨hs.1.symm, hs.2.1.symm⟩)

theorem noConfL_bulk_und {m : Nat} {D : List Edge} (hD : ShiftClosed m D) :
    ∀ (es : List (TNode × TNode)) (U : List Edge), NoConfL D U →
    (∀ e ∈ es, lag e.1 ≤ m ∧ lag e.2 ≤ m ∧ (toNode e.1, toNode e.2) ∉ D ∧ (toNode e.2, toNode e.1) ∉ D) →
    NoConfL D (es.foldl (fun L e => L.add m e.1 e.2) (⟨.und, U⟩ : Layer)).edges := by
  intro es
  induction es with
  | nil => exact fun _ h _ => h
  | cons e es ih =>
    intro U h hes
    obtain ⟨hlu, hlv, g1, g2⟩ := hes e (List.mem_cons_self ..)
    exact ih _ (noConfL_add_und hD h hlu hlv g1 g2) fun e' he' => hes e' (List.mem_cons_of_mem _ he')

/-- **the CPDAG guard keeps the invariant** (`add_edges_from` with a named edge type, no self loops,
pairwise different variable pairs; accepted or not): the call checks every member against the graph as it
was before the call and then adds them one after the other -/
theorem cinv_addEdges {s : St} (h : CInv s) (i : Nat) (es : List (TNode × TNode))
    (hne : ∀ e ∈ es, e.1 ≠ e.2) (hpw : es.Pairwise VarDistinct) :
    CInv (addEdges cfgCpdag s (.one i) es).1 := by
  have hi := inv_addEdgesMixed cfgCpdag h.1 (.one i) es
  cases hr : (addEdgesMixed cfgCpdag s (.one i) es).2 with
  | true => exact cinv_of_layers hi h ((addEdgesMixed_frame cfgCpdag s _ es).raised hr).1
  | false =>
    obtain ⟨hg, hok, hsel, hlay⟩ := addEdgesMixed_acc hr
    obtain ⟨⟨_, hD, _, _⟩, ⟨_, hU, _, _⟩⟩ := h.layerInv
    rw [h.2.1.layers] at hlay hsel
    have hi2 : i < 2 := by simpa [selOk] using hsel
    rcases (by omega : i = 0 ∨ i = 1) with rfl | rfl
    · refine cinv_mk hi hlay (foldl_add_kind ..) rfl
        (noConfL_bulk_dir hU es _ hD h.noConfL (fun e he => ?_) hpw)
      obtain ⟨hu0, hv0⟩ := okEdge_nonpos (hok e he)
      obtain ⟨g1, g2, g3⟩ := (guardBad_cpdag_dir hu0 hv0).1 (hg e he)
      exact ⟨hok e he, hne e he, g3, g1, g2⟩
    · refine cinv_mk hi hlay rfl (foldl_add_kind ..)
        (noConfL_bulk_und hD es _ h.noConfL (fun e he => ?_))
      obtain ⟨hu0, hv0⟩ := okEdge_nonpos (hok e he)
      obtain ⟨hlu, hlv, _⟩ := okEdge_lags (hok e he)
      obtain ⟨g1, g2⟩ := (guardBad_cpdag_und hu0 hv0).1 (hg e he)
      exact ⟨hlu, hlv, g1, g2⟩

theorem cinv_addEdge {s : St} (h : CInv s) (i : Nat) (u v : TNode) (huv : u ≠ v) :
    CInv (addEdge cfgCpdag s (.one i) u v).1 := by
  rw [addEdge_eq_bulk]
  exact cinv_addEdges h i [(u, v)] (fun e he => by rw [List.mem_singleton.1 he]; exact huv)
    (List.pairwise_singleton ..)

theorem cinv_removeEdge {s : St} (h : CInv s) (sel : Sel) (u v : TNode) :
    CInv (removeEdge cfgCpdag s sel u v).1 :=
  cinv_of_below (inv_removeEdge cfgCpdag h.1 sel u v) h (removeEdge_below cfgCpdag s sel u v)

theorem cinv_removeEdges {s : St} (h : CInv s) (sel : Sel) (es : List (TNode × TNode)) :
    CInv (removeEdges cfgCpdag s sel es).1 :=
  removeEdges_keeps (P := CInv) (fun _ sel u v hs => cinv_removeEdge hs sel u v) h sel es

theorem cinv_addVar {s : St} (h : CInv s) (x : Nat) : CInv (s.addVar x) :=
  cinv_of_layers (inv_addVar h.1 x) h rfl

theorem cinv_removeVar {s : St} (h : CInv s) (x : Nat) : CInv (s.removeVar x) :=
  cinv_of_below (inv_removeVar h.1 x) h (below_filter s ..)

theorem cinv_shrink {s : St} (h : CInv s) {k : Nat} (hk : k < s.maxLag) : CInv (shrink s k) :=
  cinv_of_below (inv_shrink h.1 hk) h (below_filter s ..)

/-- the lag-0-anchored representative of a (forward) edge -/
def anchor (e : Edge) : Edge := ((e.1.1, e.1.2 - e.2.2), (e.2.1, 0))

theorem grow_anchor {nodes : List Node} {m k : Nat} {L : Layer} (hc : Complete nodes m)
    (hL : LayerInv nodes m L) {p : Edge}
    (hp : p ∈ L.edges.foldl (fun acc e => union acc (copies L.kind k (sortedByTime e))) L.edges) :
    anchor p ∈ L.edges ∧ p.2.2 ≤ p.1.2 := by
  obtain ⟨h1, h2, h3, h4⟩ := hL
  obtain ⟨e, he, hs⟩ : ∃ e ∈ L.edges, Shift e p := by
    rcases (mem_grow_edges h3 h4).1 hp with hp | ⟨e, he, hs, _⟩
    · exact ⟨p, hp, Shift.refl p⟩
    · exact ⟨e, he, hs⟩
  have hq := hs.forward (h3.le he)
  have hwa := (inWin_of hc h1 e he).1
  have hl := hs.2.2
  refine ⟨h2.shift he (e' := anchor p) ⟨hs.1, hs.2.1, ?_⟩ ?_ (Nat.zero_le _), hq⟩ <;>
    simp only [anchor] <;> omega

theorem cinv_grow {s : St} (h : CInv s) {k : Nat} (hk : s.maxLag < k) : CInv (grow s k) := by
  have hi' := inv_grow h.1 hk
  have hl := h.2.1.layers
  obtain ⟨hLD, hLU⟩ := h.layerInv
  have hc := h.noConfL
  have hlay : (grow s k).layers =
      [⟨.dir, (layerEdges s 0).foldl (fun acc e => union acc (copies .dir k (sortedByTime e))) (layerEdges s 0)⟩,
       ⟨.und, (layerEdges s 1).foldl (fun acc e => union acc (copies .und k (sortedByTime e))) (layerEdges s 1)⟩] := by
    simp only [grow]; rw [hl]; rfl
  refine cinv_mk hi' hlay rfl rfl ?_
  -- a conflict between two new edges anchors to a conflict between two old ones
  intro ⟨x, i⟩ ⟨y, j⟩ hpq
  obtain ⟨a1, f1⟩ := grow_anchor h.1.1 hLD (p := ((x, i), (y, j))) hpq
  simp only [anchor] at a1 f1
  refine ⟨fun hqp => ?_, fun hpu => ?_, fun hqu => ?_⟩
  · obtain ⟨a2, f2⟩ := grow_anchor h.1.1 hLD (p := ((y, j), (x, i))) hqp
    simp only [anchor] at a2 f2
    obtain rfl : i = j := Nat.le_antisymm f2 f1
    rw [Nat.sub_self] at a1 a2
    exact (hc _ _ a1).1 a2
  · obtain ⟨a2, _⟩ := grow_anchor h.1.1 hLU (p := ((x, i), (y, j))) hpu
    exact (hc _ _ a1).2.1 a2
  · obtain ⟨a2, f2⟩ := grow_anchor h.1.1 hLU (p := ((y, j), (x, i))) hqu
    simp only [anchor] at a2 f2
    obtain rfl : i = j := Nat.le_antisymm f2 f1
    rw [Nat.sub_self] at a1 a2
    exact (hc _ _ a1).2.2 a2

theorem cinv_setMaxLag {s : St} (h : CInv s) (k : Int) : CInv (setMaxLag s k).1 :=
  setMaxLag_cases (P := fun r => CInv r.1) h h (fun _ hk => cinv_grow h hk) (fun _ hk => cinv_shrink h hk) k

theorem cinv_copyStep {s : St} (h : CInv s) : CInv (step cfgCpdag s .copy).1 := by
  obtain ⟨h1, h2⟩ := copy_same_cpdag s h.1 h.2.1 h.2.2
  simp only [step, h1, Bool.false_eq_true, if_false]
  exact cinv_of_below (inv_copy cfgCpdag s) h h2.below

/-- the calling convention under which the CPDAG guard protects the invariant: additions name one
edge type (`edge_type='all'` bypasses the guard – known finding C03-all-bypasses-guards), no self
loops (outside C03's node-pair quantifier), the members of a bulk addition name pairwise different
variable pairs (the bulk call checks its members against the old graph only – known finding
C03-tscpdag-bulk-self-conflict).  Removals, variables, `set_max_lag`, `copy` are unrestricted. -/
def Op.CpdagSafe : Op → Prop
  | .addEdge l u v => (∃ i, l = .one i) ∧ u ≠ v
  | .addEdges l es => (∃ i, l = .one i) ∧ (∀ e ∈ es, e.1 ≠ e.2) ∧ es.Pairwise VarDistinct
  | _ => True

theorem cinv_step {s : St} (h : CInv s) (op : Op) (hop : op.CpdagSafe) : CInv (step cfgCpdag s op).1 := by
  cases op with
  | addEdge l u v =>
    obtain ⟨⟨i, rfl⟩, huv⟩ := hop
    exact cinv_addEdge h i u v huv
  | addEdges l es =>
    obtain ⟨⟨i, rfl⟩, hne, hpw⟩ := hop
    exact cinv_addEdges h i es hne hpw
  | removeEdge l u v => exact cinv_removeEdge h l u v
  | removeEdges l es => exact cinv_removeEdges h l es
  | addVar x => exact cinv_addVar h x
  | removeVar x => exact cinv_removeVar h x
  | setMaxLag k => exact cinv_setMaxLag h k
  | copy => exact cinv_copyStep h

theorem cinv_run : ∀ (ops : List Op) (s : St), CInv s → (∀ op ∈ ops, op.CpdagSafe) →
    ∀ r ∈ run cfgCpdag s ops, CInv r.1 :=
  run_forall (P := CInv) fun _ op h hop => cinv_step h op hop

/-- **the reachable-state invariant of the StationaryTimeSeriesCPDAG**: after any history of public
operations inside the calling convention, started from the empty CPDAG, no node pair carries a
directed edge together with an undirected or an opposite directed edge -/
theorem C13_cpdag_noConf (m : Nat) (ops : List Op) (hops : ∀ op ∈ ops, op.CpdagSafe) :
    ∀ r ∈ run cfgCpdag (init cfgCpdag m) ops, NoConf r.1 :=
  fun r hr => (cinv_run ops _ (init_cinv m) hops r hr).2.2

/-- **C13, copy clause for the StationaryTimeSeriesCPDAG along histories**: in every state reached
from the empty CPDAG `copy()` (which goes through the mark guard) does not raise and returns a graph
with the same nodes, max_lag and edge sets of both edge types -/
theorem C13_copy_cpdag (m : Nat) (ops : List Op) (hops : ∀ op ∈ ops, op.CpdagSafe) :
    ∀ r ∈ run cfgCpdag (init cfgCpdag m) ops,
      (copy cfgCpdag r.1).2 = false ∧ Same (copy cfgCpdag r.1).1 r.1 := by
  intro r hr
  obtain ⟨h1, h2, h3⟩ := cinv_run ops _ (init_cinv m) hops r hr
  exact copy_same_cpdag r.1 h1 h2 h3

/-- lagged directed edge, contemporaneous undirected edge, a guard rejection, growth, copy, shrink, copy -/
def exCpdag : List Op :=
  [.addEdge (.one 0) (0, -1) (1, 0), .addEdge (.one 1) (0, 0) (2, 0), .addEdge (.one 1) (0, -2) (1, -1),
   .addEdges (.one 0) [((2, -2), (1, 0)), ((1, -1), (1, 0))], .setMaxLag 3, .copy, .setMaxLag 1, .copy]

example : ∀ op ∈ exCpdag, op.CpdagSafe := by
  intro op hop
  simp only [exCpdag, List.mem_cons, List.not_mem_nil, or_false] at hop
  rcases hop with rfl | rfl | rfl | rfl | rfl | rfl | rfl | rfl <;>
    simp [Op.CpdagSafe, VarDistinct]

example : (run cfgCpdag (init cfgCpdag 2) exCpdag).map (fun r => (r.2, r.1.layers.map (·.edges.length))) =
    [(false, [2, 0]), (false, [2, 3]), (true, [2, 3]), (false, [5, 3]), (false, [8, 4]), (false, [8, 4]),
     (false, [2, 2]), (false, [2, 2])] := by decide +kernel

/-- the hypothesis `NoConf` of `copy_same_cpdag` cannot be dropped: the bulk addition
`[x(0) -> y(0), y(0) -> x(0)]` is accepted (its members are checked against the old graph only – known
finding C03-tscpdag-bulk-self-conflict, outside `Op.CpdagSafe`) and `copy()` of the state it leaves raises -/
theorem C13_counterexample_copy_conflict :
    (run cfgCpdag (init cfgCpdag 1) [.addEdges (.one 0) [((0, 0), (1, 0)), ((1, 0), (0, 0))], .copy]).map (·.2) =
      [false, true] := by decide

end C13
