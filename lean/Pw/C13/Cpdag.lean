import Pw.C13.History

/-! `StationaryTimeSeriesCPDAG.copy()` re-adds every adjacency entry into lag 0 through the *guarded*
public `add_edge` (`_check_adding_cpdag_edge`).  The copy is equal to the original as soon as the
original carries no directed edge together with an undirected or an opposite directed edge on a node
pair (`NoConf`, property C03's invariant for CPDAGs, stated on the node-level edge lists of the C13
model): the copy under construction lies *below* the original (`Below`), and there the guard accepts. -/
namespace C13

theorem layerEdges_eq (s : St) (i : Nat) :
    layerEdges s i = match s.layers[i]? with | some L => L.edges | none => [] := by
  unfold layerEdges
  rw [List.getD_eq_getElem?_getD]
  cases s.layers[i]? <;> rfl

theorem layerEdges_congr {s t : St} (h : t.layers = s.layers) (i : Nat) :
    layerEdges t i = layerEdges s i := by
  unfold layerEdges; rw [h]

theorem layerEdges_of_layers {t : St} {A B : Layer} (h : t.layers = [A, B]) :
    layerEdges t 0 = A.edges ∧ layerEdges t 1 = B.edges := by
  unfold layerEdges; rw [h]; exact ⟨rfl, rfl⟩

/-- `t` has the same edge types as `s` and, per edge type, only edges of `s` -/
def Below (t s : St) : Prop :=
  t.layers.length = s.layers.length ∧
  ∀ (i : Nat) (T L : Layer), t.layers[i]? = some T → s.layers[i]? = some L → T.kind = L.kind ∧ ∀ e ∈ T.edges, e ∈ L.edges

theorem Below.mem {t s : St} (h : Below t s) {j : Nat} {e : Edge} (he : e ∈ layerEdges t j) :
    e ∈ layerEdges s j := by
  rw [layerEdges_eq] at he
  cases hT : t.layers[j]? with
  | none => simp [hT] at he
  | some T =>
    simp only [hT] at he
    have hj : j < s.layers.length := by
      rw [← h.1]; exact (List.getElem?_eq_some_iff.1 hT).1
    have hL : s.layers[j]? = some s.layers[j] := List.getElem?_eq_getElem hj
    rw [layerEdges_eq, hL]
    exact (h.2 j T _ hT hL).2 e he

theorem Below.refl (s : St) : Below s s :=
  ⟨rfl, fun _ _ _ hT hL => Option.some.inj (hT.symm.trans hL) ▸ ⟨rfl, fun _ he => he⟩⟩

theorem Below.update {t s : St} (hb : Below t s) {sel : Sel} {f : Layer → Layer}
    (hf : ∀ j T L, t.layers[j]? = some T → s.layers[j]? = some L → selHas sel j = true →
      (f T).kind = L.kind ∧ ∀ e ∈ (f T).edges, e ∈ L.edges) :
    Below { t with layers := mapSel sel f 0 t.layers } s := by
  refine ⟨(mapSel_length ..).trans hb.1, fun j T L hT hL => ?_⟩
  simp only [getElem?_mapSel, Nat.zero_add] at hT
  cases hT0 : t.layers[j]? with
  | none => simp [hT0] at hT
  | some T0 =>
    simp only [hT0, Option.map_some, Option.some.injEq] at hT
    subst hT
    split
    · exact hf j T0 L hT0 hL ‹_›
    · exact hb.2 j T0 L hT0 hL

theorem Same.below {t s : St} (h : Same t s) : Below t s :=
  ⟨h.2.2.1, fun i T L hT hL => ⟨(h.2.2.2 i T L hT hL).1, fun e he => ((h.2.2.2 i T L hT hL).2 e).1 he⟩⟩

theorem Below.add {s : St} (hs : Inv s) {i : Nat} {L0 : Layer} (hL0 : s.layers[i]? = some L0)
    {t : St} (hb : Below t s) {e : Edge} (he : e ∈ copyCands true L0) :
    Below { t with layers := mapSel (.one i) (·.add s.maxLag (tnode e.1) (tnode e.2)) 0 t.layers } s := by
  refine hb.update fun j T L hT hL hj => ?_
  obtain rfl : i = j := by simpa [selHas] using hj
  obtain rfl : L0 = L := Option.some.inj (hL0.symm.trans hL)
  obtain ⟨hk, hsub⟩ := hb.2 i T L0 hT hL
  refine ⟨hk, fun p hp => (mem_union.1 hp).elim (hsub p) fun hp => ?_⟩
  rw [hk, toNode_tnode, toNode_tnode] at hp
  exact copies_cand_sub (hs.2 L0 (List.mem_of_getElem? hL0)) he hp

theorem removeEdge_below (cfg : Cfg) (s : St) (sel : Sel) (u v : TNode) :
    Below (removeEdge cfg s sel u v).1 s := by
  refine removeEdge_cases (P := fun r => Below r.1 s) (Below.refl s) (fun sel' => ?_) sel
  refine (Below.refl s).update fun j T L hT hL _ => ?_
  cases Option.some.inj (hT.symm.trans hL)
  exact ⟨rfl, fun e he => (mem_diff.1 he).1⟩

theorem below_filter (s : St) (nodes : List Node) (m : Nat) (keep : Edge → Bool) :
    Below ⟨nodes, m, s.layers.map fun L => { L with edges := L.edges.filter keep }⟩ s := by
  rw [← mapSel_all _ _ 0]
  refine (Below.refl s).update fun j T L hT hL _ => ?_
  cases Option.some.inj (hT.symm.trans hL)
  exact ⟨rfl, fun e he => (List.mem_filter.1 he).1⟩

/-- **copy clause for a mixed-edge class with a mark guard**: if the guard accepts every candidate of
the copy loop in every graph below the original, `copy()` does not raise and returns an equal graph -/
theorem copy_same_guarded (cfg : Cfg) (hm : cfg.mixed = true) (s : St) (hi : Inv s)
    (hG : ∀ t, Below t s → ∀ i L0, s.layers[i]? = some L0 → ∀ e ∈ copyCands true L0,
      guardBad cfg t (.one i) (tnode e.1) (tnode e.2) = false) :
    (copy cfg s).2 = false ∧ Same (copy cfg s).1 s := by
  refine copy_same_of_loop cfg s hi fun nodes hc hn =>
    copyLayers_present (P := fun ls => Below ⟨nodes, s.maxLag, ls⟩ s) hc s.layers 0 _ ?_
      (fun k hk => ?_) (fun L0 hL0 e he => ?_) (fun k L0 hk ls e hb he => ?_)
  · refine ⟨List.length_map _, fun j T L hT hL => ?_⟩
    rw [List.getElem?_map, hL] at hT
    cases hT
    exact ⟨rfl, fun e he => nomatch he⟩
  · rw [CopySel, if_pos hm, List.length_map, Nat.zero_add]
    exact hk
  · exact copyCands_ends ((hi.2 L0 hL0).mono fun n => (hn n).2) he
  · rw [hm] at he
    rw [Nat.zero_add]
    exact ⟨hG _ hb k L0 hk e he, Below.add hi hk hb he⟩

/-- property C03's CPDAG invariant on the node-level edge lists: no node pair carries a directed edge
together with an opposite directed edge or an undirected edge (layer 0 = directed, layer 1 =
undirected; an undirected edge is looked up in both orientations like `nx.Graph.has_edge`) -/
def NoConf (s : St) : Prop :=
  ∀ p q, (p, q) ∈ layerEdges s 0 →
    (q, p) ∉ layerEdges s 0 ∧ (p, q) ∉ layerEdges s 1 ∧ (q, p) ∉ layerEdges s 1

/-- the two edge types of a CPDAG -/
def Shape (s : St) : Prop := s.layers.map (·.kind) = [.dir, .und]

theorem Shape.layers {s : St} (h : Shape s) :
    s.layers = [⟨.dir, layerEdges s 0⟩, ⟨.und, layerEdges s 1⟩] := by
  unfold Shape at h
  unfold layerEdges
  match hl : s.layers, h with
  | [⟨k0, D⟩, ⟨k1, U⟩], h =>
    simp only [List.map_cons, List.map_nil, List.cons.injEq, and_true] at h
    obtain ⟨rfl, rfl⟩ := h
    rfl

theorem hasDir_eq {E : List Edge} {u v : TNode} (hu : u.2 ≤ 0) (hv : v.2 ≤ 0) :
    hasDir E u v = E.contains (toNode u, toNode v) := by simp [hasDir, hu, hv]

theorem guardBad_cpdag_dir {s : St} {u v : TNode} (hu : u.2 ≤ 0) (hv : v.2 ≤ 0) :
    guardBad cfgCpdag s (.one 0) u v = false ↔ (toNode u, toNode v) ∉ layerEdges s 1 ∧
      (toNode v, toNode u) ∉ layerEdges s 1 ∧ (toNode v, toNode u) ∉ layerEdges s 0 := by
  simp only [guardBad, cfgCpdag, hasUnd, hasDir_eq hu hv, hasDir_eq hv hu, Bool.or_eq_false_iff,
    List.contains_eq_mem, decide_eq_false_iff_not, and_assoc]

theorem guardBad_cpdag_und {s : St} {u v : TNode} (hu : u.2 ≤ 0) (hv : v.2 ≤ 0) :
    guardBad cfgCpdag s (.one 1) u v = false ↔
      (toNode u, toNode v) ∉ layerEdges s 0 ∧ (toNode v, toNode u) ∉ layerEdges s 0 := by
  simp only [guardBad, cfgCpdag, hasDir_eq hu hv, hasDir_eq hv hu, Bool.or_eq_false_iff,
    List.contains_eq_mem, decide_eq_false_iff_not]

theorem guard_cpdag_copy {s : St} (hk : Shape s) (hc : NoConf s) :
    ∀ t, Below t s → ∀ i L0, s.layers[i]? = some L0 → ∀ e ∈ copyCands true L0,
      guardBad cfgCpdag t (.one i) (tnode e.1) (tnode e.2) = false := by
  intro t hb i L0 hL0 ⟨p, q⟩ he
  have hmem := (mem_copyCands.1 he).1
  rw [hk.layers] at hL0
  match i with
  | 0 =>
    cases hL0
    obtain ⟨h1, h2, h3⟩ := hc p q (hmem.resolve_right fun h => nomatch h.1)
    rw [guardBad_cpdag_dir (tnode_nonpos p) (tnode_nonpos q), toNode_tnode, toNode_tnode]
    exact ⟨fun h => h2 (hb.mem h), fun h => h3 (hb.mem h), fun h => h1 (hb.mem h)⟩
  | 1 =>
    cases hL0
    rw [guardBad_cpdag_und (tnode_nonpos p) (tnode_nonpos q), toNode_tnode, toNode_tnode]
    -- a directed edge of `t` is one of `s`, where it excludes the undirected candidate
    refine ⟨fun h => ?_, fun h => ?_⟩
    · obtain ⟨_, h2, h3⟩ := hc p q (hb.mem h)
      exact hmem.elim h2 fun h' => h3 h'.2
    · obtain ⟨_, h2, h3⟩ := hc q p (hb.mem h)
      exact hmem.elim h3 fun h' => h2 h'.2
  | _ + 2 => rfl

/-- **C13, copy clause for the StationaryTimeSeriesCPDAG**: in every state that satisfies the C13
invariant and carries no directed/undirected or directed/opposite-directed conflict (C03's CPDAG
invariant), `copy()` – which re-adds the edges through the mark guard – does not raise and returns a
graph with the same nodes, max_lag and edges of both edge types. -/
theorem copy_same_cpdag (s : St) (hi : Inv s) (hk : Shape s) (hc : NoConf s) :
    (copy cfgCpdag s).2 = false ∧ Same (copy cfgCpdag s).1 s :=
  copy_same_guarded cfgCpdag rfl s hi (guard_cpdag_copy hk hc)

end C13
