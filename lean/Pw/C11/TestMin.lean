import Pw.C11.Complete
open Closure MG C12

/-! # C11, second sentence: `is_minimal_m_separator` answers `True` exactly for the I-minimal separators
(unconditional, for the model; same fixed-graph argument as in Complete.lean) -/
namespace C11

/-- the other half of TESTMINSEP: an I-minimal separator lies inside the anterior set, and each of its
    nodes outside `I` is marked from x and from y; otherwise a smaller set would separate as well -/
theorem marked_of_minSep {G : MG} {x y : Nat} {I R : List Nat} (D : Dom G x y I R) (hwf : G.WF)
    (hb : NoUndirAtHead G) (hsl : NoSelfLoop G) {Z : List Nat} (h : MinSep G x y I R Z) :
    (∀ z ∈ Z, z ∈ antA G x y I) ∧ ∀ v ∈ Z, v ∉ I →
      v ∈ bfsWithMarks (augH G x y I) x Z ∧ v ∈ bfsWithMarks (augH G x y I) y Z := by
  obtain ⟨⟨hIZ, hZR, hmsep⟩, hmin⟩ := h
  have hxZ : x ∉ Z := fun h => D.hxR (hZR x h)
  have hyZ : y ∉ Z := fun h => D.hyR (hZR y h)
  have hcutZ := cut_of_sep G hwf hb hsl x y I D.hx D.hy D.hI Z hIZ (fun z hz => D.hR z (hZR z hz)) hxZ hyZ hmsep
  -- a filtered copy of Z that is still a separator contradicts minimality
  have hfil : ∀ p : Nat → Bool, (∀ i ∈ I, p i = true) → (∀ z ∈ Z, p z = true → z ∈ antA G x y I) →
      (∃ z ∈ Z, p z = false) → PA (morH G x y I) (Z.filter p) x y := by
    intro p hpI hpA ⟨z, hz, hpz⟩
    apply Classical.byContradiction
    intro hnp
    have hsubZ : ∀ z ∈ Z.filter p, z ∈ Z := fun z hz => (List.mem_filter.mp hz).1
    have hI1 : ∀ i ∈ I, i ∈ Z.filter p := fun i hi => List.mem_filter.mpr ⟨hIZ i hi, hpI i hi⟩
    have hR1 : ∀ z ∈ Z.filter p, z ∈ R := fun z hz => hZR z (hsubZ z hz)
    exact hmin (Z.filter p) hsubZ ⟨z, hz, fun h => by simp [hpz] at h⟩
      ⟨hI1, hR1, (D.msep_iff_cut hwf hb hsl hI1 hR1
        fun z hz => hpA z (hsubZ z hz) (List.mem_filter.mp hz).2).mpr hnp⟩
  -- the nodes of Z outside the anterior set play no part in `H`
  have hZA : ∀ z ∈ Z, z ∈ antA G x y I := by
    intro z0 hz0
    apply Classical.byContradiction
    intro hnA
    have hp := hfil (fun v => decide (v ∈ antA G x y I))
      (fun i hi => decide_eq_true (D.I_sub_A i hi))
      (fun z _ hz => of_decide_eq_true hz) ⟨z0, hz0, decide_eq_false hnA⟩
    exact hcutZ (hp.mono_Z fun v hv hvZ =>
      List.mem_filter.mpr ⟨hvZ, decide_eq_true (mem_restrict_nodes.mp hv).2⟩)
  refine ⟨hZA, fun v hv hvI => ?_⟩
  -- Z ∖ {v} is not a cut
  have hneed : PA (morH G x y I) (Z.filter (· ≠ v)) x y :=
    hfil (fun a => decide (a ≠ v)) (fun i hi => decide_eq_true fun e : i = v => hvI (e ▸ hi))
      (fun z hz _ => hZA z hz) ⟨v, hv, by simp⟩
  exact ⟨mark_of_hit hIZ hxZ hv hvI hcutZ hneed,
    mark_of_hit hIZ hyZ hv hvI (fun p => hcutZ (p.symm fun _ _ => uadj_symm))
      (hneed.symm fun _ _ => uadj_symm)⟩

section
variable (G : MG) (hwf : G.WF) (hb : NoUndirAtHead G) (hsl : NoSelfLoop G) (hac : Acyclic G)
  (x y : Nat) (I R : List Nat)
  (hx : x ∈ G.nodes) (hy : y ∈ G.nodes) (hR : ∀ r ∈ R, r ∈ G.nodes) (hxR : x ∉ R) (hyR : y ∉ R)
  (hIR : ∀ i ∈ I, i ∈ R)
include hwf hb hsl hac hx hy hR hxR hyR hIR

/-- **C11, second sentence, for the model (unconditional).** -/
theorem isMinimalMSep_iff (Z : List Nat) :
    isMinimalMSep G x y Z I R = .ok true ↔ MinSep G x y I R Z := by
  have D : Dom G x y I R := ⟨hx, hy, hR, hxR, hyR, hIR⟩
  rw [isMinimalMSep_true_iff, mSeparatedE_ok hwf hac]
  simp only [subset_iff, setEq_iff, Except.ok.injEq, List.mem_filter, decide_eq_true_eq]
  constructor
  · rintro ⟨hIZ, hZR, hZA, hsep, hrx, hry⟩
    exact D.minSep_of_marked hwf hb hsl hIZ hZR hZA ((D.mSeparated_iff hwf hb hsl hZR).mp hsep) hZR hZR
      (fun z => List.mem_append_left _) (fun z => List.mem_append_left _)
      (fun w hw hwI => (hrx w).mp ⟨hw, hwI⟩) (fun w hw hwI => (hry w).mp ⟨hw, hwI⟩)
  · intro h
    obtain ⟨hZA, hm⟩ := marked_of_minSep D hwf hb hsl h
    have hsub : ∀ {s v}, v ∈ bfsWithMarks (augH G x y I) s Z → v ∈ Z ∧ v ∉ I := fun hv =>
      have ⟨hvZ, _, hvM, _⟩ := of_mem_bfsWithMarks hv
      ⟨hvZ, (mem_delete_nodes.mp hvM).2⟩
    exact ⟨h.1.1, h.1.2.1, hZA, (D.mSeparated_iff hwf hb hsl h.1.2.1).mpr h.1.2.2,
      fun v => ⟨fun hv => (hm v hv.1 hv.2).1, hsub⟩, fun v => ⟨fun hv => (hm v hv.1 hv.2).2, hsub⟩⟩

end

/-! ## non-vacuity: the hypotheses of `minimalMSep_spec` / `isMinimalMSep_iff` are satisfiable -/

/-- `0 -> 2 -> 4 <- 3 <- 1`, x = 0, y = 1, I = {4}, R = {2,3,4}: a collider with two non-adjacent
    parents that is forced into the separator, so one of its parents is needed as well -/
def G2 : MG := { nodes := [0, 1, 2, 3, 4], dir := [(0, 2), (2, 4), (1, 3), (3, 4)] }

theorem G2_wf : G2.WF := by unfold MG.WF; decide

theorem G2_nsl : NoSelfLoop G2 := noSelfLoop_of_ne (by decide)

theorem G2_acyclic : Acyclic G2 := by
  -- rank function: every edge increases it
  let rk : Nat → Nat := fun v => if v = 4 then 2 else if v = 2 ∨ v = 3 then 1 else 0
  have hedge : ∀ e ∈ G2.dir, rk e.1 < rk e.2 := by decide
  have hmono : ∀ a b, Anc G2 a b → rk a ≤ rk b := by
    intro a b h
    induction h with
    | refl => exact Nat.le_refl _
    | step e _ ih => exact Nat.le_trans (Nat.le_of_lt (hedge _ e)) ih
  intro a b hab hba
  exact Nat.lt_irrefl _ (Nat.lt_of_lt_of_le (hedge _ hab) (hmono b a hba))

example : G2.WF ∧ NoUndirAtHead G2 ∧ NoSelfLoop G2 ∧ Acyclic G2 ∧ (0 ∈ G2.nodes) ∧ (1 ∈ G2.nodes) ∧
    (∀ r ∈ [2, 3, 4], r ∈ G2.nodes) ∧ (0 ∉ [2, 3, 4]) ∧ (1 ∉ [2, 3, 4]) ∧ (∀ i ∈ [4], i ∈ [2, 3, 4]) :=
  ⟨G2_wf, noUndirAtHead_of_un_nil G2 rfl, G2_nsl, G2_acyclic, by decide, by decide, by decide,
    by decide, by decide, by decide⟩

end C11
