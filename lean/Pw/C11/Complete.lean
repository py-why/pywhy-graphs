import Pw.C11.Decider
open Closure MG C12

/-! # C11: completeness and minimality of `minimal_m_separator` (unconditional)

With T2 proved (Pw/T2) and bridged to the models (Pw/C12/Cut), what is left of van der Zander et
al.'s FINDMINSEP argument is elementary reasoning about vertex cuts in one fixed undirected graph
`H = moral (restrict G A)`, `A = anterior G ({x,y} ∪ I)`:

* every set `Z'` with `I ⊆ Z' ⊆ A` has the same anterior set, hence
  `MSep G [x] [y] Z' ↔ Z'` cuts x from y in `H`  (`msep_iff_cut`);
* a separator `Z ⊇ I` of any shape still cuts x from y in `H`  (`cut_of_sep`);
* marking from x, then from y, keeps a cut a cut (`cut_shrink`), a node that a cut needs is marked
  (`mark_of_hit`) and a node marked from both sides is needed (`minSep_of_marked`). -/
namespace C11

theorem uadj_delete {H : UG} {I : List Nat} {a b : Nat} :
    UAdj (delete H I).edges a b ↔ (UAdj H.edges a b ∧ a ∉ I ∧ b ∉ I) := by
  unfold UAdj delete
  simp only [List.mem_filter, decide_eq_true_eq]
  constructor
  · rintro (⟨h, h1, h2⟩ | ⟨h, h1, h2⟩)
    · exact ⟨Or.inl h, h1, h2⟩
    · exact ⟨Or.inr h, h2, h1⟩
  · rintro ⟨h | h, h1, h2⟩
    · exact Or.inl ⟨h, h1, h2⟩
    · exact Or.inr ⟨h, h2, h1⟩

abbrev PA (H : UG) (Z : List Nat) (a b : Nat) : Prop :=
  PathAvoid (· ∈ H.nodes) (UAdj H.edges) Z a b

theorem bfree_delete_iff {H : UG} {I K : List Nat} {s v : Nat} (hs : s ∈ H.nodes) (hsZ : s ∉ K ++ I) :
    BFree (delete H I) K s v ↔ PA H (K ++ I) s v := by
  constructor
  · intro h
    induction h with
    | refl => exact PathAvoid.refl _ hs hsZ
    | step _ hadj hwn hwk ih =>
      have hw := mem_delete_nodes.mp hwn
      exact PathAvoid.tail ih (uadj_delete.mp hadj).1 hw.1 fun h => (List.mem_append.mp h).elim hwk hw.2
  · intro h
    induction h with
    | refl => exact BFree.refl
    | @tail b c hab e hc hcZ ih =>
      have hbI : b ∉ I := fun hi => hab.right_mem.2 (List.mem_append_right _ hi)
      have hcI : c ∉ I := fun hi => hcZ (List.mem_append_right _ hi)
      exact BFree.step ih (uadj_delete.mpr ⟨e, hbI, hcI⟩) (mem_delete_nodes.mpr ⟨hc, hcI⟩)
        fun hk => hcZ (List.mem_append_left _ hk)

theorem mem_marks {H : UG} {I K : List Nat} {s w : Nat} (hs : s ∈ H.nodes) (hsZ : s ∉ K ++ I) :
    w ∈ bfsWithMarks (delete H I) s K ↔
      (w ∈ K ∧ w ∉ I ∧ w ∈ H.nodes ∧ ∃ u, PA H (K ++ I) s u ∧ UAdj H.edges u w) := by
  have hsI : s ∉ I := fun h => hsZ (List.mem_append_right _ h)
  rw [mem_bfsWithMarks (mem_delete_nodes.mpr ⟨hs, hsI⟩)]
  simp only [bfree_delete_iff hs hsZ, mem_delete_nodes, uadj_delete]
  constructor
  · rintro ⟨hk, _, ⟨hn, hI⟩, u, hu, hadj, _⟩; exact ⟨hk, hI, hn, u, hu, hadj⟩
  · rintro ⟨hk, hI, hn, u, hu, hadj⟩
    exact ⟨hk, fun e => hsZ (List.mem_append_left _ (e ▸ hk)), ⟨hn, hI⟩, u, hu, hadj,
      fun h => hu.right_mem.2 (List.mem_append_right _ h), hI⟩

theorem pa_to_mark {H : UG} {I K Z' : List Nat} {s w : Nat} (hs : s ∈ H.nodes) (hsZ : s ∉ K ++ I)
    (hw : w ∈ bfsWithMarks (delete H I) s K) (hZ' : ∀ a ∈ Z', a ∈ K ++ I) (hwZ' : w ∉ Z') :
    PA H Z' s w := by
  obtain ⟨_, _, hwH, u, hu, hadj⟩ := (mem_marks hs hsZ).mp hw
  exact PathAvoid.tail (hu.mono_Z fun a _ => hZ' a) hadj hwH hwZ'

theorem first_hit {H : UG} {Z Z1 : List Nat} {s t : Nat} (hsZ : s ∉ Z) (h : PA H Z1 s t) :
    PA H (Z ++ Z1) s t ∨
      ∃ u v, PA H (Z ++ Z1) s u ∧ UAdj H.edges u v ∧ v ∈ H.nodes ∧ v ∈ Z ∧ v ∉ Z1 := by
  induction h with
  | refl ha haZ1 => exact Or.inl (PathAvoid.refl _ ha fun h => (List.mem_append.mp h).elim hsZ haZ1)
  | @tail b c _ e hc hcZ1 ih =>
    rcases ih with ih | ih
    · by_cases hcZ : c ∈ Z
      · exact Or.inr ⟨b, c, ih, e, hc, hcZ, hcZ1⟩
      · exact Or.inl (PathAvoid.tail ih e hc fun h => (List.mem_append.mp h).elim hcZ hcZ1)
    · exact Or.inr ih

/-- the first node of `K` on a walk that avoids `I` is marked -/
theorem cut_shrink {H : UG} {I K : List Nat} {s t : Nat} (hsK : s ∉ K) (hsI : s ∉ I)
    (hcut : ¬ PA H (K ++ I) s t) : ¬ PA H (bfsWithMarks (delete H I) s K ++ I) s t := by
  intro p
  have hsZ : s ∉ K ++ I := fun h => (List.mem_append.mp h).elim hsK hsI
  have weaken : ∀ {u}, PA H (K ++ (bfsWithMarks (delete H I) s K ++ I)) s u → PA H (K ++ I) s u :=
    PathAvoid.mono_Z fun v _ hv => (List.mem_append.mp hv).elim (List.mem_append_left _)
      fun h => List.mem_append_right _ (List.mem_append_right _ h)
  rcases first_hit hsK p with h | ⟨u, v, hu, hadj, hv, hvK, hvM⟩
  · exact hcut (weaken h)
  · exact hvM (List.mem_append_left _ ((mem_marks p.left_mem.1 hsZ).mpr
      ⟨hvK, fun h => hvM (List.mem_append_right _ h), hv, u, weaken hu, hadj⟩))

theorem mark_of_hit {H : UG} {I Z : List Nat} {s t v : Nat} (hIZ : ∀ i ∈ I, i ∈ Z) (hsZ : s ∉ Z)
    (hvZ : v ∈ Z) (hvI : v ∉ I) (hcut : ¬ PA H Z s t) (hp : PA H (Z.filter (· ≠ v)) s t) :
    v ∈ bfsWithMarks (delete H I) s Z := by
  have hsZI : s ∉ Z ++ I := fun h => (List.mem_append.mp h).elim hsZ fun hi => hsZ (hIZ s hi)
  rcases first_hit hsZ hp with h | ⟨u, w, hu, hadj, hw, hwZ, hwF⟩
  · exact absurd (h.mono_Z fun a _ ha => List.mem_append_left _ ha) hcut
  · by_cases hwv : w = v
    · subst hwv
      exact (mem_marks hp.left_mem.1 hsZI).mpr ⟨hwZ, hvI, hw, u,
        hu.mono_Z fun a _ ha => List.mem_append_left _ ((List.mem_append.mp ha).elim id (hIZ a)), hadj⟩
    · exact absurd (List.mem_filter.mpr ⟨hwZ, by simpa using hwv⟩) hwF

theorem forall_seeds {P : Nat → Prop} {x y : Nat} {I : List Nat} (hx : P x) (hy : P y)
    (hI : ∀ i ∈ I, P i) : ∀ s ∈ x :: y :: I, P s :=
  List.forall_mem_cons.mpr ⟨hx, List.forall_mem_cons.mpr ⟨hy, hI⟩⟩

theorem seeds_sub {x y : Nat} {I Z : List Nat} (hIZ : ∀ i ∈ I, i ∈ Z) : ∀ s ∈ x :: y :: I, s ∈ x :: y :: Z :=
  forall_seeds List.mem_cons_self (List.mem_cons_of_mem _ List.mem_cons_self)
    fun i hi => List.mem_cons_of_mem _ (List.mem_cons_of_mem _ (hIZ i hi))

section
variable (G : MG) (hwf : G.WF) (hb : NoUndirAtHead G) (hsl : NoSelfLoop G) (x y : Nat) (I : List Nat)
  (hx : x ∈ G.nodes) (hy : y ∈ G.nodes) (hI : ∀ i ∈ I, i ∈ G.nodes)
include hwf hx hy hI hb hsl
set_option linter.unusedSectionVars false

theorem msep_iff_cut (Z' : List Nat) (hIZ : ∀ i ∈ I, i ∈ Z') (hZA : ∀ z ∈ Z', z ∈ antA G x y I)
    (hxZ : x ∉ Z') (hyZ : y ∉ Z') : MSep G [x] [y] Z' ↔ ¬ PA (morH G x y I) Z' x y := by
  have hS := forall_seeds hx hy hI
  have hA : IsAntSet G (x :: y :: Z') (antA G x y I) :=
    isAntSet_of_between hwf hS (seeds_sub hIZ) <| forall_seeds (subset_anterior List.mem_cons_self hx)
      (subset_anterior (List.mem_cons_of_mem _ List.mem_cons_self) hy) hZA
  rw [sep_iff_vcut_of_antSet G hwf hb hsl [x] [y] Z' (List.forall_mem_singleton.mpr hx)
    (fun z hz => anterior_sub_nodes (hZA z hz)) (List.forall_mem_singleton.mpr hxZ)
    (List.forall_mem_singleton.mpr hyZ) _ hA]
  exact cutR_singleton

/-- the anterior set of `{x, y} ∪ Z` contains `A`, and a larger induced subgraph has more walks -/
theorem cut_of_sep (Z : List Nat) (hIZ : ∀ i ∈ I, i ∈ Z) (hZn : ∀ z ∈ Z, z ∈ G.nodes)
    (hxZ : x ∉ Z) (hyZ : y ∉ Z) (h : MSep G [x] [y] Z) : ¬ PA (morH G x y I) Z x y := by
  intro p
  have hcut := (sep_iff_vcut G hwf hb hsl [x] [y] Z (List.forall_mem_singleton.mpr hx)
    (List.forall_mem_singleton.mpr hy) hZn (List.forall_mem_singleton.mpr hxZ)
    (List.forall_mem_singleton.mpr hyZ)).mp h
  exact cutR_singleton.mp hcut
    (pa_moral_mono hwf hsl (fun a => anterior_mono (seeds_sub hIZ)) p)

/-- the restricted graph has the same anterior set (the code calls `_anterior` on `G_copy`) -/
theorem mem_anterior_restrict {a : Nat} :
    a ∈ anterior (restrict G (antA G x y I)) (x :: y :: I) ↔ a ∈ antA G x y I :=
  anterior_restrict hwf (forall_seeds hx hy hI)

end

/-- the domain of the property: x, y ∈ V and I ⊆ R ⊆ V ∖ {x, y} -/
structure Dom (G : MG) (x y : Nat) (I R : List Nat) : Prop where
  hx : x ∈ G.nodes
  hy : y ∈ G.nodes
  hR : ∀ r ∈ R, r ∈ G.nodes
  hxR : x ∉ R
  hyR : y ∉ R
  hIR : ∀ i ∈ I, i ∈ R

namespace Dom
variable {G : MG} {x y : Nat} {I R : List Nat}

theorem hI (D : Dom G x y I R) : ∀ i ∈ I, i ∈ G.nodes := fun i hi => D.hR i (D.hIR i hi)

theorem seeds (D : Dom G x y I R) : ∀ s ∈ x :: y :: I, s ∈ G.nodes := forall_seeds D.hx D.hy D.hI

theorem seed_mem_A (D : Dom G x y I R) {s : Nat} (hs : s ∈ x :: y :: I) : s ∈ antA G x y I :=
  subset_anterior hs (D.seeds s hs)

theorem seed_mem_H (D : Dom G x y I R) {s : Nat} (hs : s ∈ x :: y :: I) : s ∈ (morH G x y I).nodes :=
  mem_restrict_nodes.mpr ⟨D.seeds s hs, D.seed_mem_A hs⟩

theorem I_sub_A (D : Dom G x y I R) : ∀ i ∈ I, i ∈ antA G x y I := fun _ hi =>
  D.seed_mem_A (List.mem_cons_of_mem _ (List.mem_cons_of_mem _ hi))

theorem notMem_of_notMem_R (D : Dom G x y I R) {v : Nat} (hv : v ∉ R) {K : List Nat} (hK : ∀ k ∈ K, k ∈ R) : v ∉ K ++ I :=
  fun h => (List.mem_append.mp h).elim (fun h => hv (hK v h)) fun h => hv (D.hIR v h)

theorem mSeparated_iff (D : Dom G x y I R) (hwf : G.WF) (hb : NoUndirAtHead G) (hsl : NoSelfLoop G)
    {Z : List Nat} (hZR : ∀ z ∈ Z, z ∈ R) :
    mSeparated G [x] [y] Z = true ↔ MSep G [x] [y] Z :=
  mSeparated_pair_iff hwf hb hsl D.hx (fun z hz => D.hR z (hZR z hz)) fun h => D.hxR (hZR x h)

theorem msep_iff_cut (D : Dom G x y I R) (hwf : G.WF) (hb : NoUndirAtHead G) (hsl : NoSelfLoop G)
    {Z : List Nat} (hIZ : ∀ i ∈ I, i ∈ Z) (hZR : ∀ z ∈ Z, z ∈ R)
    (hZA : ∀ z ∈ Z, z ∈ antA G x y I) : MSep G [x] [y] Z ↔ ¬ PA (morH G x y I) Z x y :=
  C11.msep_iff_cut G hwf hb hsl x y I D.hx D.hy D.hI Z hIZ hZA (fun h => D.hxR (hZR x h))
    fun h => D.hyR (hZR y h)

/-- the minimality argument of FINDMINSEP and TESTMINSEP: through a node marked from x and from y, with
    check sets that contain `Z ∖ I`, runs a walk from x to y that avoids the rest of `Z` -/
theorem minSep_of_marked (D : Dom G x y I R) (hwf : G.WF) (hb : NoUndirAtHead G) (hsl : NoSelfLoop G)
    {Z Kx Ky : List Nat} (hIZ : ∀ i ∈ I, i ∈ Z) (hZR : ∀ z ∈ Z, z ∈ R)
    (hZA : ∀ z ∈ Z, z ∈ antA G x y I) (hsep : MSep G [x] [y] Z)
    (hKx : ∀ k ∈ Kx, k ∈ R) (hKy : ∀ k ∈ Ky, k ∈ R)
    (hZx : ∀ z ∈ Z, z ∈ Kx ++ I) (hZy : ∀ z ∈ Z, z ∈ Ky ++ I)
    (hmx : ∀ w ∈ Z, w ∉ I → w ∈ bfsWithMarks (augH G x y I) x Kx)
    (hmy : ∀ w ∈ Z, w ∉ I → w ∈ bfsWithMarks (augH G x y I) y Ky) : MinSep G x y I R Z := by
  refine ⟨⟨hIZ, hZR, hsep⟩, ?_⟩
  rintro Z' hsub ⟨w, hw, hwn⟩ ⟨hIZ', hZ'R, hsep'⟩
  have hwI : w ∉ I := fun hi => hwn (hIZ' w hi)
  have px := pa_to_mark (D.seed_mem_H List.mem_cons_self) (D.notMem_of_notMem_R D.hxR hKx) (hmx w hw hwI)
    (fun a ha => hZx a (hsub a ha)) hwn
  have py := pa_to_mark (D.seed_mem_H (List.mem_cons_of_mem _ List.mem_cons_self))
    (D.notMem_of_notMem_R D.hyR hKy) (hmy w hw hwI) (fun a ha => hZy a (hsub a ha)) hwn
  exact (D.msep_iff_cut hwf hb hsl hIZ' hZ'R fun z hz => hZA z (hsub z hz)).mp hsep'
    (px.trans (py.symm fun _ _ => uadj_symm))

end Dom

theorem mem_zP {G : MG} (hwf : G.WF) {x y : Nat} {I R : List Nat} (hS : ∀ s ∈ x :: y :: I, s ∈ G.nodes)
    {v : Nat} : v ∈ zP G x y I R ↔ (v ∈ R ∧ v ∈ antA G x y I ∧ v ≠ x ∧ v ≠ y) := by
  simp only [zP, List.mem_filter, decide_eq_true_eq, anterior_restrict hwf hS, and_assoc]

section
variable {G : MG} {x y : Nat} {I R : List Nat}

theorem zFI_facts (D : Dom G x y I R) : (∀ i ∈ I, i ∈ zF G x y I R ++ I) ∧ (∀ z ∈ zF G x y I R ++ I, z ∈ R) ∧
    (∀ z ∈ zF G x y I R ++ I, z ∈ antA G x y I) :=
  ⟨fun _ hi => List.mem_append_right _ hi,
   List.forall_mem_append.mpr ⟨fun _ hz => (mem_zF hz).1, D.hIR⟩,
   List.forall_mem_append.mpr ⟨fun _ hz => (mem_zF hz).2.2.1, D.I_sub_A⟩⟩

theorem zF_separates (D : Dom G x y I R) (hwf : G.WF) (hb : NoUndirAtHead G) (hsl : NoSelfLoop G)
    (h : ∃ Z, Sep G x y I R Z) : MSep G [x] [y] (zF G x y I R ++ I) := by
  obtain ⟨Z, hIZ, hZR, hsep⟩ := h
  have hcutZ := cut_of_sep G hwf hb hsl x y I D.hx D.hy D.hI Z hIZ (fun z hz => D.hR z (hZR z hz))
    (fun h => D.hxR (hZR x h)) (fun h => D.hyR (hZR y h)) hsep
  -- the full candidate set is a cut: on the nodes of `H` it contains `Z`
  have hcut0 : ¬ PA (morH G x y I) (zP G x y I R ++ I) x y := fun p =>
    hcutZ <| p.mono_Z fun v hv hvZ => List.mem_append_left _ <| (mem_zP hwf D.seeds).mpr
      ⟨hZR v hvZ, (mem_restrict_nodes.mp hv).2, fun e => D.hxR (e ▸ hZR v hvZ), fun e => D.hyR (e ▸ hZR v hvZ)⟩
  -- pass 1 (from x), pass 2 (from y, by symmetry of the undirected graph)
  have hcut1 : ¬ PA (morH G x y I) (zDP G x y I R ++ I) x y :=
    cut_shrink (fun h => ((mem_zP hwf D.seeds).mp h).2.2.1 rfl) (fun h => D.hxR (D.hIR x h)) hcut0
  have hcut2 : ¬ PA (morH G x y I) (zF G x y I R ++ I) y x :=
    cut_shrink (fun h => (zDP_sub h).2.2 rfl) (fun h => D.hyR (D.hIR y h))
      fun p => hcut1 (p.symm fun _ _ => uadj_symm)
  obtain ⟨f1, f2, f3⟩ := zFI_facts D
  exact (D.msep_iff_cut hwf hb hsl f1 f2 f3).mpr fun p => hcut2 (p.symm fun _ _ => uadj_symm)

theorem zF_minimal (D : Dom G x y I R) (hwf : G.WF) (hb : NoUndirAtHead G) (hsl : NoSelfLoop G)
    (h : MSep G [x] [y] (zF G x y I R ++ I)) : MinSep G x y I R (zF G x y I R ++ I) := by
  obtain ⟨f1, f2, f3⟩ := zFI_facts D
  have hF : ∀ w ∈ zF G x y I R ++ I, w ∉ I → w ∈ zF G x y I R :=
    fun w hw hwI => (List.mem_append.mp hw).elim id fun h => absurd h hwI
  have hsub : ∀ {K}, (∀ z ∈ zF G x y I R, z ∈ K) → ∀ z ∈ zF G x y I R ++ I, z ∈ K ++ I :=
    fun hK z hz => (List.mem_append.mp hz).elim (fun h => List.mem_append_left _ (hK z h))
      (List.mem_append_right _)
  exact D.minSep_of_marked hwf hb hsl f1 f2 f3 h (Kx := zP G x y I R) (Ky := zDP G x y I R)
    (fun k hk => ((mem_zP hwf D.seeds).mp hk).1) (fun k hk => (zDP_sub hk).1)
    (hsub fun z hz => (of_mem_bfsWithMarks (zF_sub hz)).1) (hsub fun z hz => zF_sub hz)
    (fun w hw hwI => zF_sub (hF w hw hwI)) (fun w hw hwI => hF w hw hwI)

end

theorem mSeparatedE_ok {G : MG} (hwf : G.WF) (hac : Acyclic G) (X Y Z : List Nat) :
    mSeparatedE G X Y Z = .ok (mSeparated G X Y Z) := by
  unfold mSeparatedE
  rw [(hasCycle_false_iff G hwf).mpr hac]
  rfl

section
variable (G : MG) (hwf : G.WF) (hb : NoUndirAtHead G) (hsl : NoSelfLoop G) (hac : Acyclic G)
  (x y : Nat) (I R : List Nat)
  (hx : x ∈ G.nodes) (hy : y ∈ G.nodes) (hR : ∀ r ∈ R, r ∈ G.nodes) (hxR : x ∉ R) (hyR : y ∉ R)
  (hIR : ∀ i ∈ I, i ∈ R)
include hwf hb hsl hx hy hR hxR hyR hIR hac

/-- **C11, first sentence, for the model (unconditional).** On acyclic graphs of the C01 domain with
    x, y ∈ V and I ⊆ R ⊆ V ∖ {x, y}: the model returns a value, and that value is what the property
    demands (`None` iff no separator exists, otherwise an I-minimal separator). -/
theorem minimalMSep_spec :
    ∃ r, minimalMSep G x y I R = .ok r ∧ MinimalSpec G x y I R r := by
  have D : Dom G x y I R := ⟨hx, hy, hR, hxR, hyR, hIR⟩
  have hiff := D.mSeparated_iff hwf hb hsl (zFI_facts D).2.1
  rw [minimalMSep_eq hIR, mSeparatedE_ok hwf hac]
  cases hm : mSeparated G [x] [y] (zF G x y I R ++ I)
  · exact ⟨none, rfl, fun hex => by
      rw [hiff.mpr (zF_separates D hwf hb hsl hex)] at hm; cases hm⟩
  · exact ⟨some _, rfl, zF_minimal D hwf hb hsl (hiff.mp hm)⟩

/-- **C11 completeness.** `minimal_m_separator` (model) returns `None` exactly when no set `Z` with
    `I ⊆ Z ⊆ R` m-separates x and y. -/
theorem minimalMSep_none_iff :
    minimalMSep G x y I R = .ok none ↔ ¬ ∃ Z, Sep G x y I R Z := by
  obtain ⟨r, hr, hspec⟩ := minimalMSep_spec G hwf hb hsl hac x y I R hx hy hR hxR hyR hIR
  rw [hr]
  cases r with
  | none => exact ⟨fun _ => hspec, fun _ => rfl⟩
  | some Z => exact ⟨nofun, fun h => absurd ⟨Z, hspec.1⟩ h⟩

/-- **C11 minimality.** A set returned by `minimal_m_separator` (model) is an I-minimal separator. -/
theorem minimalMSep_minimal (Z : List Nat) (h : minimalMSep G x y I R = .ok (some Z)) :
    MinSep G x y I R Z := by
  obtain ⟨r, hr, hspec⟩ := minimalMSep_spec G hwf hb hsl hac x y I R hx hy hR hxR hyR hIR
  rw [hr] at h
  cases h
  exact hspec

end

end C11
