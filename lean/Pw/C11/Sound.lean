import Pw.C11.Spec
import Pw.C12.Cut
open Closure MG C12

/-! # C11: `_bfs_with_marks` as a closure, the two functions without their early exits, soundness

The marked set of `_bfs_with_marks` is exactly the set of nodes of `check_set` (other than the start
node) adjacent to a node that is reachable from the start node through nodes outside `check_set`
(`mem_bfsWithMarks`).  `_anterior` is characterised by `C12.mem_anterior`. -/
namespace C11

/-- nodes reachable from the start node `s`: every node after `s` is a node of `H` outside `K` -/
inductive BFree (H : UG) (K : List Nat) (s : Nat) : Nat → Prop
  | refl : BFree H K s s
  | step {v w : Nat} : BFree H K s v → UAdj H.edges v w → w ∈ H.nodes → w ∉ K → BFree H K s w

theorem mem_bfsStates {H : UG} {v : Nat} {b : Bool} : (v, b) ∈ bfsStates H ↔ v ∈ H.nodes := by
  cases b <;> simp [bfsStates]

theorem mem_bfsExpand {H : UG} {K : List Nat} {v w : Nat} {a b : Bool} :
    (w, b) ∈ bfsExpand H K (v, a) ↔ (a = false ∧ UAdj H.edges v w ∧ b = decide (w ∈ K)) := by
  cases a
  · simp only [bfsExpand, List.mem_map, Prod.mk.injEq, true_and]
    constructor
    · rintro ⟨u, hu, rfl, rfl⟩; exact ⟨mem_ugNbrs.mp hu, rfl⟩
    · rintro ⟨hu, rfl⟩; exact ⟨w, mem_ugNbrs.mpr hu, rfl, rfl⟩
  · simp [bfsExpand]

theorem reach_of_bfree {H : UG} {K : List Nat} {s u : Nat} (h : BFree H K s u) :
    Reach (bfsStates H) (bfsExpand H K) (s, false) (u, false) := by
  induction h with
  | refl => exact Reach.refl _
  | @step u w _ hadj hwn hwk ih =>
    exact Reach.tail ih ⟨mem_bfsExpand.mpr ⟨rfl, hadj, by simp [hwk]⟩, mem_bfsStates.mpr hwn⟩

theorem bfs_reach_iff {H : UG} {K : List Nat} {s v : Nat} {b : Bool} :
    Reach (bfsStates H) (bfsExpand H K) (s, false) (v, b) ↔
      ((b = false ∧ BFree H K s v) ∨
       (b = true ∧ v ∈ K ∧ v ∈ H.nodes ∧ ∃ u, BFree H K s u ∧ UAdj H.edges u v)) := by
  constructor
  · intro h
    generalize hs : (s, false) = st at h
    generalize ht : (v, b) = t at h
    induction h generalizing v b with
    | refl => cases hs; cases ht; exact Or.inl ⟨rfl, BFree.refl⟩
    | @tail mid t' hr hstep ih =>
      obtain ⟨u, a⟩ := mid
      cases ht
      obtain ⟨hmem, hU⟩ := hstep
      obtain ⟨rfl, hadj, hb⟩ := mem_bfsExpand.mp hmem
      have hvn : v ∈ H.nodes := mem_bfsStates.mp hU
      rcases ih (v := u) (b := false) rfl with ⟨_, hfree⟩ | ⟨h1, _⟩
      · by_cases hk : v ∈ K
        · right; exact ⟨by simp [hb, hk], hk, hvn, u, hfree, hadj⟩
        · left; exact ⟨by simp [hb, hk], BFree.step hfree hadj hvn hk⟩
      · cases h1
  · rintro (⟨rfl, h⟩ | ⟨rfl, hk, hvn, u, hu, hadj⟩)
    · exact reach_of_bfree h
    · have hr := reach_of_bfree hu
      exact Reach.tail hr ⟨mem_bfsExpand.mpr ⟨rfl, hadj, by simp [hk]⟩, mem_bfsStates.mpr hvn⟩

theorem of_mem_bfsWithMarks {H : UG} {K : List Nat} {s w : Nat} (h : w ∈ bfsWithMarks H s K) :
    w ∈ K ∧ w ≠ s ∧ w ∈ H.nodes ∧ ∃ u, BFree H K s u ∧ UAdj H.edges u w := by
  unfold bfsWithMarks at h
  simp only [List.mem_map, List.mem_filter, Bool.and_eq_true, bne_iff_ne, ne_eq] at h
  obtain ⟨⟨v, b⟩, ⟨hmem, hb, hne⟩, rfl⟩ := h
  simp only at hb hne
  subst hb
  obtain ⟨st, hst, _, hr⟩ := (mem_closure _ _ _ _).mp hmem
  simp only [List.mem_singleton] at hst
  subst hst
  rcases bfs_reach_iff.mp hr with ⟨h, _⟩ | ⟨_, hk, hvn, hu⟩
  · cases h
  · exact ⟨hk, hne, hvn, hu⟩

/-- **`_bfs_with_marks` characterised** (all inputs with the start node in the graph) -/
theorem mem_bfsWithMarks {H : UG} {K : List Nat} {s w : Nat} (hs : s ∈ H.nodes) :
    w ∈ bfsWithMarks H s K ↔
      (w ∈ K ∧ w ≠ s ∧ w ∈ H.nodes ∧ ∃ u, BFree H K s u ∧ UAdj H.edges u w) := by
  refine ⟨of_mem_bfsWithMarks, ?_⟩
  rintro ⟨hk, hne, hwn, hu⟩
  unfold bfsWithMarks
  simp only [List.mem_map, List.mem_filter, Bool.and_eq_true, bne_iff_ne, ne_eq]
  refine ⟨(w, true), ⟨?_, rfl, hne⟩, rfl⟩
  exact (mem_closure _ _ _ _).mpr ⟨(s, false), by simp, mem_bfsStates.mpr hs,
    bfs_reach_iff.mpr (Or.inr ⟨rfl, hk, hwn, hu⟩)⟩

theorem subset_iff {A B : List Nat} : subset A B = true ↔ ∀ a ∈ A, a ∈ B := by
  simp [subset, List.all_eq_true]

theorem setEq_iff {A B : List Nat} : setEq A B = true ↔ ∀ v, v ∈ A ↔ v ∈ B := by
  unfold setEq
  rw [Bool.and_eq_true, subset_iff, subset_iff]
  exact ⟨fun h v => ⟨h.1 v, h.2 v⟩, fun h => ⟨fun v => (h v).mp, fun v => (h v).mpr⟩⟩

theorem mem_delete_nodes {H : UG} {I : List Nat} {v : Nat} :
    v ∈ (delete H I).nodes ↔ (v ∈ H.nodes ∧ v ∉ I) := by
  simp [delete, List.mem_filter]

theorem finish_some_iff {r : Except String Bool} {Z Z' : List Nat} :
    finish r Z = .ok (some Z') ↔ (r = .ok true ∧ Z' = Z) := by
  rcases r with e | b
  · simp [finish]
  · cases b <;> simp [finish, eq_comm]

/-- `A = _anterior(G, {x, y} ∪ I)` -/
abbrev antA (G : MG) (x y : Nat) (I : List Nat) : List Nat := anterior G (x :: y :: I)

/-- the moral graph of the anterior subgraph -/
abbrev morH (G : MG) (x y : Nat) (I : List Nat) : UG := moral (restrict G (antA G x y I))

/-- `aug_G_p`, `z_prime`, `z_dprime` and `z` of `minimal_m_separator` -/
abbrev augH (G : MG) (x y : Nat) (I : List Nat) : UG := delete (morH G x y I) I

def zP (G : MG) (x y : Nat) (I R : List Nat) : List Nat :=
  (R.filter (· ∈ anterior (restrict G (antA G x y I)) (x :: y :: I))).filter (fun v => v ≠ x ∧ v ≠ y)
def zDP (G : MG) (x y : Nat) (I R : List Nat) : List Nat := bfsWithMarks (augH G x y I) x (zP G x y I R)
def zF (G : MG) (x y : Nat) (I R : List Nat) : List Nat := bfsWithMarks (augH G x y I) y (zDP G x y I R)

theorem minimalMSep_eq {G : MG} {x y : Nat} {I R : List Nat} (hIR : ∀ i ∈ I, i ∈ R) :
    minimalMSep G x y I R =
      finish (mSeparatedE G [x] [y] (zF G x y I R ++ I)) (zF G x y I R ++ I) := by
  unfold minimalMSep
  rw [if_neg (by simp [subset_iff.mpr hIR])]
  rfl

theorem minimalMSep_some {G : MG} {x y : Nat} {I R Z : List Nat} (h : minimalMSep G x y I R = .ok (some Z)) :
    (∀ i ∈ I, i ∈ R) ∧ mSeparatedE G [x] [y] Z = .ok true ∧ Z = zF G x y I R ++ I := by
  by_cases hIR : ∀ i ∈ I, i ∈ R
  · rw [minimalMSep_eq hIR, finish_some_iff] at h
    exact ⟨hIR, h.2 ▸ h.1, h.2⟩
  · unfold minimalMSep at h
    rw [if_pos (by rw [Bool.not_eq_true', ← Bool.not_eq_true, subset_iff]; exact hIR)] at h
    cases h

theorem isMinimalMSep_true_iff (G : MG) (x y : Nat) (Z I R : List Nat) :
    isMinimalMSep G x y Z I R = .ok true ↔
      (subset I Z = true ∧ subset Z R = true ∧ subset Z (antA G x y I) = true ∧
       mSeparatedE G [x] [y] Z = .ok true ∧
       setEq (Z.filter (· ∉ I)) (bfsWithMarks (augH G x y I) x Z) = true ∧
       setEq (Z.filter (· ∉ I)) (bfsWithMarks (augH G x y I) y Z) = true) := by
  unfold isMinimalMSep
  dsimp only
  generalize subset I Z = b1
  generalize subset Z R = b2
  generalize subset Z (antA G x y I) = b3
  generalize mSeparatedE G [x] [y] Z = r
  generalize setEq (Z.filter (· ∉ I)) (bfsWithMarks (augH G x y I) x Z) = b5
  generalize setEq (Z.filter (· ∉ I)) (bfsWithMarks (augH G x y I) y Z) = b6
  cases b1
  · simp
  cases b2
  · simp
  cases b3
  · simp
  rcases r with e | b
  · simp
  cases b
  · simp
  cases b5
  · simp
  cases b6 <;> simp

theorem mSeparated_of_ok {G : MG} {X Y Z : List Nat} (h : mSeparatedE G X Y Z = .ok true) :
    mSeparated G X Y Z = true := by
  unfold mSeparatedE at h
  split at h
  · cases h
  · exact Except.ok.inj h

theorem zDP_sub {G : MG} {x y : Nat} {I R : List Nat} {v : Nat} (h : v ∈ zDP G x y I R) :
    v ∈ R ∧ v ≠ x ∧ v ≠ y := by
  have := (of_mem_bfsWithMarks h).1
  simp only [zP, List.mem_filter, decide_eq_true_eq] at this
  exact ⟨this.1.1, this.2⟩

theorem zF_sub {G : MG} {x y : Nat} {I R : List Nat} {v : Nat} (h : v ∈ zF G x y I R) :
    v ∈ zDP G x y I R := (of_mem_bfsWithMarks h).1

theorem mem_zF {G : MG} {x y : Nat} {I R : List Nat} {w : Nat} (h : w ∈ zF G x y I R) :
    w ∈ R ∧ w ∈ G.nodes ∧ w ∈ antA G x y I ∧ w ≠ x ∧ w ≠ y := by
  obtain ⟨hR, hx, hy⟩ := zDP_sub (zF_sub h)
  obtain ⟨hn, hA⟩ := mem_restrict_nodes.mp (mem_delete_nodes.mp (of_mem_bfsWithMarks h).2.2.1).1
  exact ⟨hR, hn, hA, hx, hy⟩

/-- **C11 soundness of `minimal_m_separator`.** On the domain of C01, with x ∈ V, I ⊆ V, x ∉ I: a
    returned `Z` satisfies `I ⊆ Z ⊆ R` and x, y are m-separated given `Z` (path-level definition). -/
theorem minimalMSep_sound (G : MG) (hwf : G.WF) (hb : NoUndirAtHead G) (hsl : NoSelfLoop G)
    (x y : Nat) (I R : List Nat) (hx : x ∈ G.nodes) (hI : ∀ i ∈ I, i ∈ G.nodes) (hxI : x ∉ I)
    (Z : List Nat) (h : minimalMSep G x y I R = .ok (some Z)) : Sep G x y I R Z := by
  obtain ⟨hIR, hsep, rfl⟩ := minimalMSep_some h
  refine ⟨fun i hi => List.mem_append_right _ hi, ?_, (mSeparated_pair_iff hwf hb hsl hx ?_ ?_).mp (mSeparated_of_ok hsep)⟩
  · exact List.forall_mem_append.mpr ⟨fun w hw => (mem_zF hw).1, hIR⟩
  · exact List.forall_mem_append.mpr ⟨fun w hw => (mem_zF hw).2.1, hI⟩
  · intro hmem
    rcases List.mem_append.mp hmem with hw | hw
    · exact (mem_zF hw).2.2.2.1 rfl
    · exact hxI hw

/-- **C11 soundness of `is_minimal_m_separator`.** `True` is answered only for sets with
    `I ⊆ Z ⊆ R` that m-separate x and y (x ∈ V, x ∉ R). -/
theorem isMinimalMSep_sound (G : MG) (hwf : G.WF) (hb : NoUndirAtHead G) (hsl : NoSelfLoop G)
    (x y : Nat) (Z I R : List Nat) (hx : x ∈ G.nodes) (hxR : x ∉ R)
    (h : isMinimalMSep G x y Z I R = .ok true) : Sep G x y I R Z := by
  obtain ⟨hIZ, hZR, hZA, hsep, _⟩ := (isMinimalMSep_true_iff G x y Z I R).mp h
  simp only [subset_iff] at hIZ hZR hZA
  exact ⟨hIZ, hZR, (mSeparated_pair_iff hwf hb hsl hx (fun w hw => anterior_sub_nodes (hZA w hw))
    fun hm => hxR (hZR x hm)).mp (mSeparated_of_ok hsep)⟩

end C11
