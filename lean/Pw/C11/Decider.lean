import Pw.C11.Sound
open Closure MG C12

/-! # C11: the brute-force deciders are the specification

`sepDec = Sep`, `existsSepDec = ∃ Z, Sep Z`, `minSepDec = MinSep` on the domain of C01 (x ∈ V, R ⊆ V,
x ∉ R).  These deciders are the oracle of the correspondence harness. -/
namespace C11

theorem mSep_congr {G : MG} {X Y Z Z' : List Nat} (h : ∀ a, a ∈ Z ↔ a ∈ Z') :
    MSep G X Y Z ↔ MSep G X Y Z' :=
  MG.mSep_congr h

theorem sep_congr {G : MG} {x y : Nat} {I R Z Z' : List Nat} (h : ∀ a, a ∈ Z ↔ a ∈ Z') :
    Sep G x y I R Z ↔ Sep G x y I R Z' := by
  simp only [Sep, mSep_congr h, h]

theorem mem_subl : ∀ {l s : List Nat}, s ∈ subl l ↔ s.Sublist l
  | [], s => by simp [subl]
  | a :: l, s => by
    simp only [subl, List.mem_append, List.mem_map, mem_subl (l := l), List.sublist_cons_iff]
    refine or_congr_right ⟨?_, ?_⟩
    · rintro ⟨r, hr, rfl⟩; exact ⟨r, rfl, hr⟩
    · rintro ⟨r, rfl, hr⟩; exact ⟨r, hr, rfl⟩

theorem exists_subl {l Z : List Nat} (hZ : ∀ a ∈ Z, a ∈ l) :
    ∃ s ∈ subl l, ∀ a, a ∈ s ↔ a ∈ Z := by
  refine ⟨l.filter (fun a => decide (a ∈ Z)), mem_subl.mpr List.filter_sublist, fun a => ?_⟩
  simp only [List.mem_filter, decide_eq_true_eq]
  exact ⟨fun h => h.2, fun h => ⟨hZ a h, h⟩⟩

section
variable (G : MG) (hwf : G.WF) (hb : NoUndirAtHead G) (hsl : NoSelfLoop G) (x y : Nat)
  (I R : List Nat) (hx : x ∈ G.nodes) (hR : ∀ r ∈ R, r ∈ G.nodes) (hxR : x ∉ R)
include hwf hb hsl hx hR hxR

theorem sepDec_iff (Z : List Nat) : sepDec G x y I R Z = true ↔ Sep G x y I R Z := by
  unfold sepDec Sep
  simp only [Bool.and_eq_true, subset_iff, and_assoc]
  refine and_congr_right fun _ => and_congr_right fun h2 => ?_
  exact mSeparated_pair_iff hwf hb hsl hx (fun z hz => hR z (h2 z hz)) fun hm => hxR (h2 x hm)

theorem existsSepDec_iff : existsSepDec G x y I R = true ↔ ∃ Z, Sep G x y I R Z := by
  have hdec := sepDec_iff G hwf hb hsl x y I R hx hR hxR
  unfold existsSepDec
  rw [List.any_eq_true]
  constructor
  · rintro ⟨Z, _, h⟩; exact ⟨Z, (hdec Z).mp h⟩
  · rintro ⟨Z, h⟩
    obtain ⟨s, hs, hmem⟩ := exists_subl (l := R) h.2.1
    exact ⟨s, hs, (hdec s).mpr ((sep_congr hmem).mpr h)⟩

theorem minSepDec_iff (Z : List Nat) : minSepDec G x y I R Z = true ↔ MinSep G x y I R Z := by
  have hdec := sepDec_iff G hwf hb hsl x y I R hx hR hxR
  unfold minSepDec MinSep
  rw [Bool.and_eq_true, hdec, List.all_eq_true]
  refine and_congr_right fun _ => ⟨fun hall Z' hsub ⟨z, hz, hzn⟩ hsep' => ?_, fun hmin s hs => ?_⟩
  · obtain ⟨s, hs, hmem⟩ := exists_subl (l := Z) hsub
    rcases (Bool.or_eq_true _ _).mp (hall s hs) with h | h
    · exact hzn ((hmem z).mp (subset_iff.mp h z hz))
    · rw [(hdec s).mpr ((sep_congr hmem).mpr hsep')] at h
      cases h
  · rw [Bool.or_eq_true, Bool.not_eq_true']
    cases hsub : subset Z s
    · obtain ⟨z, hz, hzs⟩ := List.all_eq_false.mp hsub
      have hns := hmin s (fun _ ha => (mem_subl.mp hs).subset ha) ⟨z, hz, by simpa using hzs⟩
      exact Or.inr (Bool.eq_false_iff.mpr fun hd => hns ((hdec s).mp hd))
    · exact Or.inl rfl

end

end C11
