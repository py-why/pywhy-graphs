import Pw.C14.Decode

/-! # C14 — the exporters on every graph of the documented domain (whole graph, any size) -/
namespace C14

/-- `g` is a graph of class `c` in the domain of format `f` (hypothesis form): every pair of distinct
    nodes is non-adjacent or carries a configuration of the documented table -/
def InDom (c : Cls) (f : Fmt) (g : MG) (n : Nat) : Prop :=
  ∀ a b, a < n → b < n → a ≠ b → ∃ x y, (bits g a b, x, y) ∈ tableZ c f

def docMat (c : Cls) (f : Fmt) (g : MG) (n : Nat) : Mat := fun a b =>
  if a < n ∧ b < n ∧ a ≠ b then (cellOf c f (bits g a b)).1 else 0

theorem docMat_of_ne {c f g n a b} (ha : a < n) (hb : b < n) (hab : a ≠ b) :
    docMat c f g n a b = (cellOf c f (bits g a b)).1 := if_pos ⟨ha, hb, hab⟩

theorem InDom.cells {c f g n} (h : InDom c f g n) {a b : Nat} (ha : a < n) (hb : b < n) (hab : a ≠ b) :
    (bits g a b, docMat c f g n a b, docMat c f g n b a) ∈ tableZ c f := by
  obtain ⟨x, y, he⟩ := h a b ha hb hab
  have he' := tableZ_swap_closed c (mem_allCls c) f (mem_fmts f) _ he
  rw [docMat_of_ne ha hb hab, docMat_of_ne hb ha hab.symm, bits_swap g a b,
    cellOf_tableZ c (mem_allCls c) f (mem_fmts f) _ he, cellOf_tableZ c (mem_allCls c) f (mem_fmts f) _ he']
  exact he

theorem Mat.set_apply (m : Mat) (i j : Nat) (x : Int) (a b : Nat) :
    (m.set i j x) a b = if a = i ∧ b = j then x else m a b := rfl

theorem adjacent_empty : PB.empty.adjacent = false := by decide

/-- **`graph_to_clearn`** writes the documented endpoint matrix for every graph in the domain -/
theorem clEnc_spec (c : Cls) (g : MG) (n : Nat) (hg : InDom c .clearn g n) :
    ∃ m, clEnc c g n = some m ∧ m = docMat c .clearn g n := by
  let W := docMat c .clearn g n
  -- a cell holds its documented value, or is still zero and has not been visited
  have key : ∃ m, clEnc c g n = some m ∧ ∀ a b, m a b = W a b ∨ (m a b = 0 ∧ (a, b) ∉ allPairs n) := by
    refine foldl_inv (clEncStep c g)
      (fun done o => ∃ m, o = some m ∧ ∀ a b, m a b = W a b ∨ (m a b = 0 ∧ (a, b) ∉ done)) (allPairs n) ?_
      ⟨Mat.zero, rfl, fun a b => Or.inr ⟨rfl, List.not_mem_nil⟩⟩
    rintro done ⟨u, v⟩ _ hx ⟨m, rfl, hinv⟩
    obtain ⟨hu, hv⟩ := mem_allPairs.1 hx
    have keep : W u v = 0 → ∀ a b, m a b = W a b ∨ (m a b = 0 ∧ (a, b) ∉ done ++ [(u, v)]) := by
      intro hz a b
      rcases hinv a b with h | ⟨h0, h1⟩
      · exact Or.inl h
      · by_cases e : a = u ∧ b = v
        · obtain ⟨rfl, rfl⟩ := e; exact Or.inl (h0.trans hz.symm)
        · exact Or.inr ⟨h0, by simp [List.mem_append, h1, e]⟩
    by_cases huv : u = v
    · subst huv
      exact ⟨m, by simp [clEncStep], keep (if_neg fun e => e.2.2 rfl)⟩
    · have hcell := hg.cells hu hv huv
      have hmask : bitsC c g u v = bits g u v := table_mask c (mem_allCls c) .clearn (mem_fmts _) _ hcell
      rcases List.mem_cons.1 hcell with he | he
      · -- non-adjacent pair: nothing is written, the documented cells are zero
        have hp : bits g u v = PB.empty := (Prod.mk.inj he).1
        exact ⟨m, by simp [clEncStep, huv, hmask, hp, adjacent_empty], keep (Prod.mk.inj (Prod.mk.inj he).2).1⟩
      · have henc := clEncPair_table c (mem_allCls c) _ he
        have hadj := clEncPair_adjacent c (mem_allCls c) _ he
        rw [show (bits g u v).mask c = bits g u v from hmask] at henc hadj
        refine ⟨(m.set u v (W u v)).set v u (W v u), by simp [clEncStep, huv, hmask, hadj, henc, W], ?_⟩
        intro a b
        simp only [Mat.set_apply]
        by_cases c2 : a = v ∧ b = u
        · rw [if_pos c2]; obtain ⟨rfl, rfl⟩ := c2; exact Or.inl rfl
        · rw [if_neg c2]
          by_cases c1 : a = u ∧ b = v
          · rw [if_pos c1]; obtain ⟨rfl, rfl⟩ := c1; exact Or.inl rfl
          · rw [if_neg c1]
            rcases hinv a b with h | ⟨h0, h1⟩
            · exact Or.inl h
            · exact Or.inr ⟨h0, by simp [List.mem_append, h1, c1]⟩
  obtain ⟨m, hm, hfin⟩ := key
  refine ⟨m, hm, ?_⟩
  funext a b
  rcases hfin a b with h | ⟨h0, h1⟩
  · exact h
  · rw [h0]
    exact (if_neg fun e => h1 (mem_allPairs.2 ⟨e.1, e.2.1⟩)).symm

/-- **`graph_to_numpy`** writes the documented matrix for every graph in the domain -/
theorem npEnc_spec (c : Cls) (g : MG) (n : Nat) (hg : InDom c .numpy g n) (hd : ∀ a, bits g a a = PB.empty) :
    ∀ a b, a < n → b < n → npEnc c g n a b = docMat c .numpy g n a b := by
  intro a b ha hb
  by_cases hab : a = b
  · subst hab
    simp only [npEnc, bitsC, hd a, docMat]
    rw [if_neg (fun e => e.2.2 rfl)]
    cases c <;> decide
  · have hcell := hg.cells ha hb hab
    have h1 := npEncCell_table c (mem_allCls c) _ hcell
    simp only [npEnc, bitsC]
    exact h1.1

theorem InDom.pcalg_clearn {c g n} (hc : c ∈ [Cls.cpdag, .pag]) (h : InDom c .pcalg g n) : InDom c .clearn g n := by
  intro a b ha hb hab
  obtain ⟨x, y, he⟩ := h a b ha hb hab
  obtain ⟨⟨p, x', y'⟩, he', rfl, _⟩ := pcalg_via_clearn c hc _ he
  exact ⟨x', y', he'⟩

/-- the remap loop of `graph_to_pcalg` with its `seen_idx` dictionary turns `T0` into `R`.  Invariant:
    pairs in `seen_idx` carry the codes of `R`, all other cells still hold `T0`; every visited non-zero
    cell is seen. -/
theorem foldl_pcEncStep (c : Cls) (T0 R : Mat) (L : List (Nat × Nat))
    (hpair : ∀ a b, (T0 a b = 0 ∧ R a b = 0) ∨
      (T0 a b ≠ 0 ∧ T0 b a ≠ 0 ∧ pcRemap c (T0 a b) (T0 b a) = (R a b, R b a)))
    (hL : ∀ a b, T0 a b ≠ 0 → (a, b) ∈ L) :
    (L.foldl (pcEncStep c T0) (T0, [])).1 = R := by
  have key := foldl_inv (pcEncStep c T0)
    (fun done st => (∀ a b, st.1 a b = if (a, b) ∈ st.2 ∨ (b, a) ∈ st.2 then R a b else T0 a b) ∧
      ∀ x ∈ done, T0 x.1 x.2 ≠ 0 → x ∈ st.2 ∨ (x.2, x.1) ∈ st.2) L ?_
    (s0 := (T0, [])) ⟨by simp, by simp⟩
  · obtain ⟨fM, fD⟩ := key
    funext a b
    rw [fM a b]
    split
    · rfl
    · rename_i hns
      rcases hpair a b with h | h
      · rw [h.1, h.2]
      · exact absurd (fD (a, b) (hL a b h.1) h.1) hns
  · rintro done ⟨u, v⟩ st _ ⟨hM, hD⟩
    by_cases hz : T0 u v = 0
    · rw [show pcEncStep c T0 st (u, v) = st by simp [pcEncStep, hz]]
      exact ⟨hM, forall_mem_snoc.2 ⟨hD, fun h => absurd hz h⟩⟩
    · by_cases hseen : (u, v) ∈ st.2 ∨ (v, u) ∈ st.2
      · rw [show pcEncStep c T0 st (u, v) = st by rcases hseen with h | h <;> simp [pcEncStep, hz, h]]
        exact ⟨hM, forall_mem_snoc.2 ⟨hD, fun _ => hseen⟩⟩
      · have hrem : pcRemap c (st.1 u v) (st.1 v u) = (R u v, R v u) := by
          rw [hM u v, if_neg hseen, hM v u, if_neg (fun h => hseen h.symm)]
          exact (hpair u v).resolve_left (fun h => hz h.1) |>.2.2
        rw [show pcEncStep c T0 st (u, v) = ((st.1.set u v (R u v)).set v u (R v u), (u, v) :: st.2) by
          simp [pcEncStep, hz, not_or.1 hseen, hrem]]
        refine ⟨?_, forall_mem_snoc.2 ⟨fun x hx hnz => (hD x hx hnz).imp (List.mem_cons_of_mem _) (List.mem_cons_of_mem _),
          fun _ => Or.inl List.mem_cons_self⟩⟩
        intro a b
        simp only [Mat.set_apply, List.mem_cons, Prod.mk.injEq]
        by_cases c2 : a = v ∧ b = u
        · obtain ⟨rfl, rfl⟩ := c2; simp
        · have c2' : ¬(b = u ∧ a = v) := fun e => c2 ⟨e.2, e.1⟩
          by_cases c1 : a = u ∧ b = v
          · obtain ⟨rfl, rfl⟩ := c1; simp [c2]
          · simp only [c1, c2, c2', if_false, false_or]
            exact hM a b

/-- **`graph_to_pcalg`** writes the documented adjacency matrix for every CPDAG / PAG in the domain -/
theorem pcEnc_spec (c : Cls) (hc : c ∈ [Cls.cpdag, .pag]) (g : MG) (n : Nat) (hg : InDom c .pcalg g n) :
    ∃ m, pcEnc c g n = some m ∧ m = docMat c .pcalg g n := by
  have hgc := hg.pcalg_clearn hc
  obtain ⟨mc, hmc, rfl⟩ := clEnc_spec c g n hgc
  refine ⟨_, by simp only [pcEnc, hmc, Option.map_some, beq_iff_eq, ne_admg_of_mem hc, if_false]; rfl, ?_⟩
  apply foldl_pcEncStep
  · intro a b
    by_cases hr : a < n ∧ b < n ∧ a ≠ b
    · obtain ⟨ha, hb, hab⟩ := hr
      obtain ⟨e', he', h1, h2⟩ := pcalg_via_clearn c hc _ (hg.cells ha hb hab)
      rw [tableZ_cfg_inj c (mem_allCls c) .clearn (mem_fmts _) _ he' _ (hgc.cells ha hb hab) h1] at h2
      exact h2
    · have hr' : ¬(b < n ∧ a < n ∧ b ≠ a) := fun e => hr ⟨e.2.1, e.1, fun x => e.2.2 x.symm⟩
      exact Or.inl ⟨if_neg hr', if_neg hr⟩
  · intro a b hnz
    refine mem_allPairs.2 (Classical.byContradiction fun hr => hnz (if_neg fun e => hr ⟨e.2.1, e.1⟩))

end C14
