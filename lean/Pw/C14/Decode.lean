import Pw.C14.Lift

/-! # C14 — the importers on well-formed matrices (whole matrix, any size) -/
namespace C14

theorem mem_allPairs {n a b : Nat} : (a, b) ∈ allPairs n ↔ a < n ∧ b < n := by
  simp [allPairs, List.mem_flatMap, List.mem_map, List.mem_range]

/-- `T` is the documented reading of the matrix `A` (hypothesis form of well-formedness):
    zero diagonal, and the two cells of every pair are the table codes of the configuration `T a b` -/
def Denotes (c : Cls) (f : Fmt) (A : Mat) (n : Nat) (T : Nat → Nat → PB) : Prop :=
  (∀ a, a < n → A a a = 0) ∧ ∀ a b, a < n → b < n → a ≠ b → (T a b, A a b, A b a) ∈ tableZ c f

theorem Denotes.swap {c f A n T} (h : Denotes c f A n T) {a b : Nat} (ha : a < n) (hb : b < n) (hab : a ≠ b) :
    T b a = (T a b).swap := by
  have h1 := h.2 a b ha hb hab
  have h2 := h.2 b a hb ha (fun e => hab e.symm)
  have h3 := tableZ_swap_closed c (mem_allCls c) f (mem_fmts f) _ h1
  exact tableZ_cells_inj c (mem_allCls c) f (mem_fmts f) _ h2 _ h3 rfl

theorem fAny_swap (p : PB) (s t : Bool) : (fAny p s t).swap = fAny p.swap t s := by
  cases s <;> cases t <;> simp [fAny, PB.swap, PB.empty]

/-- **`clearn_to_graph` on a well-formed matrix** returns the graph the documentation assigns to it -/
theorem clDec_spec (c : Cls) (A : Mat) (n : Nat) (T : Nat → Nat → PB) (hT : Denotes c .clearn A n T) :
    ∃ g, clDec c A n = some g ∧ Decodes g n T := by
  have hv : (allPairs n).all (fun ij => clValid (A ij.1 ij.2)) = true := by
    rw [List.all_eq_true]
    rintro ⟨a, b⟩ hm
    obtain ⟨ha, hb⟩ := mem_allPairs.1 hm
    by_cases hab : a = b
    · subst hab; rw [hT.1 a ha]; decide
    · exact (clValid_table c (mem_allCls c) _ (hT.2 a b ha hb hab)).1
  unfold clDec
  simp only [hv, Bool.not_true, Bool.false_eq_true, if_false]
  -- `T` is constrained inside the matrix only: outside, the state function uses the empty configuration
  let T' : Nat → Nat → PB := fun a b => if a < n ∧ b < n ∧ a ≠ b then T a b else PB.empty
  refine pairFold_decodes c (fun a b => clDecPair c (A a b) (A b a)) n (fun a b => fAny (T' a b)) (allPairs n) T
    (fun a b => mem_allPairs.1) ?_ ?_ (fun _ _ => rfl) ?_
  · intro a b s t
    rw [fAny_swap]
    by_cases h : a < n ∧ b < n ∧ a ≠ b
    · have h' : b < n ∧ a < n ∧ b ≠ a := ⟨h.2.1, h.1, fun e => h.2.2 e.symm⟩
      simp only [T']; rw [if_pos h, if_pos h', hT.swap h.1 h.2.1 h.2.2]
    · have h' : ¬(b < n ∧ a < n ∧ b ≠ a) := fun e => h ⟨e.2.1, e.1, fun x => e.2.2 x.symm⟩
      simp only [T']; rw [if_neg h, if_neg h']; rfl
  · intro a b s t ha hb hab
    simp only [T']; rw [if_pos ⟨ha, hb, hab⟩]
    exact clDecPair_visit c (mem_allCls c) _ (hT.2 a b ha hb hab) s (mem_allBools s) t (mem_allBools t)
  · intro a b ha hb hab
    simp [T', mem_allPairs, ha, hb, hab, fAny]

theorem PB.or_swap (p q : PB) : (p.or q).swap = p.swap.or q.swap := rfl
theorem PB.or_comm (p q : PB) : p.or q = q.or p := by simp [PB.or, Bool.or_comm]
theorem PB.swap_swap (p : PB) : p.swap.swap = p := rfl

theorem fNp_swap (x y : Int) (s t : Bool) : (fNp x y s t).swap = fNp y x t s := by
  unfold fNp
  rw [PB.or_swap, PB.or_comm]
  cases s <;> cases t <;> rfl

theorem npDecStep_eq (c : Cls) (A : Mat) (n : Nat) (hd : ∀ a, a < n → A a a = 0) (g : Option MG)
    (ij : Nat × Nat) (hm : ij ∈ allPairs n) :
    npDecStep c A g ij = pairStep c (fun a b => npE (A a b)) g ij := by
  obtain ⟨i, j⟩ := ij
  obtain ⟨hi, hj⟩ := mem_allPairs.1 hm
  cases g with
  | none => rfl
  | some g =>
    simp only [npDecStep, pairStep, Option.bind_some, npE]
    by_cases hij : i = j
    · subst hij; simp [hd i hi]
    · by_cases hz : A i j = 0
      · simp [hz, hij, applyOpsG]
      · simp [hz, hij, Option.bind_map, Function.comp_def]

/-- **`numpy_to_graph` on a well-formed matrix** returns the graph the documentation assigns to it -/
theorem npDec_spec (c : Cls) (A : Mat) (n : Nat) (T : Nat → Nat → PB) (hT : Denotes c .numpy A n T) :
    ∃ g, npDec c A n = some g ∧ Decodes g n T := by
  unfold npDec
  rw [foldl_congr_mem _ _ _ _ (fun s x hx => npDecStep_eq c A n hT.1 s x hx)]
  refine pairFold_decodes c (fun a b => npE (A a b)) n (fun a b => fNp (A a b) (A b a)) (allPairs n) T
    (fun a b => mem_allPairs.1) (fun a b s t => fNp_swap _ _ s t) ?_ (fun _ _ => rfl) ?_
  · intro a b s t ha hb hab
    exact npDec_visit c (mem_allCls c) _ (hT.2 a b ha hb hab) s (mem_allBools s) t (mem_allBools t)
  · intro a b ha hb hab
    have := npDec_final c (mem_allCls c) _ (hT.2 a b ha hb hab)
    simpa [mem_allPairs, ha, hb] using this

/-- invariant of the `pcalg_to_graph` loop: `memo_map` holds exactly the visited pairs (both
    orientations), visited pairs carry their documented configuration, all others are empty -/
def PcInv (A : Mat) (n : Nat) (T : Nat → Nat → PB) (done : List (Nat × Nat)) (st : MG × List (Nat × Nat)) : Prop :=
  st.1.nodes = List.range n ∧
  (∀ a b, (a, b) ∈ st.2 → (b, a) ∈ st.2 ∧ a ≠ b ∧ a < n ∧ b < n) ∧
  (∀ a b, a ≠ b → bits st.1 a b = if (a, b) ∈ st.2 then T a b else PB.empty) ∧
  (∀ a, bits st.1 a a = PB.empty) ∧
  (∀ x ∈ done, A x.1 x.2 ≠ 0 → x ∈ st.2)

theorem pcDecStep_inv (c : Cls) (hc : c ∈ [Cls.cpdag, .pag]) (A : Mat) (n : Nat) (T : Nat → Nat → PB)
    (hT : Denotes c .pcalg A n T) (u v : Nat) (hu : u < n) (hv : v < n)
    (done : List (Nat × Nat)) (st : MG × List (Nat × Nat)) (hinv : PcInv A n T done st) :
    ∃ st', pcDecStep c A (some st) (u, v) = some st' ∧ PcInv A n T (done ++ [(u, v)]) st' := by
  obtain ⟨hn, hm, hb, hd, hdone⟩ := hinv
  by_cases hz : A u v = 0
  · exact ⟨st, by simp [pcDecStep, hz], hn, hm, hb, hd, forall_mem_snoc.2 ⟨hdone, fun h => absurd hz h⟩⟩
  · by_cases hmem : (u, v) ∈ st.2
    · exact ⟨st, by simp [pcDecStep, hz, hmem], hn, hm, hb, hd, forall_mem_snoc.2 ⟨hdone, fun _ => hmem⟩⟩
    · have huv : u ≠ v := by
        intro e; subst e; exact hz (hT.1 u hu)
      have hvis := pcDecPair_visit c hc _ (hT.2 u v hu hv huv) hz
      have hspec := applyOpsG_spec c u v huv (pcDecPair c (A u v) (A v u)) st.1
      have hbe : bits st.1 u v = PB.empty := by rw [hb u v huv, if_neg hmem]
      rw [hbe, hvis] at hspec
      obtain ⟨h, e1, e2, e3, e4⟩ := hspec
      refine ⟨(h, (u, v) :: (v, u) :: st.2), by simp [pcDecStep, hz, hmem, e1], e2.trans hn, ?_, ?_, ?_, ?_⟩
      · intro a b hab
        simp only [List.mem_cons, Prod.mk.injEq] at hab ⊢
        rcases hab with ⟨rfl, rfl⟩ | ⟨rfl, rfl⟩ | h
        · exact ⟨Or.inr (Or.inl ⟨rfl, rfl⟩), huv, hu, hv⟩
        · exact ⟨Or.inl ⟨rfl, rfl⟩, fun e => huv e.symm, hv, hu⟩
        · obtain ⟨h1, h2⟩ := hm a b h
          exact ⟨Or.inr (Or.inr h1), h2⟩
      · intro a b hab
        by_cases c1 : a = u ∧ b = v
        · obtain ⟨rfl, rfl⟩ := c1
          simp [e3]
        · by_cases c2 : a = v ∧ b = u
          · obtain ⟨rfl, rfl⟩ := c2
            rw [bits_swap h b a, e3]
            simp [hT.swap hu hv huv]
          · rw [e4 a b c1 c2, hb a b hab]
            simp only [List.mem_cons, Prod.mk.injEq, c1, c2, false_or]
      · intro a
        rw [e4 a a (fun e => huv (e.1.symm.trans e.2)) (fun e => huv (e.2.symm.trans e.1)), hd a]
      · exact forall_mem_snoc.2 ⟨fun x hx hnz => List.mem_cons_of_mem _ (List.mem_cons_of_mem _ (hdone x hx hnz)),
          fun _ => List.mem_cons_self⟩

/-- **`pcalg_to_graph` on a well-formed matrix** returns the graph the documentation assigns to it -/
theorem pcDec_spec (c : Cls) (hc : c ∈ [Cls.cpdag, .pag]) (A : Mat) (n : Nat) (T : Nat → Nat → PB)
    (hT : Denotes c .pcalg A n T) : ∃ g, pcDec c A n = some g ∧ Decodes g n T := by
  obtain ⟨st, hst, hn, hm, hb, hd, hdone⟩ :=
    foldl_inv (pcDecStep c A) (fun done o => ∃ st, o = some st ∧ PcInv A n T done st) (allPairs n)
      (by
        rintro done ⟨u, v⟩ _ hx ⟨st, rfl, hinv⟩
        obtain ⟨hu, hv⟩ := mem_allPairs.1 hx
        exact pcDecStep_inv c hc A n T hT u v hu hv done st hinv)
      ⟨(emptyG n, []), rfl, rfl, by simp, by simp [bits_emptyG], fun a => bits_emptyG n a a, by simp⟩
  refine ⟨st.1, by simp [pcDec, ne_admg_of_mem hc, hst], hn, ?_, hd, ?_⟩
  · intro a b ha hb' hab
    rw [hb a b hab]
    by_cases hmem : (a, b) ∈ st.2
    · rw [if_pos hmem]
    · rw [if_neg hmem]
      -- both cells are zero, so the documented configuration is the empty one
      have h1 : A a b = 0 := Decidable.not_not.1 fun hnz => hmem (hdone (a, b) (mem_allPairs.2 ⟨ha, hb'⟩) hnz)
      have h2 : A b a = 0 := Decidable.not_not.1 fun hnz => hmem (hm b a (hdone (b, a) (mem_allPairs.2 ⟨hb', ha⟩) hnz)).1
      have he := hT.2 a b ha hb' hab
      rw [h1, h2] at he
      exact (tableZ_cells_inj c (mem_allCls c) .pcalg (mem_fmts _) _ he _ List.mem_cons_self rfl).symm
  · intro a b hnot
    by_cases hab : a = b
    · subst hab; exact hd a
    · rw [hb a b hab, if_neg]
      intro hmem; exact hnot ⟨(hm a b hmem).2.2.1, (hm a b hmem).2.2.2⟩

end C14
