import Pw.C14.Ts

/-! # C14 — lag array of a stationary time-series graph round-trips (any number of variables, any max_lag) -/
namespace C14

/-- stationarity of a time-series graph inside its window: every edge goes forward in time (directed
    case), stays inside the window and all its homologous copies `((x, d+k), (y, k))` are present -/
def ShiftClosed (G : TsG) : Prop :=
  ∀ x a y b, G.hasEdge (x, a) (y, b) = true →
    x < G.nv ∧ y < G.nv ∧ a ≤ G.maxLag ∧ b ≤ G.maxLag ∧ (G.directed = true → b ≤ a) ∧
    (b ≤ a → ∀ k, a - b + k ≤ G.maxLag → G.hasEdge (x, a - b + k) (y, k) = true)

theorem mem_tsDec_edges {d : Bool} {nv L : Nat} {A : Arr} {x a y b : Nat} :
    ((x, a), (y, b)) ∈ (tsDec d nv L A).edges ↔ x < nv ∧ y < nv ∧ b ≤ a ∧ a ≤ L ∧ A x y (a - b) > 0 := by
  simp only [tsDec, homologous, List.mem_flatMap, List.mem_range, List.mem_ite_nil_right, List.mem_map, Prod.mk.injEq]
  constructor
  · rintro ⟨y, hy, lag, hl, x, hx, hA, k, hk, ⟨rfl, rfl⟩, rfl, rfl⟩
    exact ⟨hx, hy, Nat.le_add_left k lag, by omega, by rwa [Nat.add_sub_cancel]⟩
  · rintro ⟨hx, hy, hba, ha, hA⟩
    exact ⟨y, hy, a - b, by omega, x, hx, hA, b, by omega, ⟨rfl, Nat.sub_add_cancel hba⟩, rfl, rfl⟩

theorem TsG.hasEdge_iff (G : TsG) (p q : TsNode) :
    G.hasEdge p q = true ↔ ((p, q) ∈ G.edges ∨ (G.directed = false ∧ (q, p) ∈ G.edges)) := by
  simp [TsG.hasEdge]

theorem TsG.hasEdge_symm (G : TsG) (h : G.directed = false) (p q : TsNode) : G.hasEdge p q = G.hasEdge q p := by
  simp [TsG.hasEdge, h, Bool.or_comm]

/-- **lag array round trip**: `numpy_to_tsgraph(tsgraph_to_numpy(G))` has exactly the edges of `G`, for
    every stationary directed or undirected time-series graph -/
theorem ts_export_import (G : TsG) (hG : ShiftClosed G) (p q : TsNode) :
    (tsDec G.directed G.nv G.maxLag (tsEnc G)).hasEdge p q = G.hasEdge p q := by
  have hpos : ∀ x y lag, tsEnc G x y lag > 0 ↔ G.hasEdge (x, lag) (y, 0) = true := by
    intro x y lag; unfold tsEnc; split <;> simp_all
  have fwd : ∀ x a y b, ((x, a), (y, b)) ∈ (tsDec G.directed G.nv G.maxLag (tsEnc G)).edges →
      G.hasEdge (x, a) (y, b) = true := by
    intro x a y b h
    obtain ⟨_, _, hba, ha, hA⟩ := mem_tsDec_edges.1 h
    have := (hG x (a - b) y 0 ((hpos x y (a - b)).1 hA)).2.2.2.2.2 (Nat.zero_le _) b (by omega)
    rwa [Nat.sub_zero, Nat.sub_add_cancel hba] at this
  have bwd : ∀ x a y b, G.hasEdge (x, a) (y, b) = true → b ≤ a →
      ((x, a), (y, b)) ∈ (tsDec G.directed G.nv G.maxLag (tsEnc G)).edges := by
    intro x a y b h hba
    obtain ⟨hx, hy, ha, _, _, hs⟩ := hG x a y b h
    exact mem_tsDec_edges.2 ⟨hx, hy, hba, ha, (hpos x y (a - b)).2 (hs hba 0 (Nat.le_trans (Nat.sub_le a b) ha))⟩
  apply Bool.eq_iff_iff.2
  obtain ⟨x, a⟩ := p
  obtain ⟨y, b⟩ := q
  constructor
  · intro h
    rcases (TsG.hasEdge_iff _ _ _).1 h with h | ⟨hd, h⟩
    · exact fwd _ _ _ _ h
    · rw [TsG.hasEdge_symm G hd]; exact fwd _ _ _ _ h
  · intro h
    by_cases hba : b ≤ a
    · exact (TsG.hasEdge_iff _ _ _).2 (Or.inl (bwd x a y b h hba))
    · cases hd : G.directed with
      | true => exact absurd ((hG x a y b h).2.2.2.2.1 hd) hba
      | false =>
        have h' : G.hasEdge (y, b) (x, a) = true := by rw [TsG.hasEdge_symm G hd]; exact h
        exact (TsG.hasEdge_iff _ _ _).2 (Or.inr ⟨rfl, bwd y b x a h' (by omega)⟩)

/-- well-formed lag array: 0/1 entries; for an undirected graph the lag-0 slice is symmetric -/
def WfArr (directed : Bool) (A : Arr) : Prop :=
  (∀ i j l, A i j l = 0 ∨ A i j l = 1) ∧ (directed = false → ∀ i j, A i j 0 = A j i 0)

/-- **lag array round trip, other direction**: `tsgraph_to_numpy(numpy_to_tsgraph(A)) = A` inside the window -/
theorem ts_import_export (d : Bool) (nv L : Nat) (A : Arr) (hA : WfArr d A) (i j l : Nat)
    (hi : i < nv) (hj : j < nv) (hl : l ≤ L) : tsEnc (tsDec d nv L A) i j l = A i j l := by
  have h1 : ((i, l), (j, 0)) ∈ (tsDec d nv L A).edges ↔ A i j l > 0 := by
    simp [mem_tsDec_edges, hi, hj, hl]
  have h2 : ((j, 0), (i, l)) ∈ (tsDec d nv L A).edges ↔ (l = 0 ∧ A j i 0 > 0) := by
    rw [mem_tsDec_edges, Nat.le_zero]
    constructor
    · rintro ⟨_, _, rfl, _, h⟩; exact ⟨rfl, h⟩
    · rintro ⟨rfl, h⟩; exact ⟨hj, hi, rfl, Nat.zero_le _, h⟩
  have hdir : (tsDec d nv L A).directed = d := rfl
  unfold tsEnc
  have key : (tsDec d nv L A).hasEdge (i, l) (j, 0) = true ↔ A i j l > 0 := by
    rw [TsG.hasEdge_iff, h1, h2, hdir]
    constructor
    · rintro (h | ⟨hd, rfl, h⟩)
      · exact h
      · rw [hA.2 hd i j]; exact h
    · intro h; exact Or.inl h
  rcases hA.1 i j l with h0 | h1'
  · rw [if_neg (by rw [key, h0]; decide), h0]
  · rw [if_pos (by rw [key, h1']; decide), h1']

/-! non-vacuity: `x(t-1) → y(t)` with max_lag 2 -/
example : ShiftClosed { nv := 2, maxLag := 2, directed := true, edges := [((0, 1), (1, 0)), ((0, 2), (1, 1))] } := by
  intro x a y b h
  simp [TsG.hasEdge] at h
  rcases h with ⟨⟨rfl, rfl⟩, rfl, rfl⟩ | ⟨⟨rfl, rfl⟩, rfl, rfl⟩ <;>
    refine ⟨by decide, by decide, by decide, by decide, fun _ => by decide, fun _ k hk => ?_⟩ <;>
    (have : k = 0 ∨ k = 1 := by (simp at hk; omega)) <;> rcases this with rfl | rfl <;> decide

end C14
