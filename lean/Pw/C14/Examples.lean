import Pw.C14.Tetrad

/-! # C14 — link between the driver's oracle and the theorems; non-vacuity examples -/
namespace C14

theorem lookupCfg_table_empty : ∀ c ∈ allCls, ∀ f ∈ [Fmt.numpy, .clearn, .pcalg], lookupCfg (table c f) PB.empty = none := by
  decide +kernel

/-- the matrix printed by the driver's `c14spec` (the oracle of the correspondence check) is the
    documented matrix `docMat` of the theorems -/
theorem specEnc_eq_docMat (c : Cls) (f : Fmt) (g : MG) (n a b : Nat) (ha : a < n) (hb : b < n) :
    specEnc c f g a b = docMat c f g n a b := by
  by_cases hab : a = b
  · subst hab; simp [specEnc, docMat]
  · rw [docMat_of_ne ha hb hab]
    simp only [specEnc, hab, if_false, cellOf, tableZ, lookupCfg]
    rw [List.find?_cons]
    by_cases he : bits g a b = PB.empty
    · have := lookupCfg_table_empty c (mem_allCls c) f (mem_fmts f)
      unfold lookupCfg at this
      simp [he, this]
    · have : (PB.empty == bits g a b) = false := by
        simp only [beq_eq_false_iff_ne, ne_eq]; exact fun e => he e.symm
      simp only [this]
      cases (List.find? (fun e => e.1 == bits g a b) (table c f)) <;> rfl

/-- ADMG with a bow `0 -> 1, 0 <-> 1` and `1 -- 2` -/
def exAdmg : MG := { nodes := [0, 1, 2], dir := [(0, 1)], bi := [(0, 1)], un := [(1, 2)] }
theorem exAdmg_ok : GraphOK exAdmg 3 :=
  ⟨rfl, by intro a; simp [bits, exAdmg, PB.empty]; omega, by intro a b h; simp [bits, exAdmg, PB.empty]; omega⟩
example : InDom .admg .numpy exAdmg 3 ∧ InDom .admg .clearn exAdmg 3 := ⟨inDomain_sound (by decide +kernel), inDomain_sound (by decide +kernel)⟩
example : TetDom .admg exAdmg 3 := by
  have h : ∀ a < 3, ∀ b < 3, a ≠ b → bits exAdmg a b ∈ PB.empty :: admits .admg := by decide +kernel
  exact fun a b ha hb hab => h a ha b hb hab
example : (npEnc .admg exAdmg 3).toLists 3 = [[0, 21, 0], [20, 0, 10], [0, 10, 0]] := by decide +kernel
example : (tetEnc .admg exAdmg 3).map (fun l => (l.1, tetChars l.2.1, l.2.2)) =
    [(0, ['-', '-', '>'], 1), (0, ['<', '-', '>'], 1), (1, ['-', '-', '-'], 2)] := by decide +kernel
example : Denotes .admg .numpy (Mat.ofLists [[0, 21, 0], [20, 0, 10], [0, 10, 0]]) 3
    (specDecBits .admg .numpy (Mat.ofLists [[0, 21, 0], [20, 0, 10], [0, 10, 0]])) := wfMatrix_sound (by decide +kernel)

/-! the unrepaired `graph_to_pcalg` PAG branch (ARROW/NULL instead of ARROW/TAIL) left the causal-learn
codes in place: the old remap applied to `a --> b` does not produce the documented code point -/
def pcRemapOld (x y : Int) : Int × Int :=
  if x == clARROW && y == clNULL then (pgARROW, pgNULL)
  else if x == clNULL && y == clARROW then (pgNULL, pgARROW)
  else (x, y)
theorem C14_counterexample_old_pcalg_pag_directed :
    ¬ ((clEncPair cRight).map (fun e => pcRemapOld e.2 e.1) = some (2, 3)) := by decide

end C14
