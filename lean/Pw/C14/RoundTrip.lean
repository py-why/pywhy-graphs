import Pw.C14.Encode

/-! # C14 — round trips for whole graphs / matrices of every size -/
namespace C14

/-- `g` is a graph on the nodes `0..n-1` without self loops -/
structure GraphOK (g : MG) (n : Nat) : Prop where
  nodes : g.nodes = List.range n
  diag : ∀ a, bits g a a = PB.empty
  range : ∀ a b, ¬(a < n ∧ b < n) → bits g a b = PB.empty

/-- same nodes, identical edges of every type -/
def Same (g h : MG) : Prop := h.nodes = g.nodes ∧ ∀ a b, bits h a b = bits g a b

theorem Decodes.same {g h : MG} {n : Nat} (hd : Decodes h n (bits g)) (hok : GraphOK g n) : Same g h := by
  obtain ⟨h1, h2, h3, h4⟩ := hd
  refine ⟨h1.trans hok.nodes.symm, ?_⟩
  intro a b
  by_cases hr : a < n ∧ b < n
  · by_cases hab : a = b
    · subst hab; rw [h3 a, hok.diag a]
    · exact h2 a b hr.1 hr.2 hab
  · rw [h4 a b hr, hok.range a b hr]

theorem InDom.denotes {c f g n} (hg : InDom c f g n) : Denotes c f (docMat c f g n) n (bits g) :=
  ⟨fun a _ => by simp [docMat], fun a b ha hb hab => hg.cells ha hb hab⟩

theorem Decodes.inDom {c f A n T} {h : MG} (hd : Decodes h n T) (hT : Denotes c f A n T) : InDom c f h n := by
  intro a b ha hb hab
  exact ⟨A a b, A b a, by rw [hd.pairs a b ha hb hab]; exact hT.2 a b ha hb hab⟩

theorem Decodes.docMat_eq {c f A n T} {h : MG} (hd : Decodes h n T) (hT : Denotes c f A n T) :
    ∀ a b, a < n → b < n → docMat c f h n a b = A a b := by
  intro a b ha hb
  by_cases hab : a = b
  · subst hab; simp [docMat, hT.1 a ha]
  · rw [docMat_of_ne ha hb hab, hd.pairs a b ha hb hab, cellOf_tableZ c (mem_allCls c) f (mem_fmts f) _ (hT.2 a b ha hb hab)]

theorem clearn_export_import (c : Cls) (g : MG) (n : Nat) (hok : GraphOK g n) (hg : InDom c .clearn g n) :
    ∃ m h, clEnc c g n = some m ∧ clDec c m n = some h ∧ Same g h := by
  obtain ⟨m, hm, rfl⟩ := clEnc_spec c g n hg
  obtain ⟨h, hh, hd⟩ := clDec_spec c _ n (bits g) hg.denotes
  exact ⟨_, h, hm, hh, hd.same hok⟩

theorem clearn_import_export (c : Cls) (A : Mat) (n : Nat) (T : Nat → Nat → PB) (hT : Denotes c .clearn A n T) :
    ∃ h m, clDec c A n = some h ∧ clEnc c h n = some m ∧ ∀ a b, a < n → b < n → m a b = A a b := by
  obtain ⟨h, hh, hd⟩ := clDec_spec c A n T hT
  obtain ⟨m, hm, rfl⟩ := clEnc_spec c h n (hd.inDom hT)
  exact ⟨h, _, hh, hm, hd.docMat_eq hT⟩

theorem pcalg_export_import (c : Cls) (hc : c ∈ [Cls.cpdag, .pag]) (g : MG) (n : Nat) (hok : GraphOK g n)
    (hg : InDom c .pcalg g n) :
    ∃ m h, pcEnc c g n = some m ∧ pcDec c m n = some h ∧ Same g h := by
  obtain ⟨m, hm, rfl⟩ := pcEnc_spec c hc g n hg
  obtain ⟨h, hh, hd⟩ := pcDec_spec c hc _ n (bits g) hg.denotes
  exact ⟨_, h, hm, hh, hd.same hok⟩

theorem pcalg_import_export (c : Cls) (hc : c ∈ [Cls.cpdag, .pag]) (A : Mat) (n : Nat) (T : Nat → Nat → PB)
    (hT : Denotes c .pcalg A n T) :
    ∃ h m, pcDec c A n = some h ∧ pcEnc c h n = some m ∧ ∀ a b, a < n → b < n → m a b = A a b := by
  obtain ⟨h, hh, hd⟩ := pcDec_spec c hc A n T hT
  obtain ⟨m, hm, rfl⟩ := pcEnc_spec c hc h n (hd.inDom hT)
  exact ⟨h, _, hh, hm, hd.docMat_eq hT⟩

theorem npDec_congr (c : Cls) (A B : Mat) (n : Nat) (h : ∀ a b, a < n → b < n → A a b = B a b) :
    npDec c A n = npDec c B n := by
  unfold npDec
  apply foldl_congr_mem
  intro s x hx
  obtain ⟨a, b⟩ := x
  obtain ⟨ha, hb⟩ := mem_allPairs.1 hx
  simp only [npDecStep, h a b ha hb]

theorem numpy_export_import (c : Cls) (g : MG) (n : Nat) (hok : GraphOK g n) (hg : InDom c .numpy g n) :
    ∃ h, npDec c (npEnc c g n) n = some h ∧ Same g h := by
  obtain ⟨h, hh, hd⟩ := npDec_spec c _ n (bits g) hg.denotes
  rw [npDec_congr c (npEnc c g n) (docMat c .numpy g n) n (npEnc_spec c g n hg hok.diag)]
  exact ⟨h, hh, hd.same hok⟩

theorem numpy_import_export (c : Cls) (A : Mat) (n : Nat) (T : Nat → Nat → PB) (hT : Denotes c .numpy A n T) :
    ∃ h, npDec c A n = some h ∧ ∀ a b, a < n → b < n → npEnc c h n a b = A a b := by
  obtain ⟨h, hh, hd⟩ := npDec_spec c A n T hT
  refine ⟨h, hh, fun a b ha hb => ?_⟩
  rw [npEnc_spec c h n (hd.inDom hT) hd.diag a b ha hb]
  exact hd.docMat_eq hT a b ha hb

theorem find?_map_some {α β : Type} {t : List α} {p : α → Bool} {f : α → β} {y : β}
    (h : (t.find? p).map f = some y) : ∃ e ∈ t, p e = true ∧ f e = y := by
  obtain ⟨e, he, rfl⟩ := Option.map_eq_some_iff.1 h
  exact ⟨e, List.mem_of_find?_eq_some he, List.find?_some he, rfl⟩

theorem lookupCfg_mem {t : List (PB × Int × Int)} {p : PB} {xy : Int × Int} (h : lookupCfg t p = some xy) :
    (p, xy.1, xy.2) ∈ t := by
  obtain ⟨⟨p', x, y⟩, hm, hp, rfl⟩ := find?_map_some h
  rwa [← beq_iff_eq.1 hp]

theorem lookupCells_mem {t : List (PB × Int × Int)} {x y : Int} {p : PB} (h : lookupCells t x y = some p) :
    (p, x, y) ∈ t := by
  obtain ⟨⟨p', x', y'⟩, hm, hp, rfl⟩ := find?_map_some h
  obtain ⟨rfl, rfl⟩ : x' = x ∧ y' = y := by simpa using hp
  exact hm

/-- the executable domain test of the driver implies the hypothesis of the theorems -/
theorem inDomain_sound {c f g n} (h : inDomain c f g n = true) : InDom c f g n := by
  intro a b ha hb hab
  have := (List.all_eq_true.1 h) (a, b) (mem_allPairs.2 ⟨ha, hb⟩)
  simp only [Bool.or_eq_true, beq_iff_eq, hab, false_or] at this
  rcases this with he | he
  · exact ⟨0, 0, he ▸ List.mem_cons_self⟩
  · obtain ⟨xy, hl⟩ := Option.isSome_iff_exists.1 he
    exact ⟨xy.1, xy.2, List.mem_cons_of_mem _ (lookupCfg_mem hl)⟩

/-- the executable well-formedness test of the driver implies the hypothesis of the theorems, with
    the documented reading `specDecBits` -/
theorem wfMatrix_sound {c f A n} (h : wfMatrix c f A n = true) : Denotes c f A n (specDecBits c f A) := by
  have hall := List.all_eq_true.1 h
  refine ⟨fun a ha => ?_, fun a b ha hb hab => ?_⟩
  · have := hall (a, a) (mem_allPairs.2 ⟨ha, ha⟩)
    simpa using this
  · have := hall (a, b) (mem_allPairs.2 ⟨ha, hb⟩)
    simp only [beq_iff_eq, hab, if_false, Bool.or_eq_true, Bool.and_eq_true] at this
    simp only [specDecBits, hab, if_false]
    cases hl : lookupCells (table c f) (A a b) (A b a) with
    | some p => exact List.mem_cons_of_mem _ (by simpa using lookupCells_mem hl)
    | none =>
      rcases this with ⟨h1, h2⟩ | h3
      · simp [h1, h2, tableZ]
      · simp [hl] at h3

/-! non-vacuity: a PAG on three nodes with `0 o-> 1 <-> 2`, and the PAG `0 --> 1` with its documented
pcalg code points -/
def exPag : MG := { nodes := [0, 1, 2], dir := [(0, 1)], bi := [(1, 2)], circ := [(1, 0)] }
example : inDomain .pag .pcalg exPag 3 = true ∧ inDomain .pag .clearn exPag 3 = true ∧ inDomain .pag .numpy exPag 3 = true := by
  decide +kernel
example : (pcEnc .pag exPag 3).map (Mat.toLists 3) = some [[0, 2, 0], [1, 0, 2], [0, 2, 0]] := by decide +kernel
example : (pcEnc .pag { nodes := [0, 1], dir := [(0, 1)] } 2).map (Mat.toLists 2) = some [[0, 2], [3, 0]] := by decide +kernel
example : (pcDec .pag (Mat.ofLists [[0, 2], [3, 0]]) 2).map (·.dir) = some [(0, 1)] := by decide +kernel
example : (pcEnc .cpdag { nodes := [0, 1], dir := [(0, 1)] } 2).map (Mat.toLists 2) = some [[0, 0], [1, 0]] := by decide
example : InDom .pag .pcalg exPag 3 ∧ GraphOK exPag 3 :=
  ⟨inDomain_sound (by decide +kernel), ⟨rfl, by intro a; simp [bits, exPag, PB.empty]; omega, by
    intro a b h; simp [bits, exPag, PB.empty]; omega⟩⟩
example : Denotes .pag .pcalg (Mat.ofLists [[0, 2, 0], [1, 0, 2], [0, 2, 0]]) 3
    (specDecBits .pag .pcalg (Mat.ofLists [[0, 2, 0], [1, 0, 2], [0, 2, 0]])) := wfMatrix_sound (by decide +kernel)

end C14
