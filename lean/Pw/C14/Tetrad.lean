import Pw.C14.RoundTrip

/-! # C14 — Tetrad text format: the written file, read back, is the graph (any size) -/
namespace C14

/-- an edge line `(node1, (mark1, mark2), node2)` as the reader sees it: first and last character of
    the edge string -/
def tetLine (l : Nat × (TM × TM) × Nat) : Nat × Char × Char × Nat := (l.1, l.2.1.1.left, l.2.1.2.right, l.2.2)

theorem mem_upperPairs {n a b : Nat} : (a, b) ∈ upperPairs n ↔ a < n ∧ b < n ∧ a < b := by
  simp [upperPairs, mem_allPairs, and_assoc]

theorem applyOpsG_append (c : Cls) (u v : Nat) (o1 o2 : List Op) (g : MG) :
    applyOpsG c u v g (o1 ++ o2) = (applyOpsG c u v g o1).bind fun h => applyOpsG c u v h o2 := by
  induction o1 generalizing g with
  | nil => rfl
  | cons o os ih =>
    simp only [List.cons_append, applyOpsG]
    cases applyOpG c u v g o with
    | none => rfl
    | some h => simp [ih]

def tetStep (c : Cls) (g : Option MG) (l : Nat × Char × Char × Nat) : Option MG :=
  g.bind fun g => applyOpsG c l.1 l.2.2.2 g (tetDecLine l.2.1 l.2.2.1)

theorem tetDec_eq (c : Cls) (n : Nat) (ls : List (Nat × Char × Char × Nat)) :
    tetDec c n ls = ls.foldl (tetStep c) (some (emptyG n)) := rfl

theorem foldl_tetStep_none (c : Cls) (ls : List (Nat × Char × Char × Nat)) : ls.foldl (tetStep c) none = none := by
  induction ls with
  | nil => rfl
  | cons l ls ih => simpa [List.foldl_cons, tetStep] using ih

theorem foldl_pair_lines (c : Cls) (u v : Nat) (es : List (TM × TM)) (g : Option MG) :
    (es.map fun e => tetLine (u, e, v)).foldl (tetStep c) g =
      g.bind fun g => applyOpsG c u v g (es.flatMap fun e => tetDecLine e.1.left e.2.right) := by
  induction es generalizing g with
  | nil => cases g <;> rfl
  | cons e es ih =>
    simp only [List.map_cons, List.foldl_cons, List.flatMap_cons]
    rw [ih]
    cases g with
    | none => rfl
    | some g =>
      simp only [tetStep, tetLine, Option.bind_some]
      rw [applyOpsG_append]

theorem foldl_tet_lines (c : Cls) (g0 : MG) (L : List (Nat × Nat)) (hL : ∀ x ∈ L, x.1 ≠ x.2) (s : Option MG) :
    ((L.flatMap fun ij => (tetPairEdges (bitsC c g0 ij.1 ij.2)).map fun e => (ij.1, e, ij.2)).map tetLine).foldl (tetStep c) s =
      L.foldl (pairStep c fun a b => some (tetOps (bitsC c g0 a b))) s := by
  rw [List.map_flatMap, List.foldl_flatMap]
  apply foldl_congr_mem
  rintro s ⟨u, v⟩ hx
  rw [List.map_map]
  refine (foldl_pair_lines c u v _ s).trans ?_
  cases s with
  | none => rfl
  | some g => simp [pairStep, hL _ hx, tetOps]

/-- `g` is a graph of class `c` all of whose pairs carry a configuration the class admits -/
def TetDom (c : Cls) (g : MG) (n : Nat) : Prop :=
  ∀ a b, a < n → b < n → a ≠ b → bits g a b ∈ PB.empty :: admits c

/-- **Tetrad**: reading the file written by `graph_to_tetrad` reproduces the graph — every class, every
    admitted configuration (including two edges on one pair), any number of nodes -/
theorem tetrad_export_import (c : Cls) (g : MG) (n : Nat) (hok : GraphOK g n) (hg : TetDom c g n) :
    ∃ h, tetDec c n ((tetEnc c g n).map tetLine) = some h ∧ Same g h := by
  rw [tetDec_eq]
  unfold tetEnc
  rw [foldl_tet_lines c g (upperPairs n) (fun x hx => Nat.ne_of_lt (mem_upperPairs.1 hx).2.2)]
  refine (pairFold_decodes c _ n (fun a b => fAny (bits g a b)) (upperPairs n) (bits g) ?_ ?_ ?_ (fun _ _ => rfl) ?_).imp
    fun h hh => ⟨hh.1, hh.2.same hok⟩
  · exact fun a b hm => ⟨(mem_upperPairs.1 hm).1, (mem_upperPairs.1 hm).2.1⟩
  · intro a b s t
    rw [fAny_swap, bits_swap g a b]
  · intro a b s t ha hb hab
    have hmask : bitsC c g a b = bits g a b := admits_mask c (mem_allCls c) _ (hg a b ha hb hab)
    have := tet_visit c (mem_allCls c) _ (hg a b ha hb hab) s (mem_allBools s) t (mem_allBools t)
    rw [show (bits g a b).mask c = bits g a b from hmask] at this
    exact ⟨_, congrArg (some ∘ tetOps) hmask, this⟩
  · intro a b ha hb hab
    -- exactly one orientation of the pair is in the upper triangle
    rcases Nat.lt_or_gt_of_ne hab with hlt | hgt
    · simp [mem_upperPairs, ha, hb, hlt, fAny]
    · simp [mem_upperPairs, ha, hb, hgt, fAny]

end C14
