import Pw.C14.Pair

/-! # C14 — lifting from pairs to whole graphs / matrices

The importers fold `add_edge` calls over index pairs; every call looks at and changes the layer
bits of one unordered pair only (`applyOpsG_spec`).  `pairFold_spec` is the generic statement "pairs
are independent": if every visit of a pair, from every state that pair can be in, succeeds and
moves the pair to the state the visit flags prescribe, then the whole fold succeeds and every pair
ends in the state prescribed by the set of visits that occur in the list — no assumption on the
order of the list. -/
namespace C14

theorem foldl_inv {σ β : Type} (step : σ → β → σ) (Inv : List β → σ → Prop) (L : List β)
    (hstep : ∀ done x s, x ∈ L → Inv done s → Inv (done ++ [x]) (step s x)) {s0 : σ} (h0 : Inv [] s0) :
    Inv L (L.foldl step s0) := by
  have aux : ∀ rest done s, (∀ x ∈ rest, x ∈ L) → Inv done s → Inv (done ++ rest) (rest.foldl step s) := by
    intro rest
    induction rest with
    | nil => intro done s _ h; rwa [List.append_nil]
    | cons x rest ih =>
      intro done s hm h
      have := ih (done ++ [x]) (step s x) (fun y hy => hm y (List.mem_cons_of_mem _ hy))
        (hstep done x s (hm x List.mem_cons_self) h)
      rwa [List.append_assoc] at this
  exact aux L [] s0 (fun _ h => h) h0

theorem foldl_congr_mem {α β : Type} (f f' : α → β → α) (l : List β) (a : α)
    (h : ∀ s x, x ∈ l → f s x = f' s x) : l.foldl f a = l.foldl f' a :=
  foldl_inv f (fun done s => s = done.foldl f' a) l
    (fun done x s hx hs => by rw [List.foldl_append, ← hs, h s x hx]; rfl) rfl

theorem forall_mem_snoc {β : Type} {p : β → Prop} {l : List β} {y : β} :
    (∀ x ∈ l ++ [y], p x) ↔ (∀ x ∈ l, p x) ∧ p y := by
  rw [List.forall_mem_append, List.forall_mem_singleton]

theorem contains_snoc (l : List (Nat × Nat)) (x y : Nat × Nat) : (l ++ [y]).contains x = (l.contains x || x == y) := by
  rw [List.contains_append, List.contains_cons, List.contains_nil, Bool.or_false]

theorem bits_swap (g : MG) (u v : Nat) : bits g v u = (bits g u v).swap := by
  simp [bits, PB.swap, Bool.or_comm]

theorem bits_insertEdge_same (g : MG) (u v : Nat) (t : ET) (h : u ≠ v) :
    bits (insertEdge g u v t) u v = (bits g u v).set t := by
  have h' : ((v, u) == (u, v)) = false := by simp [h]
  cases t <;> simp only [bits, insertEdge, PB.set, contains_snoc, h', BEq.rfl, Bool.or_true, Bool.or_false, Bool.true_or]

theorem bits_insertEdge_other (g : MG) (u v a b : Nat) (t : ET)
    (h1 : ¬(a = u ∧ b = v)) (h2 : ¬(a = v ∧ b = u)) :
    bits (insertEdge g u v t) a b = bits g a b := by
  have e1 : ((a, b) == (u, v)) = false := by simpa using h1
  have e2 : ((b, a) == (u, v)) = false := by simpa using fun (x : b = u) (y : a = v) => h2 ⟨y, x⟩
  cases t <;> simp only [bits, insertEdge, contains_snoc, e1, e2, Bool.or_false]

theorem insertEdge_nodes (g : MG) (u v : Nat) (t : ET) : (insertEdge g u v t).nodes = g.nodes := by
  cases t <;> rfl

theorem addEdge_some {c : Cls} {p q : PB} {t : ET} (h : addEdge c p t = some q) : q = p.set t := by
  -- for given class and type, `addEdge` is `none`, or `some (p.set t)` behind at most two guards
  have guard : ∀ {b : Bool} {o : Option PB}, (if b then none else o) = some q → o = some q := by
    intro b o hb
    cases b
    · exact hb
    · cases hb
  have : some (p.set t) = some q := by
    cases c <;> cases t <;> first | exact h | exact guard h | exact guard (guard h) | cases h
  exact (Option.some.inj this).symm

theorem addEdgeG_spec (c : Cls) (g : MG) (u v : Nat) (t : ET) (huv : u ≠ v) :
    match addEdge c (bits g u v) t with
    | none => addEdgeG c g u v t = none
    | some q => ∃ h, addEdgeG c g u v t = some h ∧ h.nodes = g.nodes ∧ bits h u v = q ∧
        ∀ a b, ¬(a = u ∧ b = v) → ¬(a = v ∧ b = u) → bits h a b = bits g a b := by
  cases hq : addEdge c (bits g u v) t with
  | none => simp [addEdgeG, hq]
  | some q =>
    refine ⟨insertEdge g u v t, by simp [addEdgeG, hq], insertEdge_nodes g u v t, ?_, ?_⟩
    · rw [bits_insertEdge_same g u v t huv, addEdge_some hq]
    · intro a b h1 h2; exact bits_insertEdge_other g u v a b t h1 h2

theorem applyOpG_spec (c : Cls) (g : MG) (u v : Nat) (o : Op) (huv : u ≠ v) :
    match applyOp c (bits g u v) o with
    | none => applyOpG c u v g o = none
    | some q => ∃ h, applyOpG c u v g o = some h ∧ h.nodes = g.nodes ∧ bits h u v = q ∧
        ∀ a b, ¬(a = u ∧ b = v) → ¬(a = v ∧ b = u) → bits h a b = bits g a b := by
  unfold applyOp applyOpG
  by_cases hr : o.rev = true
  · simp only [hr, if_true]
    have := addEdgeG_spec c g v u o.t (fun e => huv e.symm)
    rw [bits_swap g u v] at this
    generalize addEdge c (bits g u v).swap o.t = r at this ⊢
    cases r with
    | none => simpa using this
    | some q =>
      obtain ⟨h, h1, h2, h3, h4⟩ := this
      exact ⟨h, h1, h2, by rw [bits_swap h v u, h3], fun a b hab hba => h4 a b hba hab⟩
  · simp only [hr]
    exact addEdgeG_spec c g u v o.t huv

/-- the `add_edge` calls for the pair `(u,v)`: they succeed on the whole graph iff they succeed on
    the bits of that pair, change exactly that pair, and leave the node set alone -/
theorem applyOpsG_spec (c : Cls) (u v : Nat) (huv : u ≠ v) (ops : List Op) (g : MG) :
    match applyOps c (bits g u v) ops with
    | none => applyOpsG c u v g ops = none
    | some q => ∃ h, applyOpsG c u v g ops = some h ∧ h.nodes = g.nodes ∧ bits h u v = q ∧
        ∀ a b, ¬(a = u ∧ b = v) → ¬(a = v ∧ b = u) → bits h a b = bits g a b := by
  induction ops generalizing g with
  | nil => exact ⟨g, rfl, rfl, rfl, fun _ _ _ _ => rfl⟩
  | cons o os ih =>
    have h1 := applyOpG_spec c g u v o huv
    simp only [applyOps, applyOpsG]
    generalize applyOp c (bits g u v) o = r at h1 ⊢
    cases r with
    | none => simp [h1]
    | some q =>
      obtain ⟨h, e1, e2, e3, e4⟩ := h1
      have h2 := ih h
      rw [e3] at h2
      simp only [e1, Option.bind_some]
      generalize applyOps c q os = r2 at h2 ⊢
      cases r2 with
      | none => exact h2
      | some q2 =>
        obtain ⟨h', f1, f2, f3, f4⟩ := h2
        exact ⟨h', f1, f2.trans e2, f3, fun a b hab hba => (f4 a b hab hba).trans (e4 a b hab hba)⟩

def pairStep (c : Cls) (E : Nat → Nat → Option (List Op)) (g : Option MG) (uv : Nat × Nat) : Option MG :=
  g.bind fun g => if uv.1 == uv.2 then some g else (E uv.1 uv.2).bind fun ops => applyOpsG c uv.1 uv.2 g ops

/-- state of all pairs after the visits in `done` -/
def PairInv (F : Nat → Nat → Bool → Bool → PB) (g0 : MG) (done : List (Nat × Nat)) (g : MG) : Prop :=
  g.nodes = g0.nodes ∧
  (∀ a b, a ≠ b → bits g a b = F a b (decide ((a, b) ∈ done)) (decide ((b, a) ∈ done))) ∧
  ∀ a, bits g a a = bits g0 a a

theorem pairStep_inv (c : Cls) (E : Nat → Nat → Option (List Op)) (F : Nat → Nat → Bool → Bool → PB) (g0 : MG)
    (hsw : ∀ a b s t, (F a b s t).swap = F b a t s)
    (u v : Nat)
    (hvisit : ∀ s t, u ≠ v → ∃ ops, E u v = some ops ∧ applyOps c (F u v s t) ops = some (F u v true t))
    (done : List (Nat × Nat)) (g : MG) (hinv : PairInv F g0 done g) :
    ∃ g', pairStep c E (some g) (u, v) = some g' ∧ PairInv F g0 (done ++ [(u, v)]) g' := by
  obtain ⟨hn, hb, hd⟩ := hinv
  have hmem : ∀ a b, ¬(a = u ∧ b = v) → decide ((a, b) ∈ done ++ [(u, v)]) = decide ((a, b) ∈ done) := by
    intro a b h; simp [List.mem_append, h]
  by_cases huv : u = v
  · subst huv
    refine ⟨g, by simp only [pairStep, Option.bind_some, BEq.rfl, if_true], hn, fun a b hab => ?_, hd⟩
    rw [hb a b hab, hmem a b (fun e => hab (e.1.trans e.2.symm)), hmem b a (fun e => hab (e.2.trans e.1.symm))]
  · obtain ⟨ops, hE, hops⟩ := hvisit (decide ((u, v) ∈ done)) (decide ((v, u) ∈ done)) huv
    have hspec := applyOpsG_spec c u v huv ops g
    rw [hb u v huv, hops] at hspec
    obtain ⟨h, e1, e2, e3, e4⟩ := hspec
    have hself : decide ((u, v) ∈ done ++ [(u, v)]) = true := by simp
    refine ⟨h, by simp only [pairStep, Option.bind_some, beq_iff_eq, huv, if_false, hE, e1], e2.trans hn,
      fun a b hab => ?_, fun a => ?_⟩
    · by_cases c1 : a = u ∧ b = v
      · obtain ⟨rfl, rfl⟩ := c1
        rw [e3, hself, hmem b a (fun e => huv e.2)]
      · by_cases c2 : a = v ∧ b = u
        · obtain ⟨rfl, rfl⟩ := c2
          rw [bits_swap h b a, e3, hsw, hself, hmem a b c1]
        · rw [e4 a b c1 c2, hb a b hab, hmem a b c1, hmem b a (fun e => c2 ⟨e.2, e.1⟩)]
    · rw [e4 a a (fun e => huv (e.1.symm.trans e.2)) (fun e => huv (e.2.symm.trans e.1)), hd a]

theorem pairFold_spec (c : Cls) (E : Nat → Nat → Option (List Op)) (F : Nat → Nat → Bool → Bool → PB)
    (L : List (Nat × Nat)) (g0 : MG)
    (hsw : ∀ a b s t, (F a b s t).swap = F b a t s)
    (hvisit : ∀ a b s t, (a, b) ∈ L → a ≠ b →
      ∃ ops, E a b = some ops ∧ applyOps c (F a b s t) ops = some (F a b true t))
    (h0 : ∀ a b, a ≠ b → bits g0 a b = F a b false false) :
    ∃ g, L.foldl (pairStep c E) (some g0) = some g ∧ PairInv F g0 L g := by
  refine foldl_inv (pairStep c E) (fun done o => ∃ g, o = some g ∧ PairInv F g0 done g) L ?_
    ⟨g0, rfl, rfl, by simpa using h0, fun _ => rfl⟩
  rintro done ⟨u, v⟩ _ hx ⟨g, rfl, hinv⟩
  exact pairStep_inv c E F g0 hsw u v (fun s t huv => hvisit u v s t hx huv) done g hinv

theorem bits_emptyG (n a b : Nat) : bits (emptyG n) a b = PB.empty := by
  simp [bits, emptyG, PB.empty]

/-- what an importer must produce: the nodes `0..n-1`, the configuration `T a b` on every pair -/
structure Decodes (g : MG) (n : Nat) (T : Nat → Nat → PB) : Prop where
  nodes : g.nodes = List.range n
  pairs : ∀ a b, a < n → b < n → a ≠ b → bits g a b = T a b
  diag : ∀ a, bits g a a = PB.empty
  range : ∀ a b, ¬(a < n ∧ b < n) → bits g a b = PB.empty

/-- `pairFold_spec` for an importer that starts from the empty graph on `0..n-1` and visits pairs
    inside the matrix only -/
theorem pairFold_decodes (c : Cls) (E : Nat → Nat → Option (List Op)) (n : Nat) (S : Nat → Nat → Bool → Bool → PB)
    (L : List (Nat × Nat)) (T : Nat → Nat → PB)
    (hL : ∀ a b, (a, b) ∈ L → a < n ∧ b < n)
    (hsw : ∀ a b s t, (S a b s t).swap = S b a t s)
    (hvisit : ∀ a b s t, a < n → b < n → a ≠ b →
      ∃ ops, E a b = some ops ∧ applyOps c (S a b s t) ops = some (S a b true t))
    (h0 : ∀ a b, S a b false false = PB.empty)
    (hfin : ∀ a b, a < n → b < n → a ≠ b → S a b (decide ((a, b) ∈ L)) (decide ((b, a) ∈ L)) = T a b) :
    ∃ g, L.foldl (pairStep c E) (some (emptyG n)) = some g ∧ Decodes g n T := by
  obtain ⟨g, hg, hn, hbits, hd⟩ := pairFold_spec c E S L (emptyG n) hsw
    (fun a b s t hm => hvisit a b s t (hL a b hm).1 (hL a b hm).2) (fun a b _ => by rw [bits_emptyG, h0])
  refine ⟨g, hg, hn, fun a b ha hb hab => (hbits a b hab).trans (hfin a b ha hb hab),
    fun a => by rw [hd a, bits_emptyG], fun a b hnot => ?_⟩
  by_cases hab : a = b
  · subst hab; rw [hd a, bits_emptyG]
  · have h1 : (a, b) ∉ L := fun h => hnot (hL a b h)
    have h2 : (b, a) ∉ L := fun h => hnot ⟨(hL b a h).2, (hL b a h).1⟩
    rw [hbits a b hab, decide_eq_false h1, decide_eq_false h2, h0]

end C14
