import Pw.C14.Spec

/-! # C14 — pair level: complete finite tables, proved by evaluation

For every class, format and documented table entry `(p, x, y)` (configuration `p` of the ordered
pair `(a,b)`, cells `x = M[a,b]`, `y = M[b,a]`):

* the exporter's per-pair code is `(x, y)` (documented code points),
* the importer's `add_edge` calls for that pair, in whatever order the two orientations of the pair
  are visited and however often, never raise and end in exactly `p`.

These are the inputs of the lifting theorems in `Lift.lean`.  The larger sweeps are `decide +kernel`:
the elaborator's own evaluator is several times slower on them than the kernel. -/

namespace C14

def tableZ (c : Cls) (f : Fmt) : List (PB × Int × Int) := (PB.empty, 0, 0) :: table c f

def allCls : List Cls := [.admg, .cpdag, .pag]
theorem mem_allCls (c : Cls) : c ∈ allCls := by cases c <;> simp [allCls]
theorem mem_fmts (f : Fmt) : f ∈ [Fmt.numpy, .clearn, .pcalg] := by cases f <;> simp
def allBools : List Bool := [false, true]
theorem mem_allBools (b : Bool) : b ∈ allBools := by cases b <;> simp [allBools]
theorem ne_admg_of_mem {c : Cls} (hc : c ∈ [Cls.cpdag, .pag]) : c ≠ .admg := by rintro rfl; simp at hc

theorem tableZ_swap_closed : ∀ c ∈ allCls, ∀ f ∈ [Fmt.numpy, .clearn, .pcalg], ∀ e ∈ tableZ c f,
    (e.1.swap, e.2.2, e.2.1) ∈ tableZ c f := by decide +kernel

theorem lookupCells_tableZ : ∀ c ∈ allCls, ∀ f ∈ [Fmt.numpy, .clearn, .pcalg], ∀ e ∈ tableZ c f,
    lookupCells (tableZ c f) e.2.1 e.2.2 = some e.1 := by decide +kernel

theorem tableZ_cells_inj : ∀ c ∈ allCls, ∀ f ∈ [Fmt.numpy, .clearn, .pcalg], ∀ e ∈ tableZ c f, ∀ e' ∈ tableZ c f,
    e.2 = e'.2 → e.1 = e'.1 := by
  intro c hc f hf e he e' he' h
  have h1 := lookupCells_tableZ c hc f hf e he
  rw [h, lookupCells_tableZ c hc f hf e' he'] at h1
  exact (Option.some.inj h1).symm

def cellOf (c : Cls) (f : Fmt) (p : PB) : Int × Int := (lookupCfg (tableZ c f) p).getD (0, 0)

theorem cellOf_tableZ : ∀ c ∈ allCls, ∀ f ∈ [Fmt.numpy, .clearn, .pcalg], ∀ e ∈ tableZ c f, cellOf c f e.1 = e.2 := by
  decide +kernel

theorem tableZ_cfg_inj : ∀ c ∈ allCls, ∀ f ∈ [Fmt.numpy, .clearn, .pcalg], ∀ e ∈ tableZ c f, ∀ e' ∈ tableZ c f,
    e.1 = e'.1 → e.2 = e'.2 := by
  intro c hc f hf e he e' he' h
  rw [← cellOf_tableZ c hc f hf e he, h, cellOf_tableZ c hc f hf e' he']

theorem table_admitted : ∀ c ∈ allCls, ∀ f ∈ [Fmt.numpy, .clearn, .pcalg], ∀ e ∈ table c f, e.1 ∈ admits c := by decide +kernel

theorem admits_mask : ∀ c ∈ allCls, ∀ p ∈ PB.empty :: admits c, p.mask c = p := by decide +kernel

theorem table_mask : ∀ c ∈ allCls, ∀ f ∈ [Fmt.numpy, .clearn, .pcalg], ∀ e ∈ tableZ c f, e.1.mask c = e.1 := by
  intro c hc f hf e he
  rcases List.mem_cons.1 he with rfl | he
  · exact admits_mask c hc _ List.mem_cons_self
  · exact admits_mask c hc _ (List.mem_cons_of_mem _ (table_admitted c hc f hf e he))

theorem admits_expressible : ∀ c ∈ allCls, ∀ p ∈ admits c,
    expressible c .numpy p = true ∧ expressible c .clearn p = true ∧ (c ≠ .admg → expressible c .pcalg p = true) := by
  decide +kernel

theorem clEncPair_table : ∀ c ∈ allCls, ∀ e ∈ table c .clearn, clEncPair (e.1.mask c) = some (e.2.1, e.2.2) := by decide +kernel

theorem clEncPair_adjacent : ∀ c ∈ allCls, ∀ e ∈ table c .clearn, (e.1.mask c).adjacent = true := by decide

/-- state of a pair during `clearn_to_graph`: target once any orientation has been visited -/
def fAny (p : PB) (s t : Bool) : PB := if s || t then p else PB.empty

theorem clDecPair_visit : ∀ c ∈ allCls, ∀ e ∈ tableZ c .clearn, ∀ s ∈ allBools, ∀ t ∈ allBools,
    ∃ ops, clDecPair c e.2.1 e.2.2 = some ops ∧ applyOps c (fAny e.1 s t) ops = some (fAny e.1 true t) := by
  decide +kernel

theorem clValid_table : ∀ c ∈ allCls, ∀ e ∈ tableZ c .clearn, clValid e.2.1 = true ∧ clValid e.2.2 = true := by decide +kernel

/-- export of a pair: causal-learn endpoints, transposed, remapped -/
def pcEncPair (c : Cls) (p : PB) : Option (Int × Int) := (clEncPair p).map fun e => pcRemap c e.2 e.1

theorem pcEncPair_table : ∀ c ∈ [Cls.cpdag, .pag], ∀ e ∈ table c .pcalg, pcEncPair c (e.1.mask c) = some (e.2.1, e.2.2) := by
  decide +kernel

/-- the remap does not depend on the orientation in which the pair is visited -/
theorem pcRemap_swap : ∀ c ∈ [Cls.cpdag, .pag], ∀ e ∈ table c .clearn,
    pcRemap c e.2.1 e.2.2 = ((pcRemap c e.2.2 e.2.1).2, (pcRemap c e.2.2 e.2.1).1) := by decide +kernel

/-- pcalg domain ⊆ causal-learn domain; an entry's causal-learn cells, transposed, are zero where the
    pcalg cell is, or both non-zero and remapped to the pcalg cells -/
theorem pcalg_via_clearn : ∀ c ∈ [Cls.cpdag, .pag], ∀ e ∈ tableZ c .pcalg,
    ∃ e' ∈ tableZ c .clearn, e'.1 = e.1 ∧
      ((e'.2.2 = 0 ∧ e.2.1 = 0) ∨ (e'.2.2 ≠ 0 ∧ e'.2.1 ≠ 0 ∧ pcRemap c e'.2.2 e'.2.1 = (e.2.1, e.2.2))) := by
  decide +kernel

theorem clearn_table_nonzero : ∀ c ∈ allCls, ∀ e ∈ table c .clearn, e.2.1 ≠ 0 ∧ e.2.2 ≠ 0 := by decide

/-- import: the single visit of a pair (at its first non-zero cell) yields the target -/
theorem pcDecPair_visit : ∀ c ∈ [Cls.cpdag, .pag], ∀ e ∈ tableZ c .pcalg,
    e.2.1 ≠ 0 → applyOps c PB.empty (pcDecPair c e.2.1 e.2.2) = some e.1 := by decide +kernel

theorem pcalg_table_nonzero : ∀ c ∈ [Cls.cpdag, .pag], ∀ e ∈ table c .pcalg, e.2.1 ≠ 0 ∨ e.2.2 ≠ 0 := by decide

theorem npEncCell_table : ∀ c ∈ allCls, ∀ e ∈ tableZ c .numpy,
    npEncCell (e.1.mask c) = e.2.1 ∧ npEncCell (e.1.mask c).swap = e.2.2 := by decide +kernel

def npE (x : Int) : Option (List Op) :=
  if x == 0 then some [] else (npDecCell x).map fun ts => ts.map fun t => ⟨false, t⟩

/-- bits a cell contributes (edges u→v) -/
def npHalf (x : Int) : PB := ((npE x).getD []).foldl (fun p o => p.set o.t) PB.empty

def PB.or (p q : PB) : PB :=
  ⟨p.duv || q.duv, p.dvu || q.dvu, p.bi || q.bi, p.un || q.un, p.cuv || q.cuv, p.cvu || q.cvu⟩

/-- state of a pair during `numpy_to_graph`: contributions of the cells visited so far -/
def fNp (x y : Int) (s t : Bool) : PB :=
  (if s then npHalf x else PB.empty).or (if t then (npHalf y).swap else PB.empty)

theorem npDec_visit : ∀ c ∈ allCls, ∀ e ∈ tableZ c .numpy, ∀ s ∈ allBools, ∀ t ∈ allBools,
    ∃ ops, npE e.2.1 = some ops ∧ applyOps c (fNp e.2.1 e.2.2 s t) ops = some (fNp e.2.1 e.2.2 true t) := by
  decide +kernel

theorem npDec_final : ∀ c ∈ allCls, ∀ e ∈ tableZ c .numpy, fNp e.2.1 e.2.2 true true = e.1 := by decide +kernel

def tetChars (e : TM × TM) : List Char := [e.1.left, '-', e.2.right]

/-- `tetTable` with the edge strings as character lists (a `String` does not reduce in the kernel) -/
def tetTableC : List (PB × List (List Char)) :=
  [(cRight, [['-', '-', '>']]), (cLeft, [['<', '-', '-']]), (cBi, [['<', '-', '>']]), (cUn, [['-', '-', '-']]),
   (cCC, [['o', '-', 'o']]), (cCR, [['o', '-', '>']]), (cLC, [['<', '-', 'o']]), (cTC, [['-', '-', 'o']]),
   (cCT, [['o', '-', '-']]), (cRightBi, [['-', '-', '>'], ['<', '-', '>']]), (cLeftBi, [['<', '-', '-'], ['<', '-', '>']]),
   (cRightUn, [['-', '-', '>'], ['-', '-', '-']]), (cLeftUn, [['<', '-', '-'], ['-', '-', '-']]),
   (cBiUn, [['<', '-', '>'], ['-', '-', '-']])]

theorem tetPairEdges_table : ∀ e ∈ tetTableC, (tetPairEdges e.1).map tetChars = e.2 := by decide +kernel

/-- ops of all lines of a pair, read in the written orientation -/
def tetOps (p : PB) : List Op := (tetPairEdges p).flatMap fun e => tetDecLine e.1.left e.2.right

/-- reading the lines written for a pair, from the empty pair or again from the result, yields it -/
theorem tet_visit : ∀ c ∈ allCls, ∀ p ∈ PB.empty :: admits c, ∀ s ∈ allBools, ∀ t ∈ allBools,
    applyOps c (fAny (p.mask c) s t) (tetOps (p.mask c)) = some (fAny (p.mask c) true t) := by decide +kernel

/-- a line may be written from either side: `b <flipped> a` is read like `a <e> b` -/
theorem tetDecLine_flip : ∀ c ∈ allCls, ∀ m1 ∈ [TM.tail, .arrow, .circle], ∀ m2 ∈ [TM.tail, .arrow, .circle],
    ∀ a b c' d e f : Bool,
    (applyOps c (PB.swap ⟨a, b, c', d, e, f⟩) (tetDecLine m2.left m1.right)).map PB.swap =
      applyOps c ⟨a, b, c', d, e, f⟩ (tetDecLine m1.left m2.right) := by decide +kernel

/-- pcalg PAG: `amat[a,b] = 2, amat[b,a] = 3` ⇔ `a --> b` -/
theorem pcalg_pag_directed_codepoint :
    pcEncPair .pag cRight = some (2, 3) ∧ applyOps .pag PB.empty (pcDecPair .pag 2 3) = some cRight := by decide
/-- pcalg PAG: `amat[a,b] = 1, amat[b,a] = 3` ⇔ `a --o b`; `2,2` ⇔ `a <-> b` -/
theorem pcalg_pag_circle_codepoint :
    pcEncPair .pag cTC = some (1, 3) ∧ applyOps .pag PB.empty (pcDecPair .pag 1 3) = some cTC ∧
    pcEncPair .pag cBi = some (2, 2) ∧ applyOps .pag PB.empty (pcDecPair .pag 2 2) = some cBi := by decide
/-- pcalg CPDAG: `amat[a,b] = 0, amat[b,a] = 1` ⇔ `a --> b`; `1,1` ⇔ `a --- b` -/
theorem pcalg_cpdag_codepoints :
    pcEncPair .cpdag cRight = some (0, 1) ∧ (applyOps .cpdag PB.empty.swap (pcDecPair .cpdag 1 0)).map PB.swap = some cRight ∧
    pcEncPair .cpdag cUn = some (1, 1) ∧ applyOps .cpdag PB.empty (pcDecPair .cpdag 1 1) = some cUn := by decide
/-- numpy: `21` = directed + bidirected, `20` on the other side (docstring example) -/
theorem numpy_bow_codepoint : npEncCell cRightBi = 21 ∧ npEncCell cRightBi.swap = 20 ∧ fNp 21 20 true true = cRightBi := by
  decide
/-- causal-learn: `M[a,b] = -1` (tail at a), `M[b,a] = 1` (arrow at b) ⇔ `a --> b` -/
theorem clearn_directed_codepoint : clEncPair cRight = some (-1, 1) ∧ clDecPair .admg (-1) 1 = some [⟨false, .directed⟩] := by
  decide

end C14
