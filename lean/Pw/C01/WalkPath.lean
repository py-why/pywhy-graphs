import Pw.C01.Walk
open Closure

/-! # C01: walks as lists of hops, and T1 (an m-connecting walk contains an m-connecting path)

A walk from `a` is a list of `Hop`s (next node with the two marks of the edge taken); `OpenW` puts the collider /
non-collider condition on every inner node.  Section `LoopCut` shortens a walk to a path for any condition of that
shape (`OpenG`): `cutLoops` cuts at a repeated node provided the condition survives the cut (`Splice`), and `chain`
shows it does at a collider, because the loop cut out then contains a collider below the node. -/
namespace MG

structure Hop where
  mp : Mark   -- mark at the previous node
  mn : Mark   -- mark at the next node
  nx : Nat
deriving Repr

def ValidW (G : MG) : Nat → List Hop → Prop
  | _, [] => True
  | a, h :: t => HasEdge G a h.nx h.mp h.mn ∧ ValidW G h.nx t

def condAt (Z anZ : List Nat) (min mout : Mark) (v : Nat) : Prop :=
  if min = .head ∧ mout = .head then v ∈ anZ else v ∉ Z

def condE (Z anZ : List Nat) : Option Mark → Mark → Nat → Prop
  | none, _, _ => True
  | some m, mo, v => condAt Z anZ m mo v

/-- conditions at every node that has an outgoing hop; `e` is the entry mark at the first node
    (`none`: the first node is the walk's endpoint and carries no condition). -/
def OpenW (Z anZ : List Nat) : Option Mark → Nat → List Hop → Prop
  | _, _, [] => True
  | e, a, h :: t => condE Z anZ e h.mp a ∧ OpenW Z anZ (some h.mn) h.nx t

def endNode : Nat → List Hop → Nat
  | a, [] => a
  | _, h :: t => endNode h.nx t

def lastMn : Mark → List Hop → Mark
  | m, [] => m
  | _, h :: t => lastMn h.mn t

def nodesOf (a : Nat) (hs : List Hop) : List Nat := a :: hs.map (·.nx)

theorem nodesOf_cons (a : Nat) (h : Hop) (t : List Hop) : nodesOf a (h :: t) = a :: nodesOf h.nx t := rfl

theorem nodesOf_cut (w : Nat) (s : List Hop) (hop : Hop) (t : List Hop) :
    (nodesOf hop.nx t).Sublist (nodesOf w (s ++ hop :: t)) := by
  rw [nodesOf, nodesOf, List.map_append]
  exact (List.sublist_append_right _ _).cons _

theorem HasEdge.symm {G : MG} {a b : Nat} {ma mb : Mark} (h : HasEdge G a b ma mb) : HasEdge G b a mb ma := by
  rcases h with ⟨h1, h2, h3⟩ | ⟨h1, h2, h3⟩ | ⟨h1, h2, h3⟩ | ⟨h1, h2, h3⟩
  · exact Or.inr (Or.inl ⟨h2, h1, h3⟩)
  · exact Or.inl ⟨h2, h1, h3⟩
  · exact Or.inr (Or.inr (Or.inl ⟨h2, h1, h3.symm⟩))
  · exact Or.inr (Or.inr (Or.inr ⟨h2, h1, h3.symm⟩))

theorem HasEdge.dir_of_tail_head {G : MG} {a b : Nat} (h : HasEdge G a b .tail .head) : (a, b) ∈ G.dir :=
  mem_children.mp (hasEdge_tail_head.mp h)

theorem hasEdge_dir {G : MG} {a b : Nat} : (a, b) ∈ G.dir ↔ HasEdge G a b .tail .head :=
  ⟨fun h => Or.inl ⟨rfl, rfl, h⟩, HasEdge.dir_of_tail_head⟩

/-- ancestral-graph side condition (b): a node with an arrowhead has no undirected edge -/
def NoUndirAtHead (G : MG) : Prop :=
  ∀ a p mp, HasEdge G p a mp .head → ∀ c, ¬ HasEdge G a c .tail .tail

theorem hasEdge_tail_of_un_nil {G : MG} (h : G.un = []) {a b : Nat} {mb : Mark}
    (he : HasEdge G a b .tail mb) : mb = .head := by
  cases mb with
  | head => rfl
  | tail =>
    have := mem_sym.mp (hasEdge_tail_tail.mp he)
    rw [h] at this
    exact this.elim (nomatch ·) (nomatch ·)

theorem noUndirAtHead_of_un_nil (G : MG) (h : G.un = []) : NoUndirAtHead G :=
  fun _ _ _ _ _ hc => nomatch hasEdge_tail_of_un_nil h hc

def NoSelfLoop (G : MG) : Prop := ∀ a ma mb, ¬ HasEdge G a a ma mb

theorem noSelfLoop_of_irrefl {G : MG} (hd : ∀ a, (a, a) ∉ G.dir) (hb : ∀ a, (a, a) ∉ G.bi)
    (hu : ∀ a, (a, a) ∉ G.un) : NoSelfLoop G := by
  intro a ma mb he
  rcases he with ⟨_, _, h⟩ | ⟨_, _, h⟩ | ⟨_, _, h | h⟩ | ⟨_, _, h | h⟩
  · exact hd a h
  · exact hd a h
  · exact hb a h
  · exact hb a h
  · exact hu a h
  · exact hu a h

/-- the form a concrete graph is checked in: no edge list holds a pair `(a, a)` -/
theorem noSelfLoop_of_ne {G : MG} (h : ∀ e ∈ G.dir ++ G.bi ++ G.un, e.1 ≠ e.2) : NoSelfLoop G :=
  noSelfLoop_of_irrefl
    (fun _ hm => h _ (List.mem_append_left _ (List.mem_append_left _ hm)) rfl)
    (fun _ hm => h _ (List.mem_append_left _ (List.mem_append_right _ hm)) rfl)
    (fun _ hm => h _ (List.mem_append_right _ hm) rfl)

def AncClosed (G : MG) (anZ : List Nat) : Prop := ∀ p c, (p, c) ∈ G.dir → c ∈ anZ → p ∈ anZ

theorem validW_append {G : MG} : ∀ (P1 P2 : List Hop) (w : Nat),
    ValidW G w (P1 ++ P2) ↔ ValidW G w P1 ∧ ValidW G (endNode w P1) P2 := by
  intro P1 P2
  induction P1 with
  | nil => exact fun w => ⟨fun h => ⟨trivial, h⟩, And.right⟩
  | cons h t ih => exact fun w => by simp only [List.cons_append, ValidW, endNode, ih h.nx, and_assoc]

theorem validW_nodes {G : MG} (hwf : G.WF) : ∀ {hs : List Hop} {a : Nat}, ValidW G a hs →
    ∀ v ∈ hs.map (·.nx), v ∈ G.nodes
  | [], _, _ => nofun
  | _ :: _, _, hv => List.forall_mem_cons.mpr ⟨HasEdge.mem_nodes hwf hv.1, validW_nodes hwf hv.2⟩

theorem nodesOf_mem_nodes {G : MG} (hwf : G.WF) {a : Nat} (ha : a ∈ G.nodes) {hs : List Hop}
    (hv : ValidW G a hs) : ∀ w ∈ nodesOf a hs, w ∈ G.nodes :=
  List.forall_mem_cons.mpr ⟨ha, validW_nodes hwf hv⟩

theorem endNode_append : ∀ (P1 P2 : List Hop) (w : Nat), endNode w (P1 ++ P2) = endNode (endNode w P1) P2 := by
  intro P1 P2
  induction P1 with
  | nil => exact fun _ => rfl
  | cons h t ih => exact fun _ => ih h.nx

theorem endNode_snoc (s : List Hop) (w : Nat) (hop : Hop) : endNode w (s ++ [hop]) = hop.nx :=
  endNode_append s [hop] w

def exitMark (e : Option Mark) : List Hop → Option Mark
  | [] => e
  | h :: t => some (lastMn h.mn t)

theorem exitMark_cons (e : Option Mark) (h : Hop) (t : List Hop) :
    exitMark e (h :: t) = exitMark (some h.mn) t := by
  cases t <;> rfl

theorem exitMark_snoc (e : Option Mark) (s : List Hop) (hop : Hop) :
    exitMark e (s ++ [hop]) = some hop.mn := by
  induction s generalizing e with
  | nil => rfl
  | cons h t ih => rw [List.cons_append, exitMark_cons, ih]

theorem openW_append {Z anZ : List Nat} : ∀ (P1 P2 : List Hop) (e : Option Mark) (w : Nat),
    OpenW Z anZ e w (P1 ++ P2) ↔
      OpenW Z anZ e w P1 ∧ OpenW Z anZ (exitMark e P1) (endNode w P1) P2 := by
  intro P1 P2
  induction P1 with
  | nil => exact fun e w => ⟨fun h => ⟨trivial, h⟩, And.right⟩
  | cons h t ih =>
    exact fun e w => by simp only [List.cons_append, OpenW, endNode, exitMark_cons, ih, and_assoc]

theorem NoUndirAtHead.head_of_tail {G : MG} (hb : NoUndirAtHead G) {a p c : Nat} {mp mc : Mark}
    (hp : HasEdge G p a mp .head) (hc : HasEdge G a c .tail mc) : mc = .head := by
  cases mc with
  | head => rfl
  | tail => exact absurd hc (hb a p mp hp c)

section LoopCut
variable {ε : Type} (cond : ε → Nat → Hop → Prop) (next : Nat → Hop → ε)

/-- The shape shared by m-connecting, sigma-open and inducing walks: `cond e a h` says that `a`, entered
    with datum `e`, may be left through `h`; `h.nx` is then entered with `next a h`. -/
def OpenG : ε → Nat → List Hop → Prop
  | _, _, [] => True
  | e, a, h :: t => cond e a h ∧ OpenG (next a h) h.nx t

theorem openG_split (s : List Hop) (hop : Hop) (t : List Hop) : ∀ (e : ε) (w : Nat),
    OpenG cond next e w (s ++ hop :: t) ↔
      OpenG cond next e w (s ++ [hop]) ∧ OpenG cond next (next (endNode w s) hop) hop.nx t := by
  induction s with
  | nil => exact fun e w => by simp only [List.nil_append, OpenG, endNode, and_true]
  | cons h s ih => exact fun e w => by simp only [List.cons_append, OpenG, endNode, ih, and_assoc]

/-- The walk leaves `a` through `h`, comes back through `hop` and goes on through `h2`: then `a`, as
    first entered, may be left through `h2`. -/
def Splice (G : MG) (a : Nat) : Prop :=
  ∀ (e : ε) (h : Hop) (s : List Hop) (hop h2 : Hop),
    HasEdge G a h.nx h.mp h.mn → ValidW G h.nx (s ++ [hop]) → hop.nx = a →
    HasEdge G a h2.nx h2.mp h2.mn →
    cond e a h → OpenG cond next (next a h) h.nx (s ++ [hop]) →
    cond (next (endNode h.nx s) hop) a h2 → cond e a h2

/-- Loop cutting: if the head node occurs again on the path found for the tail, cut there. -/
theorem cutLoops {G : MG} (hsl : NoSelfLoop G) (hs : List Hop) :
    ∀ (e : ε) (a : Nat), ValidW G a hs → OpenG cond next e a hs →
      (∀ v ∈ nodesOf a hs, Splice cond next G v) →
      ∃ ps, ValidW G a ps ∧ OpenG cond next e a ps ∧ endNode a ps = endNode a hs ∧
        (nodesOf a ps).Nodup ∧ (nodesOf a ps).Sublist (nodesOf a hs) := by
  induction hs with
  | nil => exact fun e a _ _ _ => ⟨[], trivial, trivial, rfl, by simp [nodesOf], List.Sublist.refl _⟩
  | cons h t ih =>
    intro e a hv ho hsp
    obtain ⟨ps, pv, po, pe, pn, psub⟩ := ih (next a h) h.nx hv.2 ho.2
      (fun v hv => hsp v (List.mem_cons_of_mem _ hv))
    by_cases hmem : a ∈ ps.map (·.nx)
    · obtain ⟨hop, hhop, hnx⟩ := List.mem_map.mp hmem
      obtain ⟨s, t2, rfl⟩ := List.append_of_mem hhop
      have hcut : (nodesOf a t2).Sublist (nodesOf h.nx (s ++ hop :: t2)) := hnx ▸ nodesOf_cut h.nx s hop t2
      rw [List.append_cons, validW_append, endNode_snoc, hnx] at pv
      rw [openG_split, hnx] at po
      rw [endNode_append, endNode, hnx] at pe
      refine ⟨t2, pv.2, ?_, pe, pn.sublist hcut, (hcut.trans psub).cons a⟩
      cases t2 with
      | nil => trivial
      | cons h2 t3 =>
        exact ⟨hsp a List.mem_cons_self e h s hop h2 hv.1 pv.1 hnx pv.2.1 ho.1 po.1 po.2.1, po.2.2⟩
    · refine ⟨h :: ps, ⟨hv.1, pv⟩, ⟨ho.1, po⟩, pe, ?_, psub.cons_cons a⟩
      have hne : a ≠ h.nx := fun heq => hsl a h.mp h.mn (heq ▸ hv.1)
      exact List.nodup_cons.mpr ⟨fun hm => (List.mem_cons.mp hm).elim hne hmem, pn⟩

/-! Conditions that ask `P` of a collider, where `P` passes from a child to its parents; `mark e` is the
mark at the node of the edge it was entered through. -/
section Collider
variable (mark : ε → Option Mark) {G : MG} {P : Nat → Prop} (hb : NoUndirAtHead G)
  (up : ∀ p c, (p, c) ∈ G.dir → P c → P p) (hnext : ∀ a h, mark (next a h) = some h.mn)
  (hcol : ∀ e a h, mark e = some .head → h.mp = .head → cond e a h → P a)
include hb up hnext hcol

/-- chain lemma: a segment entered through an arrowhead whose last hop leaves its source through an
    arrowhead contains a collider below the entry node. -/
theorem chain (s : List Hop) (hop : Hop) (hl : hop.mp = .head) :
    ∀ (e : ε) (w : Nat), mark e = some .head → (∃ p mp, HasEdge G p w mp .head) →
      ValidW G w (s ++ [hop]) → OpenG cond next e w (s ++ [hop]) → P w := by
  induction s with
  | nil => exact fun e w he _ _ ho => hcol e w hop he hl ho.1
  | cons h t ih =>
    intro e w he ⟨p, mp', hp⟩ ⟨hv1, hv2⟩ ⟨ho1, ho2⟩
    cases hmp : h.mp with
    | head => exact hcol e w h he hmp ho1
    | tail =>
      rw [hmp] at hv1
      have hmn := hb.head_of_tail hp hv1
      rw [hmn] at hv1
      exact up w h.nx hv1.dir_of_tail_head
        (ih (next w h) h.nx (by rw [hnext, hmn]) ⟨w, .tail, hv1⟩ hv2 ho2)

/-- A collider that left and came back through tails: the loop starts with a directed edge out of the
    node and ends with one, so it contains a collider below the node. -/
theorem splice_collider {e : ε} {a : Nat} {h : Hop} {s : List Hop} {hop h2 : Hop}
    (he : mark e = some .head) (hm2 : h2.mp = .head)
    (hv1 : HasEdge G a h.nx h.mp h.mn) (hvl : ValidW G h.nx (s ++ [hop])) (hnx : hop.nx = a)
    (hv2 : HasEdge G a h2.nx h2.mp h2.mn) (c1 : cond e a h)
    (ol : OpenG cond next (next a h) h.nx (s ++ [hop]))
    (c2 : cond (next (endNode h.nx s) hop) a h2) : P a := by
  cases hmp : h.mp with
  | head => exact hcol e a h he hmp c1
  | tail =>
    cases hm3 : hop.mn with
    | head => exact hcol _ a h2 (by rw [hnext, hm3]) hm2 c2
    | tail =>
      have hhead : HasEdge G h2.nx a h2.mn .head := hm2 ▸ hv2.symm
      have hlast : HasEdge G a (endNode h.nx s) hop.mn hop.mp := by
        have := ((validW_append s [hop] h.nx).mp hvl).2.1
        rw [hnx] at this
        exact this.symm
      rw [hmp] at hv1
      rw [hm3] at hlast
      have hmn := hb.head_of_tail hhead hv1
      rw [hmn] at hv1
      exact up a h.nx hv1.dir_of_tail_head
        (chain cond next mark hb up hnext hcol s hop (hb.head_of_tail hhead hlast) (next a h) h.nx
          (by rw [hnext, hmn]) ⟨a, .tail, hv1⟩ hvl ol)

end Collider

end LoopCut

theorem openW_iff_openG {Z anZ : List Nat} : ∀ (hs : List Hop) (e : Option Mark) (a : Nat),
    OpenW Z anZ e a hs ↔ OpenG (fun e a h => condE Z anZ e h.mp a) (fun _ h => some h.mn) e a hs := by
  intro hs
  induction hs with
  | nil => exact fun _ _ => Iff.rfl
  | cons _ t ih => exact fun _ _ => and_congr Iff.rfl (ih _ _)

theorem spliceW {G : MG} {Z anZ : List Nat} (hb : NoUndirAtHead G) (hcl : AncClosed G anZ) (a : Nat) :
    Splice (fun e a h => condE Z anZ e h.mp a) (fun _ h => some h.mn) G a := by
  intro e h s hop h2 hv1 hvl hnx hv2 c1 ol c2
  cases e with
  | none => trivial
  | some m =>
    by_cases hcol : m = .head ∧ h2.mp = .head
    · have : a ∈ anZ := by
        refine splice_collider _ _ id hb hcl (fun _ _ => rfl) (fun e a h he hmp c => ?_)
          (congrArg some hcol.1) hcol.2 hv1 hvl hnx hv2 c1 ol c2
        rwa [show e = some .head from he, hmp, condE, condAt, if_pos ⟨rfl, rfl⟩] at c
      rwa [condE, condAt, if_pos hcol]
    · -- a non-collider at the cut was one before it, on one side of the loop or the other
      simp only [condE, condAt] at c1 c2 ⊢
      rw [if_neg hcol]
      cases m with
      | tail => rwa [if_neg (fun hx => nomatch hx.1)] at c1
      | head =>
        have hm2 : ¬ h2.mp = .head := fun hx => hcol ⟨rfl, hx⟩
        rwa [if_neg (fun hx => hm2 hx.2)] at c2

def EntryOK (G : MG) (e : Option Mark) (a : Nat) : Prop :=
  ∀ m, e = some m → ∃ p mp, HasEdge G p a mp m

/-- T1: every m-connecting walk can be shortened to an m-connecting path with the same end points
    (and the same condition at the first node). -/
theorem walk_to_path {G : MG} {Z anZ : List Nat}
    (hb : NoUndirAtHead G) (hsl : NoSelfLoop G) (hcl : AncClosed G anZ) :
    ∀ (hs : List Hop) (e : Option Mark) (a : Nat), EntryOK G e a → ValidW G a hs → OpenW Z anZ e a hs →
      ∃ ps, ValidW G a ps ∧ OpenW Z anZ e a ps ∧ endNode a ps = endNode a hs ∧ (nodesOf a ps).Nodup := by
  intro hs e a _ hv ho
  obtain ⟨ps, pv, po, pe, pn, _⟩ := cutLoops _ _ hsl hs e a hv ((openW_iff_openG _ _ _).mp ho)
    (fun v _ => spliceW hb hcl v)
  exact ⟨ps, pv, (openW_iff_openG _ _ _).mpr po, pe, pn⟩

end MG
