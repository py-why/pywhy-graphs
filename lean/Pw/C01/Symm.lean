import Pw.C01.Guard
open Closure

/-! # C01: swapping X and Y never changes the answer (path reversal)

`OpenP C Z e a hs`: on the walk `a, hs` every inner node that is a collider satisfies `C` and every
inner non-collider is outside `Z`.  `OpenS` is `OpenP (ColliderOpen G Z) Z`, and reversal is proved
for `OpenP`. -/
namespace MG

/-- the condition at an inner node entered with mark `mi` and left with mark `mo` (both at `v`):
    a collider must satisfy `C`, a non-collider must be outside `Z` -/
def condP (C : Nat → Prop) (Z : List Nat) (mi mo : Mark) (v : Nat) : Prop :=
  if mi = .head ∧ mo = .head then C v else v ∉ Z

def condPO (C : Nat → Prop) (Z : List Nat) : Option Mark → Option Mark → Nat → Prop
  | some mi, some mo, v => condP C Z mi mo v
  | _, _, _ => True

def OpenP (C : Nat → Prop) (Z : List Nat) : Option Mark → Nat → List Hop → Prop
  | _, _, [] => True
  | e, a, h :: t => condPO C Z e (some h.mp) a ∧ OpenP C Z (some h.mn) h.nx t

theorem condP_collider {C : Nat → Prop} {Z : List Nat} {mi mo : Mark} {v : Nat}
    (hcol : mi = .head ∧ mo = .head) : condP C Z mi mo v ↔ C v := by
  unfold condP; rw [if_pos hcol]

theorem condP_nonCollider {C : Nat → Prop} {Z : List Nat} {mi mo : Mark} {v : Nat}
    (hcol : ¬ (mi = .head ∧ mo = .head)) : condP C Z mi mo v ↔ v ∉ Z := by
  unfold condP; rw [if_neg hcol]

theorem condP_intro {C : Nat → Prop} {Z : List Nat} {mi mo : Mark} {v : Nat}
    (hc : mi = .head ∧ mo = .head → C v) (hn : ¬ (mi = .head ∧ mo = .head) → v ∉ Z) : condP C Z mi mo v := by
  by_cases hcol : mi = .head ∧ mo = .head
  · exact (condP_collider hcol).mpr (hc hcol)
  · exact (condP_nonCollider hcol).mpr (hn hcol)

theorem condP.imp {C D : Nat → Prop} {Z Z' : List Nat} {mi mo : Mark} {v : Nat} (hCD : C v → D v)
    (hZ : v ∉ Z → v ∉ Z') (h : condP C Z mi mo v) : condP D Z' mi mo v :=
  condP_intro (fun hcol => hCD ((condP_collider hcol).mp h)) fun hcol => hZ ((condP_nonCollider hcol).mp h)

theorem condPO_some {C : Nat → Prop} {Z : List Nat} {mi mo : Mark} {v : Nat} :
    condPO C Z (some mi) (some mo) v ↔ condP C Z mi mo v := Iff.rfl

theorem condP_symm {C : Nat → Prop} {Z : List Nat} {mi mo : Mark} {v : Nat} :
    condP C Z mi mo v ↔ condP C Z mo mi v := by
  unfold condP; cases mi <;> cases mo <;> simp

theorem condPO_symm {C : Nat → Prop} {Z : List Nat} {e x : Option Mark} {v : Nat} :
    condPO C Z e x v ↔ condPO C Z x e v := by
  cases e <;> cases x <;> simp [condPO]
  exact condP_symm

theorem openS_iff_openP {G : MG} {Z : List Nat} : ∀ (hs : List Hop) (e : Option Mark) (a : Nat),
    OpenS G Z e a hs ↔ OpenP (ColliderOpen G Z) Z e a hs
  | [], e, a => by cases e <;> simp [OpenS, OpenP]
  | h :: t, none, a => by
    simp only [OpenS, OpenP, condPO, true_and]; exact openS_iff_openP t _ _
  | h :: t, some m, a => by
    simp only [OpenS, OpenP, condPO, condS, condP]; rw [openS_iff_openP t _ _]

theorem openP_append {C : Nat → Prop} {Z : List Nat} : ∀ (P1 P2 : List Hop) (e : Option Mark) (w : Nat),
    OpenP C Z e w (P1 ++ P2) ↔
      OpenP C Z e w P1 ∧ OpenP C Z (exitMark e P1) (endNode w P1) P2
  | [], P2, e, w => by simp [OpenP, exitMark, endNode]
  | h :: t, P2, e, w => by
    simp only [List.cons_append, OpenP, endNode, exitMark_cons, openP_append t P2, and_assoc]

/-- the path `a, hs` walked backwards (starting at `endNode a hs`) -/
def revHops : Nat → List Hop → List Hop
  | _, [] => []
  | a, h :: t => revHops h.nx t ++ [⟨h.mn, h.mp, a⟩]

theorem endNode_revHops : ∀ (hs : List Hop) (a : Nat), endNode (endNode a hs) (revHops a hs) = a
  | [], _ => rfl
  | _ :: _, _ => endNode_snoc _ _ _

theorem validW_revHops {G : MG} : ∀ (hs : List Hop) (a : Nat),
    ValidW G a hs → ValidW G (endNode a hs) (revHops a hs) := by
  intro hs
  induction hs with
  | nil => exact fun _ _ => trivial
  | cons h t ih =>
    intro a hv
    refine (validW_append _ _ _).mpr ⟨ih h.nx hv.2, ?_⟩
    rw [show endNode a (h :: t) = endNode h.nx t from rfl, endNode_revHops]
    exact ⟨hv.1.symm, trivial⟩

theorem nodesOf_revHops : ∀ (hs : List Hop) (a : Nat),
    nodesOf (endNode a hs) (revHops a hs) = (nodesOf a hs).reverse := by
  intro hs
  induction hs with
  | nil => exact fun _ => rfl
  | cons h t ih =>
    intro a
    have ih := ih h.nx
    simp only [nodesOf, revHops, endNode, List.map_append, List.map_cons, List.map_nil,
      List.reverse_cons] at ih ⊢
    rw [← List.cons_append, ih]

theorem openP_revHops {C : Nat → Prop} {Z : List Nat} : ∀ (hs : List Hop) (a : Nat) (e x : Option Mark),
    (OpenP C Z e a hs ∧ condPO C Z (exitMark e hs) x (endNode a hs)) ↔
      (OpenP C Z x (endNode a hs) (revHops a hs) ∧ condPO C Z (exitMark x (revHops a hs)) e a)
  | [], a, e, x => by
    simp only [OpenP, exitMark, endNode, revHops, true_and]
    exact condPO_symm
  | h :: t, a, e, x => by
    have ih := openP_revHops (C := C) (Z := Z) t h.nx (some h.mn) x
    simp only [OpenP]
    rw [exitMark_cons]
    simp only [revHops, endNode]
    rw [openP_append, exitMark_snoc, endNode_revHops, and_assoc, ih]
    simp only [OpenP, and_true]
    constructor
    · rintro ⟨h1, h2, h3⟩; exact ⟨⟨h2, h3⟩, condPO_symm.mp h1⟩
    · rintro ⟨⟨h2, h3⟩, h1⟩; exact ⟨condPO_symm.mp h1, h2, h3⟩

theorem MConnPath.symm {G : MG} {Z : List Nat} {x y : Nat} (h : MConnPath G Z x y) :
    MConnPath G Z y x := by
  obtain ⟨hs, hv, hend, hn, ho⟩ := h
  refine ⟨revHops x hs, ?_, ?_, ?_, ?_⟩
  · rw [← hend]; exact validW_revHops hs x hv
  · rw [← hend]; exact endNode_revHops hs x
  · rw [← hend, nodesOf_revHops]; exact (List.reverse_perm _).nodup_iff.mpr hn
  · have := (openP_revHops (C := ColliderOpen G Z) (Z := Z) hs x none none).mp
      ⟨(openS_iff_openP hs none x).mp ho, by cases hs <;> simp [condPO, exitMark]⟩
    rw [← hend]; exact (openS_iff_openP _ _ _).mpr this.1

theorem MSep.symm {G : MG} {X Y Z : List Nat} (h : MSep G X Y Z) : MSep G Y X Z :=
  fun y hy x hx hp => h x hx y hy hp.symm

/-- **C01 (symmetry clause)** for the model: on the property's domain swapping X and Y never changes
    the answer of `m_separated`. -/
theorem mSeparated_symm (G : MG) (hwf : G.WF) (hb : NoUndirAtHead G) (hsl : NoSelfLoop G)
    (X Y Z : List Nat) (hX : ∀ x ∈ X, x ∈ G.nodes) (hY : ∀ y ∈ Y, y ∈ G.nodes)
    (hZ : ∀ z ∈ Z, z ∈ G.nodes) (hXZ : ∀ x ∈ X, x ∉ Z) (hYZ : ∀ y ∈ Y, y ∉ Z) :
    mSeparated G X Y Z = mSeparated G Y X Z := by
  have h1 := mSeparated_iff_MSep G hwf hb hsl X Y Z hX hZ hXZ
  have h2 := mSeparated_iff_MSep G hwf hb hsl Y X Z hY hZ hYZ
  exact Bool.eq_iff_iff.mpr (h1.trans (Iff.trans ⟨MSep.symm, MSep.symm⟩ h2.symm))

end MG
