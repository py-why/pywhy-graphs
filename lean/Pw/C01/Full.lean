import Pw.C01.Spec
open Closure

/-! # C01: model = path-level specification

The file opens with the facts about `Anc` and `Acyclic` that the other properties share and ends with the
dependence of `MSep` on `Z` through membership only. -/
namespace MG

theorem Anc.trans {G : MG} {a b c : Nat} (h1 : Anc G a b) (h2 : Anc G b c) : Anc G a c := by
  induction h1 with
  | refl => exact h2
  | step e _ ih => exact Anc.step e (ih h2)

theorem Anc.tail {G : MG} {a b c : Nat} (h1 : Anc G a b) (e : (b, c) ∈ G.dir) : Anc G a c :=
  h1.trans (Anc.step e (Anc.refl c))

/-- a set closed under the arrows is closed under directed paths -/
theorem Anc.closed {G : MG} {S : Nat → Prop} (hS : ∀ e ∈ G.dir, S e.1 → S e.2) {a b : Nat}
    (h : Anc G a b) : S a → S b := by
  induction h with
  | refl => exact id
  | step e _ ih => exact fun ha => ih (hS _ e ha)

/-- a rank that grows along every arrow cannot come back to where it started -/
theorem acyclic_of_rank {G : MG} (r : Nat → Nat) (h : ∀ e ∈ G.dir, r e.1 < r e.2) : Acyclic G :=
  fun _ b e hba => Nat.not_le_of_lt (h _ e)
    (hba.closed (S := fun c => r b ≤ r c) (fun e he hc => Nat.le_trans hc (Nat.le_of_lt (h e he)))
      (Nat.le_refl _))

theorem Anc.mono {G D : MG} (h : ∀ e ∈ G.dir, e ∈ D.dir) {a b : Nat} (ha : Anc G a b) : Anc D a b := by
  induction ha with
  | refl => exact Anc.refl _
  | step e _ ih => exact Anc.step (h _ e) ih

theorem Acyclic.mono {G D : MG} (h : ∀ e ∈ G.dir, e ∈ D.dir) (hac : Acyclic D) : Acyclic G :=
  fun a b hab hba => hac a b (h _ hab) (hba.mono h)

theorem no_two_cycle {G : MG} (h : Acyclic G) {a b : Nat} (hab : (a, b) ∈ G.dir) : (b, a) ∉ G.dir :=
  fun hba => h a b hab (Anc.step hba (Anc.refl a))

theorem colliderOpen_up {G : MG} {Z : List Nat} {p c : Nat} (e : (p, c) ∈ G.dir)
    (h : ColliderOpen G Z c) : ColliderOpen G Z p := by
  obtain ⟨z, hz, ha⟩ := h
  exact ⟨z, hz, Anc.step e ha⟩

theorem reach_parents_anc {G : MG} {z v : Nat} (h : Reach G.nodes G.parents z v) : Anc G v z := by
  induction h with
  | refl => exact Anc.refl _
  | tail _ s ih => exact Anc.step (mem_parents.mp s.1) ih

theorem anc_reach_parents {G : MG} (hwf : G.WF) {z v : Nat} (h : Anc G v z) :
    Reach G.nodes G.parents z v := by
  induction h with
  | refl => exact Reach.refl _
  | step e _ ih => exact Reach.tail ih ⟨mem_parents.mpr e, (hwf.1 _ e).1⟩

/-- the closure under `parents` collects the ancestors of the start nodes that are nodes -/
theorem mem_closure_parents {G : MG} (hwf : G.WF) {I : List Nat} {v : Nat} :
    v ∈ closure G.nodes G.parents I ↔ ∃ z ∈ I, z ∈ G.nodes ∧ Anc G v z := by
  rw [mem_closure]
  exact ⟨fun ⟨z, hz, hn, hr⟩ => ⟨z, hz, hn, reach_parents_anc hr⟩,
    fun ⟨z, hz, hn, ha⟩ => ⟨z, hz, hn, anc_reach_parents hwf ha⟩⟩

/-- `anc` (the model's `an_z`) is exactly the set of nodes with a directed descendant in Z -/
theorem mem_anc {G : MG} (hwf : G.WF) {Z : List Nat} (hZ : ∀ z ∈ Z, z ∈ G.nodes) {v : Nat} :
    v ∈ G.anc Z ↔ ColliderOpen G Z v := by
  unfold anc ColliderOpen
  rw [mem_closure_parents hwf]
  exact ⟨fun ⟨z, hz, _, ha⟩ => ⟨z, hz, ha⟩, fun ⟨z, hz, ha⟩ => ⟨z, hz, hZ z hz, ha⟩⟩

theorem ancClosed_anc {G : MG} (hwf : G.WF) (Z : List Nat) : AncClosed G (G.anc Z) := by
  intro p c hpc hc
  unfold anc at *
  rw [mem_closure_parents hwf] at *
  obtain ⟨z, hz, hzU, ha⟩ := hc
  exact ⟨z, hz, hzU, Anc.step hpc ha⟩

theorem openW_iff_openS {G : MG} (hwf : G.WF) {Z : List Nat} (hZ : ∀ z ∈ Z, z ∈ G.nodes) :
    ∀ (hs : List Hop) (e : Option Mark) (a : Nat),
      OpenW Z (G.anc Z) e a hs ↔ OpenS G Z e a hs := by
  intro hs
  induction hs with
  | nil => intro e a; cases e <;> exact Iff.rfl
  | cons h t ih =>
    intro e a
    cases e with
    | none => exact ⟨fun ho => (ih _ _).mp ho.2, fun ho => ⟨trivial, (ih _ _).mpr ho⟩⟩
    | some m =>
      simp only [OpenW, OpenS, condE, condAt, condS, mem_anc hwf hZ, ih]

theorem conn_of_walk {G : MG} {Z anZ : List Nat} {x : Nat} :
    ∀ (hs : List Hop) (a : Nat) (m0 : Mark), Conn G Z anZ x a m0 → ValidW G a hs →
      OpenW Z anZ (some m0) a hs → Conn G Z anZ x (endNode a hs) (lastMn m0 hs) := by
  intro hs
  induction hs with
  | nil => exact fun _ _ hc _ _ => hc
  | cons h t ih => exact fun a m0 hc hv ho => ih h.nx h.mn (Conn.step hc hv.1 ho.1) hv.2 ho.2

theorem openW_none_of_tail {Z anZ : List Nat} {a : Nat} (ha : a ∉ Z) :
    ∀ hs : List Hop, OpenW Z anZ none a hs → OpenW Z anZ (some .tail) a hs
  | [], _ => trivial
  | h :: t, ho => ⟨by rw [condE, condAt, if_neg (fun hx => nomatch hx.1)]; exact ha, ho.2⟩

theorem walk_of_conn {G : MG} {Z anZ : List Nat} {x v : Nat} {m : Mark} (hc : Conn G Z anZ x v m) :
    ∃ hs, ValidW G x hs ∧ OpenW Z anZ none x hs ∧ endNode x hs = v ∧
      (hs = [] ∧ m = .tail ∨ exitMark none hs = some m) := by
  induction hc with
  | start => exact ⟨[], trivial, trivial, rfl, Or.inl ⟨rfl, rfl⟩⟩
  | @step u w m0 mv mw _ he hcond ih =>
    obtain ⟨hs, hv, ho, hend, hm⟩ := ih
    refine ⟨hs ++ [⟨mv, mw, w⟩], ?_, ?_, ?_, Or.inr (exitMark_snoc _ _ _)⟩
    · rw [validW_append]; exact ⟨hv, by rw [hend]; exact ⟨he, trivial⟩⟩
    · rw [openW_append]
      refine ⟨ho, ?_⟩
      rw [hend]
      rcases hm with ⟨rfl, rfl⟩ | hm
      · exact ⟨trivial, trivial⟩
      · rw [hm]; exact ⟨hcond, trivial⟩
    · exact endNode_snoc _ _ _

/-- Walk-level and path-level m-connection coincide on the property's domain (T1). -/
theorem walk_iff_path {G : MG} (hwf : G.WF) (hb : NoUndirAtHead G) (hsl : NoSelfLoop G)
    {Z : List Nat} (hZ : ∀ z ∈ Z, z ∈ G.nodes) {x y : Nat} (hx : x ∉ Z) :
    (∃ m, Conn G Z (G.anc Z) x y m) ↔ MConnPath G Z x y := by
  constructor
  · rintro ⟨m, hc⟩
    obtain ⟨hs, hv, ho, hend, _⟩ := walk_of_conn hc
    obtain ⟨ps, pv, po, pe, pn⟩ :=
      walk_to_path hb hsl (ancClosed_anc hwf Z) hs none x (by intro m hm; cases hm) hv ho
    exact ⟨ps, pv, by rw [pe, hend], pn, (openW_iff_openS hwf hZ ps none x).mp po⟩
  · rintro ⟨hs, hv, hend, _, ho⟩
    have ho' := (openW_iff_openS hwf hZ hs none x).mpr ho
    have := conn_of_walk hs x .tail Conn.start hv (openW_none_of_tail hx hs ho')
    rw [hend] at this
    exact ⟨_, this⟩

/-- **C01 (main clause).** On every well-formed mixed graph without self loops in which no node
    carries both an arrowhead and an undirected edge (this covers all ADMGs, where there is no
    undirected edge at all), for X ⊆ V, Z ⊆ V and X ∩ Z = ∅, the model of `m_separated` answers
    `true` exactly when no path between X and Y is m-connecting given Z. -/
theorem mSeparated_iff_MSep (G : MG) (hwf : G.WF) (hb : NoUndirAtHead G) (hsl : NoSelfLoop G)
    (X Y Z : List Nat) (hX : ∀ x ∈ X, x ∈ G.nodes) (hZ : ∀ z ∈ Z, z ∈ G.nodes)
    (hXZ : ∀ x ∈ X, x ∉ Z) :
    mSeparated G X Y Z = true ↔ MSep G X Y Z := by
  rw [mSeparated_eq_noWalk G hwf X Y Z hX]
  simp only [not_exists, not_and]
  exact forall_congr' fun x => forall_congr' fun hx => forall_congr' fun y => forall_congr' fun hy =>
    not_exists.symm.trans (not_congr (walk_iff_path hwf hb hsl hZ (hXZ x hx)))

theorem mSeparated_pair_iff {G : MG} (hwf : G.WF) (hb : NoUndirAtHead G) (hsl : NoSelfLoop G) {x y : Nat}
    {Z : List Nat} (hx : x ∈ G.nodes) (hZ : ∀ z ∈ Z, z ∈ G.nodes) (hxZ : x ∉ Z) :
    mSeparated G [x] [y] Z = true ↔ MSep G [x] [y] Z :=
  mSeparated_iff_MSep G hwf hb hsl [x] [y] Z (List.forall_mem_singleton.mpr hx) hZ
    (List.forall_mem_singleton.mpr hxZ)

/-! m-separation depends on `Z` only through membership -/

theorem condS_congr {G : MG} {Z Z' : List Nat} (h : ∀ a, a ∈ Z ↔ a ∈ Z') (mi mo : Mark) (v : Nat) :
    condS G Z mi mo v ↔ condS G Z' mi mo v := by
  simp only [condS, ColliderOpen, h]

theorem openS_congr {G : MG} {Z Z' : List Nat} (h : ∀ a, a ∈ Z ↔ a ∈ Z') :
    ∀ (hs : List Hop) (e : Option Mark) (a : Nat), OpenS G Z e a hs ↔ OpenS G Z' e a hs
  | [], e, a => by cases e <;> exact Iff.rfl
  | hp :: t, none, a => openS_congr h t _ _
  | hp :: t, some m, a => and_congr (condS_congr h _ _ _) (openS_congr h t _ _)

theorem mSep_congr {G : MG} {X Y Z Z' : List Nat} (h : ∀ a, a ∈ Z ↔ a ∈ Z') :
    MSep G X Y Z ↔ MSep G X Y Z' := by
  simp only [MSep, MConnPath, openS_congr h]

end MG
