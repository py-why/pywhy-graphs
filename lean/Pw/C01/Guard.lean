import Pw.C01.Full
open Closure

/-! Acyclicity guard of `m_separated` (`nx.is_directed_acyclic_graph` on the directed layer). -/
namespace MG

/-- some node is reachable from one of its own children -/
def hasCycle (G : MG) : Bool :=
  G.nodes.any fun v => decide (v ∈ closure G.nodes G.children (G.children v))

/-- the model including the guard: `error` iff the directed layer is cyclic -/
def mSeparatedE (G : MG) (X Y Z : List Nat) : Except String Bool :=
  if hasCycle G then .error "cyclic" else .ok (mSeparated G X Y Z)

theorem reach_children_anc {G : MG} {a b : Nat} (h : Reach G.nodes G.children a b) : Anc G a b := by
  induction h with
  | refl => exact Anc.refl _
  | tail _ s ih => exact ih.tail (mem_children.mp s.1)

theorem anc_reach_children {G : MG} (hwf : G.WF) {a b : Nat} (h : Anc G a b) :
    Reach G.nodes G.children a b := by
  induction h with
  | refl => exact Reach.refl _
  | step e _ ih => exact Reach.head ⟨mem_children.mpr e, (hwf.1 _ e).2⟩ ih

/-- the closure under `children` collects the descendants of the start nodes that are nodes -/
theorem mem_closure_children {G : MG} (hwf : G.WF) {I : List Nat} {v : Nat} :
    v ∈ closure G.nodes G.children I ↔ ∃ c ∈ I, c ∈ G.nodes ∧ Anc G c v := by
  rw [mem_closure]
  exact ⟨fun ⟨c, hc, hn, hr⟩ => ⟨c, hc, hn, reach_children_anc hr⟩,
    fun ⟨c, hc, hn, ha⟩ => ⟨c, hc, hn, anc_reach_children hwf ha⟩⟩

theorem hasCycle_false_iff (G : MG) (hwf : G.WF) : hasCycle G = false ↔ Acyclic G := by
  unfold hasCycle Acyclic
  rw [List.any_eq_false]
  constructor
  · intro h a b hab hba
    apply h a (hwf.1 _ hab).1
    simp only [decide_eq_true_eq]
    rw [mem_closure_children hwf]
    exact ⟨b, mem_children.mpr hab, (hwf.1 _ hab).2, hba⟩
  · intro h v _ hv
    simp only [decide_eq_true_eq] at hv
    rw [mem_closure_children hwf] at hv
    obtain ⟨c, hc, _, ha⟩ := hv
    exact h v c (mem_children.mp hc) ha

/-- **C01 with guard.** The guarded model returns a value exactly on acyclic directed layers, and the
    value is the path-level m-separation relation. -/
theorem mSeparatedE_spec (G : MG) (hwf : G.WF) (hb : NoUndirAtHead G) (hsl : NoSelfLoop G)
    (X Y Z : List Nat) (hX : ∀ x ∈ X, x ∈ G.nodes) (hZ : ∀ z ∈ Z, z ∈ G.nodes)
    (hXZ : ∀ x ∈ X, x ∉ Z) (b : Bool) :
    mSeparatedE G X Y Z = .ok b ↔ (Acyclic G ∧ (b = true ↔ MSep G X Y Z)) := by
  unfold mSeparatedE
  rw [← mSeparated_iff_MSep G hwf hb hsl X Y Z hX hZ hXZ, ← hasCycle_false_iff G hwf]
  cases hasCycle G with
  | true => exact ⟨fun h => (nomatch h), fun h => (nomatch h.1)⟩
  | false =>
    rw [if_neg Bool.false_ne_true, Except.ok.injEq]
    exact ⟨fun h => ⟨rfl, h ▸ Iff.rfl⟩, fun h => (Bool.eq_iff_iff.mpr h.2).symm⟩

end MG
