import Pw.T5.Main
import Pw.T8.Main
open Closure MG

/-! # Non-vacuity: the hypotheses of the main theorems are met by concrete, non-trivial graphs -/
namespace MG

/-- a 5-node ADMG with a bow (1 -> 2 and 1 <-> 2), a collider 0 -> 2 <- 3 and a descendant 4 of it -/
def exG : MG := { nodes := [0, 1, 2, 3, 4], dir := [(0, 2), (1, 2), (3, 2), (2, 4)], bi := [(1, 2), (0, 3)] }

theorem exG_wf : exG.WF := by unfold WF exG; decide
theorem exG_nsl : NoSelfLoop exG := noSelfLoop_of_ne (by decide)
theorem exG_nuh : NoUndirAtHead exG := noUndirAtHead_of_un_nil exG rfl

/-- C01 instantiated on a concrete query (conditioning on the descendant 4 of the collider 2); the
    worklist closure is defined by well-founded recursion, so concrete *values* are obtained with
    `#eval` / the driver, not by kernel reduction -/
example (b : Bool) : mSeparatedE exG [1] [3] [4] = .ok b ↔ (Acyclic exG ∧ (b = true ↔ MSep exG [1] [3] [4])) :=
  mSeparatedE_spec exG exG_wf exG_nuh exG_nsl [1] [3] [4] (by decide) (by decide) (by decide) b

/-- T2 instantiated: the query above is decided by a vertex cut in the moral graph -/
example : MSep exG [1] [3] [] ↔ ¬ ∃ x ∈ [1], ∃ y ∈ [3], HConn exG (AntSet exG [1] [3] []) [] x y :=
  mSep_iff_moral_cut exG exG_wf exG_nuh exG_nsl [1] [3] [] (by decide) (by decide) (by decide)

/-- T5a instantiated (L = {0}, S = {4}) -/
example : C06.HasInducingPath exG [0] [4] 1 3 ↔
    ∀ Z : List Nat, (∀ z ∈ Z, z ∈ exG.nodes ∧ z ∉ [0] ∧ z ∉ [4] ∧ z ≠ 1 ∧ z ≠ 3) →
      ¬ MSep exG [1] [3] (Z ++ [4]) :=
  T5.inducing_iff_inseparable exG_wf rfl exG_nsl (by decide) (by decide) (by decide) (by decide)
    (by decide) (by decide) (by decide)

end MG

namespace C19
/-- two adjacent 2-cycles 0 <-> 1 (directed both ways), 2 <-> 3, joined by 1 -> 2, plus 0 <-> 3 bidirected -/
def exC : MG := { nodes := [0, 1, 2, 3], dir := [(0, 1), (1, 0), (2, 3), (3, 2), (1, 2)], bi := [(0, 3)] }

theorem exC_dom : Dom exC where
  wf := by unfold MG.WF exC; decide
  nodup := by decide
  noloopD := fun _ h => (by decide : ∀ e ∈ exC.dir, e.1 ≠ e.2) _ h rfl
  noloopB := fun _ h => (by decide : ∀ e ∈ exC.bi, e.1 ≠ e.2) _ h rfl

end C19
