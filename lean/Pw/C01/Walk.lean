import Pw.C01.Model
open Closure

namespace MG
/-- `Conn x v m`: an m-connecting walk from x reaches v, last edge having mark m at v
    (for the empty walk we use `tail`: the start node imposes no collider condition).
    `anZ` is any list; the theorems put `G.anc Z` for it and use only that it is closed under ancestors
    (`AncClosed`). -/
inductive Conn (G : MG) (Z anZ : List Nat) (x : Nat) : Nat → Mark → Prop
  | start : Conn G Z anZ x x .tail
  | step {v w : Nat} {m mv mw : Mark} : Conn G Z anZ x v m → HasEdge G v w mv mw →
      (if m = .head ∧ mv = .head then v ∈ anZ else v ∉ Z) → Conn G Z anZ x w mw

theorem Conn.step_noncollider {G : MG} {Z anZ : List Nat} {x v w : Nat} {m mv mw : Mark}
    (hc : Conn G Z anZ x v m) (he : HasEdge G v w mv mw) (hm : m = .tail ∨ mv = .tail) (hv : v ∉ Z) :
    Conn G Z anZ x w mw :=
  Conn.step hc he (by
    rw [if_neg]
    · exact hv
    · rintro ⟨rfl, rfl⟩; exact hm.elim (fun h => nomatch h) (fun h => nomatch h))

def Mark.ofBool : Bool → Mark | true => .head | false => .tail

theorem mem_tag {l : List Nat} {w : Nat} {b c : Bool} : (w, b) ∈ l.map (·, c) ↔ w ∈ l ∧ b = c := by
  simp only [List.mem_map, Prod.mk.injEq]
  constructor
  · rintro ⟨x, hx, rfl, rfl⟩; exact ⟨hx, rfl⟩
  · rintro ⟨hx, rfl⟩; exact ⟨w, hx, rfl, rfl⟩

/-- the successor function is exactly "one more legal edge of an m-connecting walk" -/
theorem mem_expand (G : MG) (Z anZ : List Nat) (v w : Nat) (a b : Bool) :
    (w, b) ∈ expand G Z anZ (v, a) ↔
      ∃ mv mw, HasEdge G v w mv mw ∧ mw = Mark.ofBool b ∧
        (if Mark.ofBool a = .head ∧ mv = .head then v ∈ anZ else v ∉ Z) := by
  -- the edge leaves `v` through a tail (no collider) or through a head (collider iff `a`)
  have hR : (∃ mv mw, HasEdge G v w mv mw ∧ mw = Mark.ofBool b ∧
        (if Mark.ofBool a = .head ∧ mv = .head then v ∈ anZ else v ∉ Z)) ↔
      (v ∉ Z ∧ HasEdge G v w .tail (Mark.ofBool b)) ∨
      ((if a = true then v ∈ anZ else v ∉ Z) ∧ HasEdge G v w .head (Mark.ofBool b)) := by
    constructor
    · rintro ⟨mv, mw, he, rfl, hc⟩
      cases mv with
      | tail => exact Or.inl ⟨by simpa using hc, he⟩
      | head => exact Or.inr ⟨by cases a <;> simpa [Mark.ofBool] using hc, he⟩
    · rintro (⟨hc, he⟩ | ⟨hc, he⟩)
      · exact ⟨.tail, _, he, rfl, by simpa using hc⟩
      · exact ⟨.head, _, he, rfl, by cases a <;> simpa [Mark.ofBool] using hc⟩
  rw [hR]
  cases a <;> cases b <;>
    simp only [expand, Mark.ofBool, hasEdge_tail_head, hasEdge_head_tail, hasEdge_head_head,
      hasEdge_tail_tail, List.mem_ite_nil_left, List.mem_ite_nil_right, List.mem_append, mem_tag,
      reduceCtorEq, and_false, and_true, or_false, false_or, if_true, if_false, Bool.false_eq_true]
  · exact and_or_left
  · exact and_or_left
  · exact or_comm
  · exact or_comm

theorem Mark.exists_ofBool : ∀ m : Mark, ∃ b, Mark.ofBool b = m
  | .tail => ⟨false, rfl⟩
  | .head => ⟨true, rfl⟩

theorem mem_states {G : MG} {v : Nat} {b : Bool} : (v, b) ∈ G.states ↔ v ∈ G.nodes := by
  cases b <;> simp [states]

theorem ofBool_head {b : Bool} : (Mark.ofBool b = Mark.head) ↔ b = true := by cases b <;> simp [Mark.ofBool]

theorem reach_iff_conn (G : MG) (hwf : G.WF) (Z anZ : List Nat) (x : Nat) (v : Nat) (b : Bool) :
    Reach G.states (expand G Z anZ) (x, false) (v, b) ↔ Conn G Z anZ x v (Mark.ofBool b) := by
  constructor
  · suffices ∀ s t, Reach G.states (expand G Z anZ) s t → s = (x, false) →
        Conn G Z anZ x t.1 (Mark.ofBool t.2) from fun h => this _ _ h rfl
    intro s t h
    induction h with
    | refl => rintro rfl; exact Conn.start
    | tail _ hstep ih =>
      intro hs
      obtain ⟨mv, mw, he, rfl, hc⟩ := (mem_expand G Z anZ _ _ _ _).mp hstep.1
      exact Conn.step (ih hs) he hc
  · intro h
    generalize hm : Mark.ofBool b = m at h
    induction h generalizing b with
    | start =>
      cases b
      · exact Reach.refl _
      · cases hm
    | @step u w m0 mv mw _ he hcond ih =>
      obtain ⟨a, rfl⟩ := Mark.exists_ofBool m0
      exact Reach.tail (ih a rfl) ⟨(mem_expand G Z anZ u w a b).mpr ⟨mv, mw, he, hm.symm, hcond⟩,
        mem_states.mpr (HasEdge.mem_nodes hwf he)⟩

/-- C01, walk level: the model answers `true` iff no m-connecting walk from X reaches Y. -/
theorem mSeparated_eq_noWalk (G : MG) (hwf : G.WF) (X Y Z : List Nat) (hX : ∀ x ∈ X, x ∈ G.nodes) :
    mSeparated G X Y Z = true ↔
      ¬ ∃ x ∈ X, ∃ y ∈ Y, ∃ m, Conn G Z (G.anc Z) x y m := by
  simp only [mSeparated, Bool.not_eq_true', List.any_eq_false]
  constructor
  · intro h
    rintro ⟨x, hx, y, hy, m, hc⟩
    obtain ⟨b, rfl⟩ := Mark.exists_ofBool m
    have hr := (reach_iff_conn G hwf Z (G.anc Z) x y b).mpr hc
    have hmem : (y, b) ∈ closure G.states (expand G Z (G.anc Z)) (X.map (·, false)) :=
      (mem_closure _ _ _ _).mpr ⟨(x, false), List.mem_map.mpr ⟨x, hx, rfl⟩, mem_states.mpr (hX x hx), hr⟩
    exact h (y, b) hmem (decide_eq_true hy)
  · intro h s hs
    obtain ⟨w, hw, _, hr⟩ := (mem_closure _ _ _ _).mp hs
    obtain ⟨x, hx, rfl⟩ := List.mem_map.mp hw
    obtain ⟨v, b⟩ := s
    have hc := (reach_iff_conn G hwf Z (G.anc Z) x v b).mp hr
    exact fun hy => h ⟨x, hx, v, of_decide_eq_true hy, _, hc⟩
end MG
