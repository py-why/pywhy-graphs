import Pw.C10.Encode
import Std.Data.String.ToNat
open Closure

/-! # C10: the property theorems, for `convS` (string labels, names `"U" ++ toString k`: the code) and
`convMG` (labels are numbers, names `0,1,2,…`: what the driver evaluates for separation queries) -/
namespace C10
variable {α : Type} [DecidableEq α]

theorem isConv_encode (fresh : Nat → α) (hinj : ∀ i j, fresh i = fresh j → i = j) {G : LG α}
    (hwf : G.WF) (enc : α → Nat)
    (henc : ∀ a ∈ (conv fresh G).names, ∀ b ∈ (conv fresh G).names, enc a = enc b → a = b) :
    IsConv (G.encode enc) ((conv fresh G).encode enc) (encAsg enc (convAsg fresh G)) :=
  (latentExt_conv fresh hinj hwf).isConv hwf enc henc

/-- **second sentence for the generic model, model level** -/
theorem mSeparated_conv_encode (fresh : Nat → α) (hinj : ∀ i j, fresh i = fresh j → i = j) {G : LG α}
    (hwf : G.WF) (enc : α → Nat)
    (henc : ∀ a ∈ (conv fresh G).names, ∀ b ∈ (conv fresh G).names, enc a = enc b → a = b)
    (X Y Z : List Nat) (hX : ∀ x ∈ X, x ∈ (G.encode enc).nodes) (hY : ∀ y ∈ Y, y ∈ (G.encode enc).nodes)
    (hZ : ∀ z ∈ Z, z ∈ (G.encode enc).nodes) :
    MG.mSeparated ((conv fresh G).encode enc) X Y Z = MG.mSeparated (G.encode enc) X Y Z :=
  mSeparated_of_isConv (isConv_encode fresh hinj hwf enc henc) X Y Z hX hY hZ

/-- **second sentence for the generic model, path level** -/
theorem sepPreserved_conv_encode (fresh : Nat → α) (hinj : ∀ i j, fresh i = fresh j → i = j) {G : LG α}
    (hwf : G.WF) (hsl : G.NoSelfLoop) (enc : α → Nat)
    (henc : ∀ a ∈ (conv fresh G).names, ∀ b ∈ (conv fresh G).names, enc a = enc b → a = b) :
    SepPreserved (G.encode enc) ((conv fresh G).encode enc) :=
  (latentExt_conv fresh hinj hwf).sepPreserved hwf hsl enc henc

/-- `f"U{i}" == f"U{j}"` only for `i == j` -/
theorem uname_inj : ∀ i j, uname i = uname j → i = j := by
  intro i j h
  have h' : "U" ++ Nat.repr i = "U" ++ Nat.repr j := h
  exact Nat.repr_inj.mp ((String.append_right_inj _).mp h')

/-- **C10, structure sentence, for the model of the code.** Any label set, including labels of the
    form `U<k>`. -/
theorem C10_struct {G : LG String} (hwf : G.WF) (hacy : G.dirDG.IsDAG) : Struct G (convS G) :=
  struct_conv uname uname_inj hwf hacy

theorem C10_exact {G : LG String} (hwf : G.WF) (hbd : G.BiDistinct) : Exact G (convS G) :=
  exact_conv uname uname_inj hwf hbd

/-- the clause of the structure sentence about one new node, with unbounded quantifiers (as in the
    English statement) -/
theorem newNodeFor_iff (G : LG α) (R : DG α) (u : α) (e : α × α) :
    NewNodeFor G R u e ↔
      (u ∈ R.names ∧ (∀ v ∈ G.names, u ≠ v) ∧ (∀ p, (p, u) ∉ R.edges) ∧
       ∀ c, (u, c) ∈ R.edges ↔ (c = e.1 ∨ c = e.2)) := by
  constructor
  · exact fun h => ⟨h.1, fun v hv huv => h.not_mem (huv ▸ hv), fun p hp => h.2.2.1 _ hp rfl, h.children_iff⟩
  · rintro ⟨h1, h2, h3, h4⟩
    refine ⟨h1, fun hu => h2 u hu rfl, ?_, (h4 _).mpr (Or.inl rfl), (h4 _).mpr (Or.inr rfl), ?_⟩
    · rintro ⟨p, c⟩ hq rfl; exact h3 p hq
    · rintro ⟨p, c⟩ hq rfl; exact (h4 c).mp hq

/-- the new nodes of the model of the code, one per bidirected edge, spelt out -/
theorem C10_new_nodes {G : LG String} (hwf : G.WF) :
    (convAsg uname G).map (·.2) = G.bi ∧
    ((convAsg uname G).map (·.1)).Nodup ∧
    ∀ p ∈ convAsg uname G, p.1 ∉ G.names ∧ p.1 ∈ (convS G).names ∧
      (∀ q ∈ (convS G).edges, q.2 ≠ p.1) ∧
      (∀ c, (p.1, c) ∈ (convS G).edges ↔ c = p.2.1 ∨ c = p.2.2) := by
  obtain ⟨h1, _, h3, _, _⟩ := conv_spec uname uname_inj hwf
  refine ⟨h1, h3, ?_⟩
  intro p hp
  have hn := (latentExt_conv uname uname_inj hwf).newNodeFor hwf hp
  exact ⟨hn.not_mem, hn.1, hn.2.2.1, hn.children_iff⟩

/-- the original part is kept literally (labels and attributes, in order) -/
theorem C10_original_kept {G : LG String} (hwf : G.WF) :
    (convS G).nodes = G.nodes ++ (convAsg uname G).map (fun p => (p.1, ucAttr)) ∧
    ∀ q, q.1 ∈ G.names → (q ∈ (convS G).edges ↔ q ∈ G.dir) := by
  have h := latentExt_conv uname uname_inj hwf
  exact ⟨(conv_spec uname uname_inj hwf).2.2.2.1,
    fun q hq => ⟨fun hmem => h.mem_dir hmem hq, fun hd => (h.edges q).mpr (Or.inl hd)⟩⟩

/-- **C10, separation sentence, for the model of the code** (path level: d-separation by simple
    paths in the result = m-separation by simple paths in G) under any numbering of the labels that is
    injective on the result's nodes. -/
theorem C10_sep {G : LG String} (hwf : G.WF) (hsl : G.NoSelfLoop) (enc : String → Nat)
    (henc : ∀ a ∈ (convS G).names, ∀ b ∈ (convS G).names, enc a = enc b → a = b) :
    SepPreserved (G.encode enc) ((convS G).encode enc) :=
  sepPreserved_conv_encode uname uname_inj hwf hsl enc henc

/-- **C10**: model = specification (both sentences) -/
theorem C10_full {G : LG String} (hwf : G.WF) (hacy : G.dirDG.IsDAG) (hsl : G.NoSelfLoop)
    (enc : String → Nat)
    (henc : ∀ a ∈ (convS G).names, ∀ b ∈ (convS G).names, enc a = enc b → a = b) :
    Struct G (convS G) ∧ SepPreserved (G.encode enc) ((convS G).encode enc) :=
  ⟨C10_struct hwf hacy, C10_sep hwf hsl enc henc⟩

theorem IsConv.of_eq {G G' R : MG} {asg : List (Nat × (Nat × Nat))} (h : IsConv G' R asg)
    (hn : G.nodes = G'.nodes) (hd : G.dir = G'.dir) (hb : G.bi = G'.bi) (hu : G.un = []) :
    IsConv G R asg := by
  have hwf : G.WF := by
    have := h.wf
    unfold MG.WF at this ⊢
    rw [hn, hd, hb, hu]
    exact ⟨this.1, this.2.1, fun _ he => absurd he List.not_mem_nil⟩
  exact { wf := hwf, un := hu, fn := h.fn, fresh := by rw [hn]; exact h.fresh,
          bi_asg := by rw [hb]; exact h.bi_asg, asg_bi := by rw [hb]; exact h.asg_bi,
          nodes := by rw [hn]; exact h.nodes, dir := by rw [hd]; exact h.dir,
          rbi := h.rbi, run := h.run }

theorem ofMG_names (G : MG) : (LG.ofMG G).names = G.nodes := by
  simp [LG.names, LG.ofMG, List.map_map, Function.comp_def]

theorem ofMG_wf {G : MG} (hwf : G.WF) (hnd : G.nodes.Nodup) : (LG.ofMG G).WF :=
  { nodup := by rw [ofMG_names]; exact hnd
    dir_mem := by intro e he; rw [ofMG_names]; exact hwf.1 e he
    bi_mem := by intro e he; rw [ofMG_names]; exact hwf.2.1 e he }

theorem isConv_convMG {G : MG} (hwf : G.WF) (hnd : G.nodes.Nodup) (hun : G.un = []) :
    IsConv G (convMG G) (encAsg id (convAsg id (LG.ofMG G))) := by
  have h := isConv_encode id (fun _ _ h => h) (ofMG_wf hwf hnd) id (fun _ _ _ _ h => h)
  refine h.of_eq ?_ ?_ ?_ hun
  · simp [LG.encode, ofMG_names]
  · simp [LG.encode, LG.ofMG]
  · simp [LG.encode, LG.ofMG]

/-- **C10, separation sentence, models on `Nat`-labelled graphs**: `mSeparated (conv G) = mSeparated G`
    for X, Y, Z subsets of the original nodes.  Here the user labels `0..n-1` collide with the
    generated names `0, 1, …`. -/
theorem mSeparated_convMG (G : MG) (hwf : G.WF) (hnd : G.nodes.Nodup) (hun : G.un = [])
    (X Y Z : List Nat) (hX : ∀ x ∈ X, x ∈ G.nodes) (hY : ∀ y ∈ Y, y ∈ G.nodes)
    (hZ : ∀ z ∈ Z, z ∈ G.nodes) :
    MG.mSeparated (convMG G) X Y Z = MG.mSeparated G X Y Z :=
  mSeparated_of_isConv (isConv_convMG hwf hnd hun) X Y Z hX hY hZ

theorem sepPreserved_convMG (G : MG) (hwf : G.WF) (hnd : G.nodes.Nodup) (hun : G.un = [])
    (hsl : MG.NoSelfLoop G) : SepPreserved G (convMG G) :=
  sepPreserved_of_isConv (isConv_convMG hwf hnd hun) hsl

theorem idxOf_inj_on {l : List α} : ∀ a ∈ l, ∀ b ∈ l, l.idxOf a = l.idxOf b → a = b := by
  intro a ha b hb h
  have h1 := List.getElem_idxOf (List.idxOf_lt_length_iff.mpr ha)
  have h2 := List.getElem_idxOf (List.idxOf_lt_length_iff.mpr hb)
  rw [← h1, ← h2]
  simp only [h]

/-- the numbering the harness uses: position in the result's node dict (original nodes first) -/
def idxEnc (R : DG α) (a : α) : Nat := R.names.idxOf a

/-- **C10 for the model of the code, no side hypothesis on the numbering** -/
theorem C10_full_idx {G : LG String} (hwf : G.WF) (hacy : G.dirDG.IsDAG) (hsl : G.NoSelfLoop) :
    Struct G (convS G) ∧
    SepPreserved (G.encode (idxEnc (convS G))) ((convS G).encode (idxEnc (convS G))) :=
  C10_full hwf hacy hsl _ (fun a ha b hb h => idxOf_inj_on a ha b hb h)

end C10
