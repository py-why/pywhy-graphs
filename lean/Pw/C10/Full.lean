import Pw.C10.Struct
open Closure

/-! # C10: model = specification, first sentence

`LatentExt G R asg` ("R is G's directed part plus one latent parent per pair of `asg`", by memberships
only) yields every clause of `Struct` and `Exact` but the literal node dict; by `conv_spec`,
(G, conv G) is an instance. -/
namespace C10
variable {α : Type} [DecidableEq α]

theorem DG.mem_children {R : DG α} {v c : α} : c ∈ R.children v ↔ (v, c) ∈ R.edges := by
  simp only [DG.children, List.mem_map, List.mem_filter, beq_iff_eq]
  constructor
  · rintro ⟨⟨a, b⟩, ⟨h, rfl⟩, rfl⟩; exact h
  · intro h; exact ⟨(v, c), ⟨h, rfl⟩, rfl⟩

/-- edge endpoints are nodes (true of every networkx graph) -/
def DG.Closed (R : DG α) : Prop := ∀ e ∈ R.edges, e.1 ∈ R.names ∧ e.2 ∈ R.names

omit [DecidableEq α] in
theorem DG.Reaches.trans {R : DG α} {a b c : α} (h1 : R.Reaches a b) (h2 : R.Reaches b c) :
    R.Reaches a c := by
  induction h1 with
  | refl => exact h2
  | step e _ ih => exact .step e (ih h2)

theorem reach_children_reaches {R : DG α} {a b : α} (h : Reach R.names R.children a b) :
    R.Reaches a b := by
  induction h with
  | refl => exact .refl _
  | tail _ s ih => exact ih.trans (.step (DG.mem_children.mp s.1) (.refl _))

theorem reaches_reach_children {R : DG α} (hcl : R.Closed) {a b : α} (h : R.Reaches a b) :
    Reach R.names R.children a b := by
  induction h with
  | refl => exact Reach.refl _
  | step e _ ih => exact Reach.head ⟨DG.mem_children.mpr e, (hcl _ e).2⟩ ih

/-- the validator's cycle test decides "is a DAG" -/
theorem hasCycle_false_iff (R : DG α) (hcl : R.Closed) : R.hasCycle = false ↔ R.IsDAG := by
  unfold DG.hasCycle DG.IsDAG
  rw [List.any_eq_false]
  constructor
  · intro h a b hab hba
    apply h a (hcl _ hab).1
    rw [decide_eq_true_eq, mem_closure]
    exact ⟨b, DG.mem_children.mpr hab, (hcl _ hab).2, reaches_reach_children hcl hba⟩
  · intro h v _ hv
    rw [decide_eq_true_eq, mem_closure] at hv
    obtain ⟨c, hc, _, hr⟩ := hv
    exact h v c (DG.mem_children.mp hc) (reach_children_reaches hr)

/-- the directed layer of the input as a DiGraph -/
def LG.dirDG (G : LG α) : DG α := { nodes := G.nodes, edges := G.dir }

/-- no two bidirected edges join the same pair (the bidirected layer is an `nx.Graph`) -/
def LG.BiDistinct (G : LG α) : Prop :=
  G.bi.Pairwise fun e e' => ¬ ((e.1 = e'.1 ∧ e.2 = e'.2) ∨ (e.1 = e'.2 ∧ e.2 = e'.1))

def SamePair (e e' : α × α) : Prop := (e.1 = e'.1 ∧ e.2 = e'.2) ∨ (e.1 = e'.2 ∧ e.2 = e'.1)

omit [DecidableEq α] in
theorem SamePair.symm {e e' : α × α} : SamePair e e' → SamePair e' e
  | .inl ⟨x, y⟩ => .inl ⟨x.symm, y.symm⟩
  | .inr ⟨x, y⟩ => .inr ⟨y.symm, x.symm⟩

theorem eq_of_mem_pairwise {β : Type} {S : β → β → Prop} (hsymm : ∀ a b, S a b → S b a) {l : List β}
    (hpw : l.Pairwise fun a b => ¬ S a b) {a b : β} (ha : a ∈ l) (hb : b ∈ l) (hs : S a b) : a = b :=
  List.Pairwise.forall_of_forall_of_flip (R := fun a b => S a b → a = b) (fun _ _ _ => rfl)
    (hpw.imp fun hn hs => absurd hs hn) (hpw.imp fun hn hs => absurd (hsymm _ _ hs) hn) ha hb hs

section NewNodeFor
omit [DecidableEq α]
variable {G : LG α} {R : DG α} {u : α} {e : α × α} (h : NewNodeFor G R u e)
include h

theorem NewNodeFor.not_mem : u ∉ G.names := h.2.1
theorem NewNodeFor.edge_fst : (u, e.1) ∈ R.edges := h.2.2.2.1
theorem NewNodeFor.edge_snd : (u, e.2) ∈ R.edges := h.2.2.2.2.1
theorem NewNodeFor.child {c : α} (hc : (u, c) ∈ R.edges) : c = e.1 ∨ c = e.2 := h.2.2.2.2.2 _ hc rfl
theorem NewNodeFor.children_iff (c : α) : (u, c) ∈ R.edges ↔ c = e.1 ∨ c = e.2 :=
  ⟨h.child, fun hc => hc.elim (· ▸ h.edge_fst) (· ▸ h.edge_snd)⟩

end NewNodeFor

omit [DecidableEq α] in
theorem same_pair_of_newNodeFor {G : LG α} {R : DG α} {u : α} {e e' : α × α}
    (h : NewNodeFor G R u e) (h' : NewNodeFor G R u e') : SamePair e e' := by
  -- each endpoint of `e` is a child of `u`, hence an endpoint of `e'`, and conversely
  have c1 := h'.child h.edge_fst
  have c2 := h'.child h.edge_snd
  have d1 := h.child h'.edge_fst
  have d2 := h.child h'.edge_snd
  unfold SamePair
  grind

/-- `R` is the directed part of `G` plus the latent parents listed in `asg` (pairs (latent,
    bidirected edge)), for labels of any type -/
structure LatentExt (G : LG α) (R : DG α) (asg : List (α × (α × α))) : Prop where
  names : ∀ v, v ∈ R.names ↔ v ∈ G.names ∨ ∃ p ∈ asg, p.1 = v
  edges : ∀ q, q ∈ R.edges ↔ q ∈ G.dir ∨ ∃ p ∈ asg, q = (p.1, p.2.1) ∨ q = (p.1, p.2.2)
  /-- latents are not nodes of G -/
  fresh : ∀ p ∈ asg, p.1 ∉ G.names
  /-- a latent serves one bidirected edge -/
  fn : ∀ p ∈ asg, ∀ p' ∈ asg, p.1 = p'.1 → p.2 = p'.2
  bi_asg : ∀ e ∈ G.bi, ∃ p ∈ asg, p.2 = e
  asg_bi : ∀ p ∈ asg, p.2 ∈ G.bi

section LatentExt
variable {G : LG α} {R : DG α} {asg : List (α × (α × α))}

section
omit [DecidableEq α]

theorem LatentExt.snd_mem (h : LatentExt G R asg) (hwf : G.WF) {q : α × α} (hq : q ∈ R.edges) :
    q.2 ∈ G.names := by
  rcases (h.edges q).mp hq with hd | ⟨p, hp, rfl | rfl⟩
  · exact (hwf.dir_mem q hd).2
  · exact (hwf.bi_mem _ (h.asg_bi p hp)).1
  · exact (hwf.bi_mem _ (h.asg_bi p hp)).2

theorem LatentExt.mem_dir (h : LatentExt G R asg) {q : α × α} (hq : q ∈ R.edges)
    (hq1 : q.1 ∈ G.names) : q ∈ G.dir := by
  rcases (h.edges q).mp hq with hd | ⟨p, hp, rfl | rfl⟩
  · exact hd
  · exact absurd hq1 (h.fresh p hp)
  · exact absurd hq1 (h.fresh p hp)

theorem LatentExt.mem_names (h : LatentExt G R asg) {p : α × (α × α)} (hp : p ∈ asg) : p.1 ∈ R.names :=
  (h.names _).mpr (Or.inr ⟨p, hp, rfl⟩)

theorem LatentExt.newNodeFor (h : LatentExt G R asg) (hwf : G.WF) {p : α × (α × α)} (hp : p ∈ asg) :
    NewNodeFor G R p.1 p.2 := by
  refine ⟨h.mem_names hp, h.fresh p hp, fun q hq heq => h.fresh p hp (heq ▸ h.snd_mem hwf hq),
    (h.edges _).mpr (Or.inr ⟨p, hp, Or.inl rfl⟩), (h.edges _).mpr (Or.inr ⟨p, hp, Or.inr rfl⟩), ?_⟩
  intro q hq heq
  rcases (h.edges q).mp hq with hd | ⟨p', hp', hq'⟩
  · exact absurd (heq ▸ (hwf.dir_mem q hd).1) (h.fresh p hp)
  · -- `q` leaves the latent `p'.1 = p.1`, which serves one edge only
    have hpp : p'.2 = p.2 := h.fn p' hp' p hp (by rcases hq' with rfl | rfl <;> exact heq)
    rcases hq' with rfl | rfl
    · exact Or.inl (show p'.2.1 = p.2.1 from congrArg Prod.fst hpp)
    · exact Or.inr (show p'.2.2 = p.2.2 from congrArg Prod.snd hpp)

theorem LatentExt.closed (h : LatentExt G R asg) (hwf : G.WF) : R.Closed := by
  intro q hq
  refine ⟨?_, (h.names _).mpr (Or.inl (h.snd_mem hwf hq))⟩
  rcases (h.edges q).mp hq with hd | ⟨p, hp, rfl | rfl⟩
  · exact (h.names _).mpr (Or.inl (hwf.dir_mem q hd).1)
  · exact h.mem_names hp
  · exact h.mem_names hp

theorem LatentExt.reaches_orig (h : LatentExt G R asg) (hwf : G.WF) {b c : α} (hr : R.Reaches b c)
    (hb : b ∈ G.names) : c ∈ G.names ∧ G.dirDG.Reaches b c := by
  induction hr with
  | refl => exact ⟨hb, .refl _⟩
  | step e _ ih =>
    have hd := h.mem_dir e hb
    exact (ih (hwf.dir_mem _ hd).2).imp id (.step hd)

/-- "returns a DAG": a cycle would run inside G, since no edge enters a latent -/
theorem LatentExt.isDAG (h : LatentExt G R asg) (hwf : G.WF) (hacy : G.dirDG.IsDAG) : R.IsDAG := by
  intro a b hab hba
  obtain ⟨haV, hr⟩ := h.reaches_orig hwf hba (h.snd_mem hwf hab)
  exact hacy a b (h.mem_dir hab haV) hr

end

theorem LatentExt.struct (h : LatentExt G R asg) (hwf : G.WF) (hacy : G.dirDG.IsDAG)
    (hkept : NodesKept G R) : Struct G R := by
  refine ⟨(hasCycle_false_iff _ (h.closed hwf)).mpr (h.isDAG hwf hacy), hkept,
    fun e he => (h.edges e).mpr (Or.inl he), fun e he => ?_⟩
  obtain ⟨p, hp, rfl⟩ := h.bi_asg e he
  exact ⟨p.1, h.mem_names hp, h.newNodeFor hwf hp⟩

theorem LatentExt.exact (h : LatentExt G R asg) (hwf : G.WF) (hbd : G.BiDistinct)
    (hnd : R.names.Nodup) (hone : ∀ p ∈ asg, ∀ p' ∈ asg, p.2 = p'.2 → p.1 = p'.1) : Exact G R := by
  refine ⟨hnd, ?_, ?_, ?_⟩
  · intro u hu
    rcases (h.names u).mp hu with hG | ⟨p, hp, rfl⟩
    · exact Or.inl hG
    · exact Or.inr ⟨p.2, h.asg_bi p hp, h.newNodeFor hwf hp⟩
  · intro q hq
    by_cases hq1 : q.1 ∈ G.names
    · exact Or.inl (h.mem_dir hq hq1)
    · exact Or.inr hq1
  · intro e he u hu u' hu' hn hn'
    -- a new node for `e` is a latent of `asg` whose edge joins the same pair as `e`, hence is `e`
    have key : ∀ w ∈ R.names, NewNodeFor G R w e → (w, e) ∈ asg := by
      intro w hw hnw
      rcases (h.names w).mp hw with hG | ⟨p, hp, rfl⟩
      · exact absurd hG hnw.not_mem
      · have hpe : p.2 = e := eq_of_mem_pairwise (fun _ _ => SamePair.symm) hbd (h.asg_bi p hp) he
          (same_pair_of_newNodeFor (h.newNodeFor hwf hp) hnw)
        exact hpe ▸ hp
    exact hone _ (key u hu hn) _ (key u' hu' hn') rfl

end LatentExt

section conv
variable (fresh : Nat → α) (hinj : ∀ i j, fresh i = fresh j → i = j) {G : LG α} (hwf : G.WF)
include hinj hwf

theorem conv_names : (conv fresh G).names = G.names ++ (convAsg fresh G).map (·.1) := by
  rw [DG.names, (conv_spec fresh hinj hwf).2.2.2.1, List.map_append, List.map_map]
  rfl

theorem latentExt_conv : LatentExt G (conv fresh G) (convAsg fresh G) := by
  obtain ⟨h1, h2, h3, _, h5⟩ := conv_spec fresh hinj hwf
  refine { names := fun v => ?_, edges := h5, fresh := h2, fn := fun p hp p' hp' heq => ?_,
           bi_asg := fun e he => ?_, asg_bi := fun p hp => ?_ }
  · rw [conv_names fresh hinj hwf, List.mem_append, List.mem_map]
  · exact congrArg Prod.snd (eq_of_mem_pairwise (S := fun p p' : α × (α × α) => p.1 = p'.1)
      (fun _ _ => Eq.symm) (List.pairwise_map.mp h3) hp hp' heq)
  · exact List.mem_map.mp (h1 ▸ he)
  · exact h1 ▸ List.mem_map.mpr ⟨p, hp, rfl⟩

theorem conv_isDAG (hacy : G.dirDG.IsDAG) : (conv fresh G).IsDAG :=
  (latentExt_conv fresh hinj hwf).isDAG hwf hacy

/-- **C10, first sentence.** For every label set (also one that contains generated names) the
    model's output satisfies the structure sentence. -/
theorem struct_conv (hacy : G.dirDG.IsDAG) : Struct G (conv fresh G) :=
  (latentExt_conv fresh hinj hwf).struct hwf hacy fun p hp => by
    rw [(conv_spec fresh hinj hwf).2.2.2.1]; exact List.mem_append_left _ hp

theorem conv_names_nodup : (conv fresh G).names.Nodup := by
  obtain ⟨_, h2, h3, _, _⟩ := conv_spec fresh hinj hwf
  rw [conv_names fresh hinj hwf, List.nodup_append]
  refine ⟨hwf.nodup, h3, fun a ha b hb hab => ?_⟩
  obtain ⟨p, hp, rfl⟩ := List.mem_map.mp hb
  exact h2 p hp (hab ▸ ha)

end conv

/-- the model's output contains nothing beyond what the structure sentence lists -/
theorem exact_conv (fresh : Nat → α) (hinj : ∀ i j, fresh i = fresh j → i = j) {G : LG α}
    (hwf : G.WF) (hbd : G.BiDistinct) : Exact G (conv fresh G) := by
  refine (latentExt_conv fresh hinj hwf).exact hwf hbd (conv_names_nodup fresh hinj hwf) ?_
  -- the loop makes one pair per bidirected edge, and these are pairwise different
  intro p hp p' hp' he
  have hpw : ((convAsg fresh G).map (·.2)).Pairwise fun e e' => ¬ SamePair e e' := by
    rw [(conv_spec fresh hinj hwf).1]; exact hbd
  exact congrArg Prod.fst (eq_of_mem_pairwise (S := fun p p' : α × (α × α) => SamePair p.2 p'.2)
    (fun _ _ => SamePair.symm) (List.pairwise_map.mp hpw) hp hp' (Or.inl ⟨congrArg Prod.fst he, congrArg Prod.snd he⟩))

end C10
