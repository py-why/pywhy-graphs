import Pw.C10.Spec
open Closure

/-! # C10, first sentence: the model satisfies the structure specification

For every label type, every *injective* name supply `fresh` and every well-formed input – including
inputs whose labels are generated names – `conv fresh G` is G's node dict followed by one new node
per bidirected edge; the new nodes are pairwise distinct, not nodes of G, parentless, and their
children are exactly the two endpoints. -/
namespace C10
variable {α : Type} [DecidableEq α]

theorem DG.addNode_of_not_mem {R : DG α} {u : α} {a : Attr} (h : u ∉ R.names) :
    R.addNode u a = { R with nodes := R.nodes ++ [(u, a)] } :=
  if_neg h

theorem DG.names_addNode {R : DG α} {u : α} {a : Attr} (h : u ∉ R.names) :
    (R.addNode u a).names = R.names ++ [u] := by
  rw [DG.addNode_of_not_mem h]; exact List.map_append

theorem DG.ensureNode_of_mem {R : DG α} {v : α} (h : v ∈ R.names) : R.ensureNode v = R :=
  if_pos h

theorem DG.ensureNode_edges (R : DG α) (v : α) : (R.ensureNode v).edges = R.edges := by
  unfold DG.ensureNode; split <;> rfl

theorem DG.addEdge_nodes {R : DG α} {u v : α} (hu : u ∈ R.names) (hv : v ∈ R.names) :
    (R.addEdge u v).nodes = R.nodes := by
  simp only [DG.addEdge, DG.ensureNode_of_mem hu, DG.ensureNode_of_mem hv]
  split <;> rfl

theorem DG.addEdge_names {R : DG α} {u v : α} (hu : u ∈ R.names) (hv : v ∈ R.names) :
    (R.addEdge u v).names = R.names := by
  unfold DG.names; rw [DG.addEdge_nodes hu hv]

theorem DG.mem_addEdge_edges (R : DG α) (u v : α) (q : α × α) :
    q ∈ (R.addEdge u v).edges ↔ q ∈ R.edges ∨ q = (u, v) := by
  simp only [DG.addEdge]
  split
  · rename_i h
    rw [DG.ensureNode_edges, DG.ensureNode_edges] at h ⊢
    exact ⟨Or.inl, fun h' => h'.elim id (· ▸ h)⟩
  · simp only [List.mem_append, List.mem_singleton, DG.ensureNode_edges]

theorem foldl_addNode (l : List (α × Attr)) : ∀ (R : DG α), (R.names ++ l.map (·.1)).Nodup →
    (l.foldl (fun R p => R.addNode p.1 p.2) R).nodes = R.nodes ++ l ∧
    (l.foldl (fun R p => R.addNode p.1 p.2) R).edges = R.edges := by
  induction l with
  | nil => intro R _; exact ⟨(List.append_nil _).symm, rfl⟩
  | cons p l ih =>
    intro R hnd
    have hp : p.1 ∉ R.names := fun h => (List.nodup_append.mp hnd).2.2 _ h _ List.mem_cons_self rfl
    rw [List.map_cons, List.append_cons, ← DG.names_addNode (a := p.2) hp] at hnd
    obtain ⟨ihn, ihe⟩ := ih (R.addNode p.1 p.2) hnd
    rw [List.foldl_cons]
    rw [DG.addNode_of_not_mem hp] at ihn ihe ⊢
    exact ⟨by rw [ihn, List.append_assoc]; rfl, ihe⟩

theorem foldl_addEdge (l : List (α × α)) : ∀ (R : DG α), (∀ e ∈ l, e.1 ∈ R.names ∧ e.2 ∈ R.names) →
    (l.foldl (fun R e => R.addEdge e.1 e.2) R).nodes = R.nodes ∧
    ∀ q, q ∈ (l.foldl (fun R e => R.addEdge e.1 e.2) R).edges ↔ q ∈ R.edges ∨ q ∈ l := by
  induction l with
  | nil => intro R _; exact ⟨rfl, fun q => by simp only [List.foldl_nil, List.not_mem_nil, or_false]⟩
  | cons e l ih =>
    intro R hmem
    obtain ⟨h1, h2⟩ := hmem e List.mem_cons_self
    obtain ⟨ihn, ihe⟩ := ih (R.addEdge e.1 e.2) (by
      intro e' he'; rw [DG.addEdge_names h1 h2]; exact hmem e' (List.mem_cons_of_mem _ he'))
    refine ⟨by rw [List.foldl_cons, ihn, DG.addEdge_nodes h1 h2], fun q => ?_⟩
    rw [List.foldl_cons, ihe, DG.mem_addEdge_edges, List.mem_cons, or_assoc]

theorem base_spec {G : LG α} (hwf : G.WF) :
    (base G).nodes = G.nodes ∧ ∀ q, q ∈ (base G).edges ↔ q ∈ G.dir := by
  obtain ⟨hn, he⟩ := foldl_addNode G.nodes ({} : DG α) hwf.nodup
  rw [List.nil_append] at hn
  obtain ⟨hn2, he2⟩ := foldl_addEdge G.dir (G.nodes.foldl (fun R p => R.addNode p.1 p.2) ({} : DG α))
    (by rw [DG.names, hn]; exact hwf.dir_mem)
  refine ⟨hn2.trans hn, fun q => ?_⟩
  rw [base, he2, he]
  exact or_iff_right List.not_mem_nil

/-- the loop with fuel `f` from `i`: it only passes names that are present, and it stops at a name
    that is not present unless the fuel ran out (`skip_fresh` excludes that for `f > |present|`) -/
theorem skip_spec (fresh : Nat → α) (present : List α) : ∀ (f i : Nat),
    i ≤ skip fresh present f i ∧
    (∀ j, i ≤ j → j < skip fresh present f i → fresh j ∈ present) ∧
    (fresh (skip fresh present f i) ∉ present ∨ skip fresh present f i = i + f) := by
  intro f
  induction f with
  | zero => exact fun i => ⟨Nat.le_refl i, fun _ h1 h2 => absurd h2 (Nat.not_lt.mpr h1), Or.inr rfl⟩
  | succ f ih =>
    intro i
    by_cases h : fresh i ∈ present
    · rw [show skip fresh present (f + 1) i = skip fresh present f (i + 1) from if_pos h]
      obtain ⟨h1, h2, h3⟩ := ih (i + 1)
      refine ⟨Nat.le_of_succ_le h1, fun j hj1 hj2 => ?_, h3.imp id (·.trans (Nat.add_right_comm i 1 f))⟩
      rcases Nat.eq_or_lt_of_le hj1 with rfl | hlt
      · exact h
      · exact h2 j hlt hj2
    · rw [show skip fresh present (f + 1) i = i from if_neg h]
      exact ⟨Nat.le_refl i, fun _ h1 h2 => absurd h2 (Nat.not_lt.mpr h1), Or.inl h⟩

theorem skip_fresh (fresh : Nat → α) (hinj : ∀ i j, fresh i = fresh j → i = j) (present : List α)
    (i : Nat) : fresh (skip fresh present (present.length + 1) i) ∉ present := by
  obtain ⟨_, hall, hfree | hout⟩ := skip_spec fresh present (present.length + 1) i
  · exact hfree
  · -- fuel exhausted: `|present| + 1` distinct names would all be present
    exfalso
    rw [hout] at hall
    have hnd : ((List.range' i (present.length + 1)).map fresh).Nodup :=
      List.pairwise_map.mpr (List.Pairwise.imp (fun hne heq => hne (hinj _ _ heq)) List.nodup_range')
    have hsub : (List.range' i (present.length + 1)).map fresh ⊆ present := by
      intro a ha
      obtain ⟨j, hj, rfl⟩ := List.mem_map.mp ha
      exact hall j (List.mem_range'_1.mp hj).1 (List.mem_range'_1.mp hj).2
    have := hnd.length_le_of_subset hsub
    rw [List.length_map, List.length_range'] at this
    exact Nat.not_succ_le_self _ this

/-- the fuelled loop computes what the `while` loop of the code computes: the least index ≥ `i`
    whose name is not present -/
theorem skip_least (fresh : Nat → α) (hinj : ∀ i j, fresh i = fresh j → i = j) (present : List α)
    (i : Nat) :
    i ≤ skip fresh present (present.length + 1) i ∧
    fresh (skip fresh present (present.length + 1) i) ∉ present ∧
    ∀ j, i ≤ j → j < skip fresh present (present.length + 1) i → fresh j ∈ present :=
  ⟨(skip_spec fresh present _ i).1, skip_fresh fresh hinj present i, (skip_spec fresh present _ i).2.1⟩

theorem loopBody_spec {R : DG α} {u a b : α} (hu : u ∉ R.names) (ha : a ∈ R.names) (hb : b ∈ R.names) :
    (((R.addNode u ucAttr).addEdge u a).addEdge u b).nodes = R.nodes ++ [(u, ucAttr)] ∧
    ∀ q, q ∈ (((R.addNode u ucAttr).addEdge u a).addEdge u b).edges ↔
      q ∈ R.edges ∨ q = (u, a) ∨ q = (u, b) := by
  have hn := DG.names_addNode (a := ucAttr) hu
  have hu1 : u ∈ (R.addNode u ucAttr).names := by
    rw [hn]; exact List.mem_append_right _ (List.mem_singleton.mpr rfl)
  have ha1 : a ∈ (R.addNode u ucAttr).names := by rw [hn]; exact List.mem_append_left _ ha
  have hb1 : b ∈ (R.addNode u ucAttr).names := by rw [hn]; exact List.mem_append_left _ hb
  refine ⟨?_, fun q => ?_⟩
  · rw [DG.addEdge_nodes (by rwa [DG.addEdge_names hu1 ha1]) (by rwa [DG.addEdge_names hu1 ha1]),
      DG.addEdge_nodes hu1 ha1, DG.addNode_of_not_mem hu]
  · rw [DG.mem_addEdge_edges, DG.mem_addEdge_edges, DG.addNode_of_not_mem hu, or_assoc]

/-- the list of (new node, bidirected edge) pairs produced by the loop -/
def asgOf (fresh : Nat → α) : List (α × α) → Nat → List α → List (α × (α × α))
  | [], _, _ => []
  | e :: es, idx, names =>
    let idx' := skip fresh names (names.length + 1) idx
    (fresh idx', e) :: asgOf fresh es idx' (names ++ [fresh idx'])

theorem asgOf_snd (fresh : Nat → α) : ∀ (es : List (α × α)) (idx : Nat) (names : List α),
    (asgOf fresh es idx names).map (·.2) = es
  | [], _, _ => rfl
  | e :: es, _, _ => congrArg (e :: ·) (asgOf_snd fresh es _ _)

theorem loop_spec (fresh : Nat → α) (hinj : ∀ i j, fresh i = fresh j → i = j) :
    ∀ (es : List (α × α)) (idx : Nat) (R : DG α) (names : List α), R.names = names →
      (∀ e ∈ es, e.1 ∈ names ∧ e.2 ∈ names) →
      (∀ p ∈ asgOf fresh es idx names, p.1 ∉ names) ∧
      ((asgOf fresh es idx names).map (·.1)).Nodup ∧
      (loop fresh es idx R).nodes = R.nodes ++ (asgOf fresh es idx names).map (fun p => (p.1, ucAttr)) ∧
      ∀ q, q ∈ (loop fresh es idx R).edges ↔
        q ∈ R.edges ∨ ∃ p ∈ asgOf fresh es idx names, q = (p.1, p.2.1) ∨ q = (p.1, p.2.2) := by
  intro es
  induction es with
  | nil =>
    intro idx R _ _ _
    exact ⟨fun _ h => absurd h List.not_mem_nil, List.nodup_nil, (List.append_nil _).symm,
      fun q => ⟨Or.inl, fun h => h.elim id fun h' => h'.elim fun _ hp => absurd hp.1 List.not_mem_nil⟩⟩
  | cons e es ih =>
    intro idx R names hn hmem
    subst hn
    have hu := skip_fresh fresh hinj R.names idx
    simp only [asgOf, loop]
    generalize skip fresh R.names (R.names.length + 1) idx = idx' at hu ⊢
    obtain ⟨he1, he2⟩ := hmem e List.mem_cons_self
    obtain ⟨hnodes, hedges⟩ := loopBody_spec hu he1 he2
    generalize ((R.addNode (fresh idx') ucAttr).addEdge (fresh idx') e.1).addEdge (fresh idx') e.2 = R'
      at hnodes hedges ⊢
    have hnames : R'.names = R.names ++ [fresh idx'] := by rw [DG.names, hnodes]; exact List.map_append
    obtain ⟨ih1, ih2, ih3, ih4⟩ := ih idx' R' _ hnames fun e' he' =>
      (hmem e' (List.mem_cons_of_mem _ he')).imp (List.mem_append_left _) (List.mem_append_left _)
    refine ⟨?_, ?_, ?_, fun q => ?_⟩
    · intro p hp
      rcases List.mem_cons.mp hp with rfl | hp
      · exact hu
      · exact fun hpR => ih1 p hp (List.mem_append_left _ hpR)
    · rw [List.map_cons, List.nodup_cons]
      refine ⟨fun hmem' => ?_, ih2⟩
      obtain ⟨p, hp, hpe⟩ := List.mem_map.mp hmem'
      exact ih1 p hp (List.mem_append_right _ (List.mem_singleton.mpr hpe))
    · rw [ih3, hnodes, List.append_assoc]; rfl
    · rw [ih4, hedges]
      simp only [List.mem_cons, exists_eq_or_imp, or_assoc]

/-- (new node, bidirected edge) pairs of `conv fresh G` -/
def convAsg (fresh : Nat → α) (G : LG α) : List (α × (α × α)) := asgOf fresh G.bi 0 G.names

/-- **closed form of the model's output**: G's node dict followed by the new nodes; the edges are
    G's directed edges and the two out-edges of each new node; the new nodes are pairwise distinct and
    are not nodes of G.  Holds for every label set. -/
theorem conv_spec (fresh : Nat → α) (hinj : ∀ i j, fresh i = fresh j → i = j) {G : LG α} (hwf : G.WF) :
    (convAsg fresh G).map (·.2) = G.bi ∧
    (∀ p ∈ convAsg fresh G, p.1 ∉ G.names) ∧
    ((convAsg fresh G).map (·.1)).Nodup ∧
    (conv fresh G).nodes = G.nodes ++ (convAsg fresh G).map (fun p => (p.1, ucAttr)) ∧
    ∀ q, q ∈ (conv fresh G).edges ↔
      q ∈ G.dir ∨ ∃ p ∈ convAsg fresh G, q = (p.1, p.2.1) ∨ q = (p.1, p.2.2) := by
  obtain ⟨hbn, hbe⟩ := base_spec hwf
  have hnames : (base G).names = G.names := by rw [DG.names, hbn]; rfl
  obtain ⟨h1, h2, h3, h4⟩ := loop_spec fresh hinj G.bi 0 (base G) G.names hnames hwf.bi_mem
  exact ⟨asgOf_snd fresh _ _ _, h1, h2, by rw [conv, h3, hbn]; rfl,
    fun q => by rw [conv, h4, hbe]; rfl⟩

end C10
