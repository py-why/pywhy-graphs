import Pw.C10.Encode
open Closure

/-! # C10: the structure sentence implies the separation sentence

If a returned graph `R` passes the validator the harness runs on the implementation's output
(`Struct G R ∧ Exact G R`, i.e. answer `T` of `c10valid`), separation is preserved for *all* X, Y, Z of
original nodes: where the harness only samples separation queries, the second sentence already
follows from the validated first one. -/
namespace C10
variable {α : Type} [DecidableEq α]

/-- the (latent, edge) pairs read off a validated result -/
def asgV (G : LG α) (R : DG α) : List (α × (α × α)) :=
  G.bi.flatMap fun e => (R.names.filter fun u => decide (NewNodeFor G R u e)).map fun u => (u, e)

theorem mem_asgV {G : LG α} {R : DG α} {p : α × (α × α)} :
    p ∈ asgV G R ↔ p.2 ∈ G.bi ∧ p.1 ∈ R.names ∧ NewNodeFor G R p.1 p.2 := by
  simp only [asgV, List.mem_flatMap, List.mem_map, List.mem_filter, decide_eq_true_eq]
  constructor
  · rintro ⟨e, he, u, ⟨hu, hn⟩, rfl⟩; exact ⟨he, hu, hn⟩
  · rintro ⟨he, hu, hn⟩; exact ⟨p.2, he, p.1, ⟨hu, hn⟩, rfl⟩

theorem latentExt_of_valid {G : LG α} {R : DG α} (hbd : G.BiDistinct) (hcl : R.Closed)
    (hs : Struct G R) (hx : Exact G R) : LatentExt G R (asgV G R) := by
  obtain ⟨_, hkept, hdir, hlat⟩ := hs
  obtain ⟨_, hnodes, hedges, _⟩ := hx
  refine { names := fun v => ⟨fun hv => ?_, ?_⟩, edges := fun q => ⟨fun hq => ?_, ?_⟩,
           fresh := fun p hp => (mem_asgV.mp hp).2.2.not_mem, fn := fun p hp p' hp' heq => ?_,
           bi_asg := fun e he => ?_, asg_bi := fun p hp => (mem_asgV.mp hp).1 }
  · exact (hnodes v hv).imp id fun ⟨e, he, hn⟩ => ⟨(v, e), mem_asgV.mpr ⟨he, hv, hn⟩, rfl⟩
  · rintro (hv | ⟨p, hp, rfl⟩)
    · obtain ⟨p, hp, rfl⟩ := List.mem_map.mp hv
      exact List.mem_map.mpr ⟨p, hkept p hp, rfl⟩
    · exact (mem_asgV.mp hp).2.1
  · -- an edge that is not a directed edge of G leaves a latent, towards one of its two children
    rcases hedges q hq with hd | hnot
    · exact Or.inl hd
    · rcases hnodes q.1 (hcl q hq).1 with hG | ⟨e, he, hn⟩
      · exact absurd hG hnot
      · refine Or.inr ⟨(q.1, e), mem_asgV.mpr ⟨he, (hcl q hq).1, hn⟩, ?_⟩
        exact (hn.child hq).imp (fun h => Prod.ext rfl h) (fun h => Prod.ext rfl h)
  · rintro (hd | ⟨p, hp, rfl | rfl⟩)
    · exact hdir q hd
    · exact (mem_asgV.mp hp).2.2.edge_fst
    · exact (mem_asgV.mp hp).2.2.edge_snd
  · obtain ⟨hb, _, hn⟩ := mem_asgV.mp hp
    obtain ⟨hb', _, hn'⟩ := mem_asgV.mp hp'
    exact eq_of_mem_pairwise (fun _ _ => SamePair.symm) hbd hb hb'
      (same_pair_of_newNodeFor hn (heq ▸ hn'))
  · obtain ⟨u, hu, hn⟩ := hlat e he
    exact ⟨(u, e), mem_asgV.mpr ⟨he, hu, hn⟩, rfl⟩

theorem isConv_of_valid {G : LG α} {R : DG α} (hwf : G.WF) (hbd : G.BiDistinct) (hcl : R.Closed)
    (hs : Struct G R) (hx : Exact G R) (enc : α → Nat)
    (henc : ∀ a ∈ R.names, ∀ b ∈ R.names, enc a = enc b → a = b) :
    IsConv (G.encode enc) (R.encode enc) (encAsg enc (asgV G R)) :=
  (latentExt_of_valid hbd hcl hs hx).isConv hwf enc henc

/-- **validated structure ⇒ separation, model level** -/
theorem mSeparated_of_valid {G : LG α} {R : DG α} (hwf : G.WF) (hbd : G.BiDistinct) (hcl : R.Closed)
    (hs : Struct G R) (hx : Exact G R) (enc : α → Nat)
    (henc : ∀ a ∈ R.names, ∀ b ∈ R.names, enc a = enc b → a = b)
    (X Y Z : List Nat) (hX : ∀ x ∈ X, x ∈ (G.encode enc).nodes) (hY : ∀ y ∈ Y, y ∈ (G.encode enc).nodes)
    (hZ : ∀ z ∈ Z, z ∈ (G.encode enc).nodes) :
    MG.mSeparated (R.encode enc) X Y Z = MG.mSeparated (G.encode enc) X Y Z :=
  mSeparated_of_isConv (isConv_of_valid hwf hbd hcl hs hx enc henc) X Y Z hX hY hZ

/-- **validated structure ⇒ separation, path level** -/
theorem sepPreserved_of_valid {G : LG α} {R : DG α} (hwf : G.WF) (hbd : G.BiDistinct)
    (hsl : G.NoSelfLoop) (hcl : R.Closed) (hs : Struct G R) (hx : Exact G R) (enc : α → Nat)
    (henc : ∀ a ∈ R.names, ∀ b ∈ R.names, enc a = enc b → a = b) :
    SepPreserved (G.encode enc) (R.encode enc) :=
  (latentExt_of_valid hbd hcl hs hx).sepPreserved hwf hsl enc henc

end C10
