import Pw.C10.Model
import Pw.C01.Spec
open Closure

/-! # C10 specification

"bidirected_to_unobserved_confounder(G) returns a DAG that contains G's nodes with their attributes
and G's directed edges and, for each bidirected edge, one new parentless node distinct from all
existing nodes whose only children are that edge's two endpoints.  For all disjoint sets of original
nodes, d-separation in the result equals m-separation in G."

Every quantifier of the structure sentence is bounded by a list of the two graphs, so the sentence is
decidable as it stands: `decide (Struct G R)` is the validator the harness runs on the
implementation's output (the decider *is* the specification). -/
namespace C10
variable {α : Type} [DecidableEq α]

def DG.children (R : DG α) (v : α) : List α := (R.edges.filter (·.1 == v)).map (·.2)

/-- there is a directed path of length ≥ 0 from a to b -/
inductive DG.Reaches (R : DG α) : α → α → Prop
  | refl (a : α) : DG.Reaches R a a
  | step {a b c : α} : (a, b) ∈ R.edges → DG.Reaches R b c → DG.Reaches R a c

/-- "returns a DAG": no edge closes a directed cycle -/
def DG.IsDAG (R : DG α) : Prop := ∀ a b, (a, b) ∈ R.edges → ¬ DG.Reaches R b a

/-- executable form of `IsDAG` (proved equivalent for graphs whose edge endpoints are nodes:
    `C10.hasCycle_false_iff`) -/
def DG.hasCycle (R : DG α) : Bool :=
  R.names.any fun v => decide (v ∈ closure R.names R.children (R.children v))

/-- `u` is a new (not a node of G) parentless node of `R` whose only children are the two endpoints
    of the bidirected edge `e` -/
def NewNodeFor (G : LG α) (R : DG α) (u : α) (e : α × α) : Prop :=
  u ∈ R.names ∧ u ∉ G.names ∧
  (∀ q ∈ R.edges, q.2 ≠ u) ∧
  (u, e.1) ∈ R.edges ∧ (u, e.2) ∈ R.edges ∧
  (∀ q ∈ R.edges, q.1 = u → q.2 = e.1 ∨ q.2 = e.2)

instance (G : LG α) (R : DG α) (u : α) (e : α × α) : Decidable (NewNodeFor G R u e) := by
  unfold NewNodeFor; exact inferInstance

/-- the clauses of the structure sentence -/
def NodesKept (G : LG α) (R : DG α) : Prop := ∀ p ∈ G.nodes, p ∈ R.nodes
def DirKept (G : LG α) (R : DG α) : Prop := ∀ e ∈ G.dir, e ∈ R.edges
def LatentPerBi (G : LG α) (R : DG α) : Prop := ∀ e ∈ G.bi, ∃ u ∈ R.names, NewNodeFor G R u e

/-- the structure sentence of C10 -/
def Struct (G : LG α) (R : DG α) : Prop :=
  R.hasCycle = false ∧ NodesKept G R ∧ DirKept G R ∧ LatentPerBi G R

/-- nothing else is in the result: every node is an original node or the latent of some bidirected
    edge, every edge leaving an original node is a directed edge of G, each bidirected edge has only
    one latent, the node dict has no second entry for a name -/
def Exact (G : LG α) (R : DG α) : Prop :=
  R.names.Nodup ∧
  (∀ u ∈ R.names, u ∈ G.names ∨ ∃ e ∈ G.bi, NewNodeFor G R u e) ∧
  (∀ q ∈ R.edges, q ∈ G.dir ∨ q.1 ∉ G.names) ∧
  (∀ e ∈ G.bi, ∀ u ∈ R.names, ∀ u' ∈ R.names, NewNodeFor G R u e → NewNodeFor G R u' e → u = u')

instance (G : LG α) (R : DG α) : Decidable (NodesKept G R) := by unfold NodesKept; exact inferInstance
instance (G : LG α) (R : DG α) : Decidable (DirKept G R) := by unfold DirKept; exact inferInstance
instance (G : LG α) (R : DG α) : Decidable (LatentPerBi G R) := by unfold LatentPerBi; exact inferInstance
instance (G : LG α) (R : DG α) : Decidable (Struct G R) := by unfold Struct; exact inferInstance
instance (G : LG α) (R : DG α) : Decidable (Exact G R) := by unfold Exact; exact inferInstance

/-- well-formed input (the quantifier of C10: an ADMG held by a `MixedEdgeGraph`): node names are the
    keys of a dict, edge endpoints are nodes; no self loops (`LG.NoSelfLoop`) and an acyclic directed
    layer (`DG.IsDAG G.dirDG`) are separate hypotheses of the theorems that need them -/
structure LG.WF (G : LG α) : Prop where
  nodup : G.names.Nodup
  dir_mem : ∀ e ∈ G.dir, e.1 ∈ G.names ∧ e.2 ∈ G.names
  bi_mem : ∀ e ∈ G.bi, e.1 ∈ G.names ∧ e.2 ∈ G.names

/-- second sentence, on `Nat`-labelled graphs (C01 vocabulary): `R` has directed edges only, so
    `MG.MSep R` is d-separation -/
def SepPreserved (G R : MG) : Prop :=
  ∀ X Y Z : List Nat, (∀ x ∈ X, x ∈ G.nodes) → (∀ y ∈ Y, y ∈ G.nodes) → (∀ z ∈ Z, z ∈ G.nodes) →
    (∀ x ∈ X, x ∉ Z) → (∀ y ∈ Y, y ∉ Z) →
    (MG.MSep R X Y Z ↔ MG.MSep G X Y Z)

end C10
