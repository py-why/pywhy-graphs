import Pw.C01.Full
import Pw.C10.Spec
open Closure

/-! # C10, second sentence (T9): replacing every `a <-> b` by `a <- U -> b` preserves separation

`IsConv G R asg` describes the relation "R is G with a latent parent per bidirected edge" by
memberships only; `asg` lists the pairs (latent, bidirected edge).  The theorem is proved at walk
level by translating `MG.Conn` derivations hop by hop and then lifted to the C01 model
(`MG.mSeparated`) and to the path-level specification (`MG.MSep`). -/
namespace C10
open MG

structure IsConv (G R : MG) (asg : List (Nat × (Nat × Nat))) : Prop where
  wf : G.WF
  un : G.un = []
  /-- a latent serves one bidirected edge -/
  fn : ∀ u e e', (u, e) ∈ asg → (u, e') ∈ asg → e = e'
  /-- latents are not nodes of G -/
  fresh : ∀ u e, (u, e) ∈ asg → u ∉ G.nodes
  bi_asg : ∀ e, e ∈ G.bi → ∃ u, (u, e) ∈ asg
  asg_bi : ∀ u e, (u, e) ∈ asg → e ∈ G.bi
  nodes : ∀ v, v ∈ R.nodes ↔ v ∈ G.nodes ∨ ∃ e, (v, e) ∈ asg
  dir : ∀ p c, (p, c) ∈ R.dir ↔ (p, c) ∈ G.dir ∨ ∃ e, (p, e) ∈ asg ∧ (c = e.1 ∨ c = e.2)
  rbi : R.bi = []
  run : R.un = []

variable {G R : MG} {asg : List (Nat × (Nat × Nat))}

/-- the converted graph has directed edges only, so m-separation in it *is* d-separation: every hop
    of a walk in `R` follows or opposes a directed edge -/
theorem IsConv.edges_directed (h : IsConv G R asg) {a b : Nat} {ma mb : Mark} (he : HasEdge R a b ma mb) :
    (ma = .tail ∧ mb = .head ∧ (a, b) ∈ R.dir) ∨ (ma = .head ∧ mb = .tail ∧ (b, a) ∈ R.dir) := by
  rcases he with h1 | h1 | ⟨_, _, h3⟩ | ⟨_, _, h3⟩
  · exact Or.inl h1
  · exact Or.inr h1
  · rw [h.rbi] at h3; exact h3.elim (absurd · List.not_mem_nil) (absurd · List.not_mem_nil)
  · rw [h.run] at h3; exact h3.elim (absurd · List.not_mem_nil) (absurd · List.not_mem_nil)

theorem IsConv.child_mem (h : IsConv G R asg) {u c : Nat} {e : Nat × Nat} (hue : (u, e) ∈ asg)
    (hc : c = e.1 ∨ c = e.2) : c ∈ G.nodes := by
  have hb := h.wf.2.1 _ (h.asg_bi _ _ hue)
  rcases hc with rfl | rfl
  · exact hb.1
  · exact hb.2

theorem IsConv.latent_of_bi (h : IsConv G R asg) {v w : Nat} (hb : (v, w) ∈ G.bi ∨ (w, v) ∈ G.bi) :
    ∃ u, u ∉ G.nodes ∧ (u, v) ∈ R.dir ∧ (u, w) ∈ R.dir := by
  rcases hb with hb | hb <;> obtain ⟨u, hu⟩ := h.bi_asg _ hb
  · exact ⟨u, h.fresh _ _ hu, (h.dir _ _).mpr (Or.inr ⟨_, hu, Or.inl rfl⟩),
      (h.dir _ _).mpr (Or.inr ⟨_, hu, Or.inr rfl⟩)⟩
  · exact ⟨u, h.fresh _ _ hu, (h.dir _ _).mpr (Or.inr ⟨_, hu, Or.inr rfl⟩),
      (h.dir _ _).mpr (Or.inr ⟨_, hu, Or.inl rfl⟩)⟩

theorem IsConv.wfR (h : IsConv G R asg) : R.WF := by
  refine ⟨?_, ?_, ?_⟩
  · intro e he
    obtain ⟨p, c⟩ := e
    rcases (h.dir p c).mp he with hd | ⟨e', ha, hc⟩
    · exact ⟨(h.nodes p).mpr (Or.inl (h.wf.1 _ hd).1), (h.nodes c).mpr (Or.inl (h.wf.1 _ hd).2)⟩
    · exact ⟨(h.nodes p).mpr (Or.inr ⟨e', ha⟩), (h.nodes c).mpr (Or.inl (h.child_mem ha hc))⟩
  · rw [h.rbi]; exact fun _ he => absurd he List.not_mem_nil
  · rw [h.run]; exact fun _ he => absurd he List.not_mem_nil

theorem IsConv.anc_of_R (h : IsConv G R asg) {v z : Nat} (ha : Anc R v z) (hv : v ∈ G.nodes) :
    Anc G v z := by
  induction ha with
  | refl => exact Anc.refl _
  | step e _ ih =>
    rcases (h.dir _ _).mp e with hd | ⟨e', ha', _⟩
    · exact Anc.step hd (ih (h.wf.1 _ hd).2)
    · exact absurd hv (h.fresh _ _ ha')

theorem IsConv.anc_to_R (h : IsConv G R asg) {v z : Nat} (ha : Anc G v z) : Anc R v z :=
  ha.mono fun e he => (h.dir e.1 e.2).mpr (Or.inl he)

theorem IsConv.mem_anc_iff (h : IsConv G R asg) {Z : List Nat} (hZ : ∀ z ∈ Z, z ∈ G.nodes)
    {v : Nat} (hv : v ∈ G.nodes) : v ∈ R.anc Z ↔ v ∈ G.anc Z := by
  have hZR : ∀ z ∈ Z, z ∈ R.nodes := fun z hz => (h.nodes z).mpr (Or.inl (hZ z hz))
  rw [mem_anc h.wfR hZR, mem_anc h.wf hZ]
  constructor
  · rintro ⟨z, hz, ha⟩; exact ⟨z, hz, h.anc_of_R ha hv⟩
  · rintro ⟨z, hz, ha⟩; exact ⟨z, hz, h.anc_to_R ha⟩

theorem IsConv.cond_iff (h : IsConv G R asg) {Z : List Nat} (hZ : ∀ z ∈ Z, z ∈ G.nodes) {v : Nat}
    (hv : v ∈ G.nodes) (m mv : Mark) :
    (if m = .head ∧ mv = .head then v ∈ R.anc Z else v ∉ Z) ↔
      (if m = .head ∧ mv = .head then v ∈ G.anc Z else v ∉ Z) := by
  split
  · exact h.mem_anc_iff hZ hv
  · exact Iff.rfl

/-- G-walk ⇒ R-walk: a hop `v <-> w` becomes `v <- U -> w`; U is a non-collider outside Z -/
theorem IsConv.conn_to_R (h : IsConv G R asg) {Z : List Nat} (hZ : ∀ z ∈ Z, z ∈ G.nodes) {x : Nat}
    (hx : x ∈ G.nodes) {v : Nat} {m : Mark} (hc : Conn G Z (G.anc Z) x v m) :
    v ∈ G.nodes ∧ Conn R Z (R.anc Z) x v m := by
  induction hc with
  | start => exact ⟨hx, Conn.start⟩
  | @step v w m mv mw hc he hcond ih =>
    obtain ⟨hv, ihc⟩ := ih
    have hw : w ∈ G.nodes := HasEdge.mem_nodes h.wf he
    refine ⟨hw, ?_⟩
    have hcondR := (h.cond_iff hZ hv m mv).mpr hcond
    rcases he with ⟨rfl, rfl, hd⟩ | ⟨rfl, rfl, hd⟩ | ⟨rfl, rfl, hb⟩ | ⟨rfl, rfl, hu⟩
    · exact Conn.step ihc (Or.inl ⟨rfl, rfl, (h.dir _ _).mpr (Or.inl hd)⟩) hcondR
    · exact Conn.step ihc (Or.inr (Or.inl ⟨rfl, rfl, (h.dir _ _).mpr (Or.inl hd)⟩)) hcondR
    · obtain ⟨u, hu, huv, huw⟩ := h.latent_of_bi hb
      have c1 : Conn R Z (R.anc Z) x u .tail :=
        Conn.step ihc (Or.inr (Or.inl ⟨rfl, rfl, huv⟩)) hcondR
      exact Conn.step c1 (Or.inl ⟨rfl, rfl, huw⟩) (fun hz => hu (hZ _ hz))
    · rw [h.un] at hu; exact hu.elim (absurd · List.not_mem_nil) (absurd · List.not_mem_nil)

/-- the G-walk is at `v` and can leave it in every way in which the R-walk, arrived at `v` with
    mark `m`, can: after a detour `v <- U -> v` of the R-walk the G-walk has not moved, and its own
    arrival mark may differ from `m` -/
def Follows (G : MG) (Z : List Nat) (x v : Nat) (m : Mark) : Prop :=
  (∃ m', Conn G Z (G.anc Z) x v m') ∧
  ∀ mv : Mark, (if m = .head ∧ mv = .head then v ∈ G.anc Z else v ∉ Z) →
    ∃ m', Conn G Z (G.anc Z) x v m' ∧ (if m' = .head ∧ mv = .head then v ∈ G.anc Z else v ∉ Z)

theorem Follows.of_conn {G : MG} {Z : List Nat} {x v : Nat} {m : Mark}
    (hc : Conn G Z (G.anc Z) x v m) : Follows G Z x v m :=
  ⟨⟨m, hc⟩, fun _ h => ⟨m, hc, h⟩⟩

theorem Follows.step {G : MG} {Z : List Nat} {x v w : Nat} {m mv mw : Mark} (hf : Follows G Z x v m)
    (he : HasEdge G v w mv mw) (hc : if m = .head ∧ mv = .head then v ∈ G.anc Z else v ∉ Z) :
    Conn G Z (G.anc Z) x w mw :=
  let ⟨_, hconn, hc'⟩ := hf.2 mv hc
  Conn.step hconn he hc'

/-- R-walk ⇒ G-walk: a walk through a latent enters and leaves by its two out-edges; at a latent the
    G-walk waits at the endpoint `a` the R-walk came from, ready to leave it through an arrowhead -/
theorem IsConv.conn_of_R (h : IsConv G R asg) {Z : List Nat} (hZ : ∀ z ∈ Z, z ∈ G.nodes) {x : Nat}
    (hx : x ∈ G.nodes) {v : Nat} {m : Mark} (hc : Conn R Z (R.anc Z) x v m) :
    (v ∈ G.nodes → Follows G Z x v m) ∧
    (∀ e, (v, e) ∈ asg → ∃ a, (a = e.1 ∨ a = e.2) ∧ ∃ m', Conn G Z (G.anc Z) x a m' ∧
      (if m' = .head ∧ Mark.head = .head then a ∈ G.anc Z else a ∉ Z)) := by
  induction hc with
  | start => exact ⟨fun _ => .of_conn Conn.start, fun e he => absurd hx (h.fresh _ _ he)⟩
  | @step v w m mv mw hc he hcond ih =>
    obtain ⟨ihV, ihU⟩ := ih
    rcases h.edges_directed he with ⟨rfl, rfl, hd⟩ | ⟨rfl, rfl, hd⟩
    · -- the walk follows an edge v -> w
      rcases (h.dir _ _).mp hd with hd | ⟨e, hue, hw⟩
      · have hv := (h.wf.1 _ hd).1
        exact ⟨fun _ => .of_conn ((ihV hv).step (Or.inl ⟨rfl, rfl, hd⟩)
            ((h.cond_iff hZ hv m .tail).mp hcond)),
          fun e he => absurd (h.wf.1 _ hd).2 (h.fresh _ _ he)⟩
      · -- v is a latent: we came from an endpoint `a` of its edge and go to the endpoint `w`
        obtain ⟨a, ha, m', hconn, hca⟩ := ihU e hue
        refine ⟨fun _ => ?_, fun e' he' => absurd (h.child_mem hue hw) (h.fresh _ _ he')⟩
        by_cases haw : a = w
        · -- a detour: the G-walk stays; leaving through a tail only needs `w ∉ Z`
          subst haw
          refine ⟨⟨m', hconn⟩, fun mv hmv => ⟨m', hconn, ?_⟩⟩
          cases mv
          · simpa using hmv
          · exact hca
        · have hbi := h.asg_bi _ _ hue
          have hedgeG : HasEdge G a w .head .head := by
            refine Or.inr (Or.inr (Or.inl ⟨rfl, rfl, ?_⟩))
            rcases ha with rfl | rfl <;> rcases hw with rfl | rfl
            · exact absurd rfl haw
            · exact Or.inl hbi
            · exact Or.inr hbi
            · exact absurd rfl haw
          exact .of_conn (Conn.step hconn hedgeG hca)
    · -- the walk goes against an edge w -> v
      rcases (h.dir _ _).mp hd with hd | ⟨e, hue, hv⟩
      · have hv := (h.wf.1 _ hd).2
        exact ⟨fun _ => .of_conn ((ihV hv).step (Or.inr (Or.inl ⟨rfl, rfl, hd⟩))
            ((h.cond_iff hZ hv m .head).mp hcond)),
          fun e he => absurd (h.wf.1 _ hd).1 (h.fresh _ _ he)⟩
      · -- w is a latent, v an endpoint of its edge
        have hvV := h.child_mem hue hv
        refine ⟨fun hwV => absurd hwV (h.fresh _ _ hue), fun e' he' => ?_⟩
        obtain rfl := h.fn _ _ _ hue he'
        obtain ⟨m', hconn, hc'⟩ := (ihV hvV).2 .head ((h.cond_iff hZ hvV m .head).mp hcond)
        exact ⟨v, hv, m', hconn, hc'⟩

/-- T9, walk level -/
theorem IsConv.conn_iff (h : IsConv G R asg) {Z : List Nat} (hZ : ∀ z ∈ Z, z ∈ G.nodes) {x y : Nat}
    (hx : x ∈ G.nodes) (hy : y ∈ G.nodes) :
    (∃ m, Conn R Z (R.anc Z) x y m) ↔ (∃ m, Conn G Z (G.anc Z) x y m) := by
  constructor
  · rintro ⟨m, hc⟩
    exact ((h.conn_of_R hZ hx hc).1 hy).1
  · rintro ⟨m, hc⟩
    exact ⟨m, (h.conn_to_R hZ hx hc).2⟩

/-- **C10, second sentence for the models** (both sides are C01 models) -/
theorem mSeparated_of_isConv (h : IsConv G R asg) (X Y Z : List Nat) (hX : ∀ x ∈ X, x ∈ G.nodes)
    (hY : ∀ y ∈ Y, y ∈ G.nodes) (hZ : ∀ z ∈ Z, z ∈ G.nodes) :
    mSeparated R X Y Z = mSeparated G X Y Z := by
  have hXR : ∀ x ∈ X, x ∈ R.nodes := fun x hx => (h.nodes x).mpr (Or.inl (hX x hx))
  rw [Bool.eq_iff_iff, mSeparated_eq_noWalk R h.wfR X Y Z hXR, mSeparated_eq_noWalk G h.wf X Y Z hX]
  exact not_congr (exists_congr fun x => and_congr_right fun hx =>
    exists_congr fun y => and_congr_right fun hy => h.conn_iff hZ (hX x hx) (hY y hy))

theorem IsConv.noSelfLoopR (h : IsConv G R asg) (hsl : NoSelfLoop G) : NoSelfLoop R := by
  intro a ma mb he
  have hd : (a, a) ∈ R.dir := (h.edges_directed he).elim (·.2.2) (·.2.2)
  rcases (h.dir _ _).mp hd with hd | ⟨e, hue, ha⟩
  · exact hsl a .tail .head (Or.inl ⟨rfl, rfl, hd⟩)
  · exact h.fresh _ _ hue (h.child_mem hue ha)

/-- **C10, second sentence, path level** (separation by simple paths, via T1) -/
theorem sepPreserved_of_isConv (h : IsConv G R asg) (hsl : NoSelfLoop G) : SepPreserved G R := by
  intro X Y Z hX hY hZ hXZ _
  have hXR : ∀ x ∈ X, x ∈ R.nodes := fun x hx => (h.nodes x).mpr (Or.inl (hX x hx))
  have hZR : ∀ z ∈ Z, z ∈ R.nodes := fun z hz => (h.nodes z).mpr (Or.inl (hZ z hz))
  rw [← mSeparated_iff_MSep R h.wfR (noUndirAtHead_of_un_nil R h.run) (h.noSelfLoopR hsl) X Y Z hXR hZR hXZ,
    ← mSeparated_iff_MSep G h.wf (noUndirAtHead_of_un_nil G h.un) hsl X Y Z hX hZ hXZ,
    mSeparated_of_isConv h X Y Z hX hY hZ]

end C10
