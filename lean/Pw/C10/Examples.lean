import Pw.C10.Bridge
import Pw.C10.Valid

/-! # C10: non-vacuity examples, kernel-checked instances (tests), the defect of the unchanged code

`decide`/`decide +kernel` over one concrete input is a *test*; it is labelled so here. -/
namespace C10

/-- user nodes `U0` and `U2` collide with generated names; `U0` is a child of `a` and an endpoint of a
    bidirected edge -/
def exG : LG String :=
  { nodes := [("U0", 2), ("a", 1), ("b", 3), ("U2", 0)], dir := [("a", "U0")],
    bi := [("a", "b"), ("U0", "b"), ("U2", "a")] }

theorem exG_wf : exG.WF := ⟨by decide +kernel, by decide +kernel, by decide +kernel⟩
theorem exG_noSelfLoop : exG.NoSelfLoop := ⟨by decide, by decide⟩
theorem exG_biDistinct : exG.BiDistinct := by unfold LG.BiDistinct; decide

theorem isDAG_of_edges_singleton {α : Type} [DecidableEq α] {R : DG α} {a b : α}
    (he : R.edges = [(a, b)]) (hab : a ≠ b) : R.IsDAG := by
  intro x y hxy hyx
  rw [he, List.mem_singleton] at hxy
  obtain ⟨rfl, rfl⟩ := Prod.mk.inj hxy
  cases hyx with
  | refl => exact hab rfl
  | step e _ => rw [he, List.mem_singleton] at e; exact hab (Prod.mk.inj e).1.symm

theorem exG_acyclic : exG.dirDG.IsDAG := isDAG_of_edges_singleton rfl (by decide)

def exEnc (s : String) : Nat := (convS exG).names.idxOf s

theorem exEnc_inj : ∀ a ∈ (convS exG).names, ∀ b ∈ (convS exG).names, exEnc a = exEnc b → a = b :=
  fun a ha b hb h => idxOf_inj_on a ha b hb h

/-- non-vacuity of `C10_full`, `C10_struct`, `C10_sep` -/
example : Struct exG (convS exG) ∧ SepPreserved (exG.encode exEnc) ((convS exG).encode exEnc) :=
  C10_full exG_wf exG_acyclic exG_noSelfLoop exEnc exEnc_inj

/-- non-vacuity of `sepPreserved_of_valid` / `mSeparated_of_valid` -/
example : SepPreserved (exG.encode exEnc) ((convS exG).encode exEnc) :=
  sepPreserved_of_valid exG_wf exG_biDistinct exG_noSelfLoop ((latentExt_conv uname uname_inj exG_wf).closed exG_wf)
    (C10_struct exG_wf exG_acyclic) (C10_exact exG_wf exG_biDistinct) exEnc exEnc_inj

/-- non-vacuity of `C10_exact` -/
example : Exact exG (convS exG) := C10_exact exG_wf exG_biDistinct

/-- test (kernel evaluation of the model): the generated names skip `U0` and `U2` -/
theorem exG_names_test : (convS exG).names = ["U0", "a", "b", "U2", "U1", "U3", "U4"] := by
  decide +kernel

/-- test: the new node of `U0 <-> b` is `U3` with children `U0`, `b` -/
theorem exG_edges_test : ∀ c, ("U3", c) ∈ (convS exG).edges ↔ (c = "U0" ∨ c = "b") := by
  have h := (C10_new_nodes exG_wf).2.2 ("U3", ("U0", "b")) (by decide +kernel)
  exact h.2.2.2

/-- `Nat`-labelled instance: nodes 0,1,2 collide with the generated names 0,1,2 -/
def exM : MG := { nodes := [0, 1, 2], dir := [(1, 0)], bi := [(1, 2), (0, 2)] }

theorem exM_wf : exM.WF := ⟨by decide, by decide, by decide⟩

/-- non-vacuity of `mSeparated_convMG` / `sepPreserved_convMG` -/
example : MG.mSeparated (convMG exM) [1] [2] [0] = MG.mSeparated exM [1] [2] [0] :=
  mSeparated_convMG exM exM_wf (by decide) rfl [1] [2] [0] (by decide) (by decide) (by decide)

theorem exM_conv_test : (convMG exM).nodes = [0, 1, 2, 3, 4] ∧
    (convMG exM).dir = [(1, 0), (3, 1), (3, 2), (4, 0), (4, 2)] := by decide +kernel

/-! ## the unchanged code (`for idx, latent_edge in enumerate(...)`: name `U{idx}` without looking at
the existing nodes) violates the structure sentence -/

def loopOld {α : Type} [DecidableEq α] (fresh : Nat → α) : List (α × α) → Nat → DG α → DG α
  | [], _, R => R
  | e :: es, idx, R =>
    loopOld fresh es (idx + 1) (((R.addNode (fresh idx) ucAttr).addEdge (fresh idx) e.1).addEdge (fresh idx) e.2)

/-- model of `bidirected_to_unobserved_confounder` before the fix -/
def convOld {α : Type} [DecidableEq α] (fresh : Nat → α) (G : LG α) : DG α := loopOld fresh G.bi 0 (base G)

/-- witness of the finding C10-generated-name-collides-with-user-label (corpus/C10) -/
def witness : LG String := { nodes := [("U0", 1), ("v1", 1)], dir := [], bi := [("U0", "v1")] }

theorem witness_wf : witness.WF := ⟨by decide, by decide, by decide⟩

/-- on the witness the unchanged code creates no new node at all: `U0` loses its attributes, becomes
    its own parent and the parent of `v1` -/
theorem convOld_witness_test :
    (convOld uname witness).nodes = [("U0", ucAttr), ("v1", 1)] ∧
    (convOld uname witness).edges = [("U0", "U0"), ("U0", "v1")] := by decide +kernel

theorem C10_counterexample_unfixed : ¬ Struct witness (convOld uname witness) := by
  intro h
  have : ¬ NodesKept witness (convOld uname witness) := by decide +kernel
  exact this h.2.1

/-- while the model of the fixed code satisfies it (instance of `C10_struct`) -/
example : Struct witness (convS witness) :=
  C10_struct witness_wf (fun _ _ hab => absurd hab List.not_mem_nil)

/-- non-vacuity of `mSeparated_of_isConv` / `sepPreserved_of_isConv` / `IsConv.conn_iff` -/
example : ∃ asg, IsConv exM (convMG exM) asg :=
  ⟨_, isConv_convMG exM_wf (by decide) rfl⟩

/-- non-vacuity of the generic `struct_conv` / `exact_conv` / `conv_spec` at `α = Nat`, `fresh = id` -/
example : Struct (LG.ofMG exM) (conv id (LG.ofMG exM)) ∧ Exact (LG.ofMG exM) (conv id (LG.ofMG exM)) :=
  ⟨struct_conv id (fun _ _ h => h) (ofMG_wf exM_wf (by decide))
      (isDAG_of_edges_singleton rfl (by decide)),
   exact_conv id (fun _ _ h => h) (ofMG_wf exM_wf (by decide)) (by unfold LG.BiDistinct; decide)⟩

/-- non-vacuity of `C10_full_idx` -/
example : Struct exG (convS exG) ∧
    SepPreserved (exG.encode (idxEnc (convS exG))) ((convS exG).encode (idxEnc (convS exG))) :=
  C10_full_idx exG_wf exG_acyclic exG_noSelfLoop

end C10
