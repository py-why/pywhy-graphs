import Pw.C10.SepAll
import Pw.C01.Full
open Closure

/-! # C10: the bounded separation decider is complete -/
namespace C10
open MG

/-- an m-connecting walk only looks at *membership* in Z and in the ancestor list -/
theorem conn_congr {G : MG} {Z Z' anZ anZ' : List Nat} (hZ : ∀ a, a ∈ Z ↔ a ∈ Z')
    (hA : ∀ a, a ∈ anZ ↔ a ∈ anZ') {x v : Nat} {m : Mark} (h : Conn G Z anZ x v m) :
    Conn G Z' anZ' x v m := by
  induction h with
  | start => exact .start
  | @step v w m mv mw _ he hc ih =>
    refine .step ih he ?_
    by_cases hh : m = .head ∧ mv = .head
    · rw [if_pos hh] at hc ⊢; exact (hA _).mp hc
    · rw [if_neg hh] at hc ⊢; exact fun h => hc ((hZ _).mpr h)

theorem anc_congr (G : MG) {Z Z' : List Nat} (hZ : ∀ a, a ∈ Z ↔ a ∈ Z') (a : Nat) :
    a ∈ G.anc Z ↔ a ∈ G.anc Z' := by
  unfold MG.anc
  rw [mem_closure, mem_closure]
  constructor
  · rintro ⟨w, hw, h⟩; exact ⟨w, (hZ w).mp hw, h⟩
  · rintro ⟨w, hw, h⟩; exact ⟨w, (hZ w).mpr hw, h⟩

/-- the model's answer depends on X, Y, Z as sets only -/
theorem mSeparated_congr (G : MG) (hwf : G.WF) {X X' Y Y' Z Z' : List Nat}
    (hXn : ∀ x ∈ X, x ∈ G.nodes) (hX : ∀ a, a ∈ X ↔ a ∈ X') (hY : ∀ a, a ∈ Y ↔ a ∈ Y')
    (hZ : ∀ a, a ∈ Z ↔ a ∈ Z') : mSeparated G X Y Z = mSeparated G X' Y' Z' := by
  have hXn' : ∀ x ∈ X', x ∈ G.nodes := fun x hx => hXn x ((hX x).mpr hx)
  rw [Bool.eq_iff_iff, mSeparated_eq_noWalk G hwf X Y Z hXn, mSeparated_eq_noWalk G hwf X' Y' Z' hXn']
  exact not_congr (exists_congr fun x => and_congr (hX x) (exists_congr fun y => and_congr (hY y)
    (exists_congr fun m => ⟨conn_congr hZ (anc_congr G hZ),
      conn_congr (fun a => (hZ a).symm) fun a => (anc_congr G hZ a).symm⟩)))

theorem mSeparated_nil_left (G : MG) (Y Z : List Nat) : mSeparated G [] Y Z = true := by
  simp [mSeparated, closure, go]

theorem mSeparated_nil_right (G : MG) (X Z : List Nat) : mSeparated G X [] Z = true := by
  simp [mSeparated]

/-- the enumeration contains the trace of every disjoint triple on the node list -/
theorem mem_queries (X Y Z : List Nat) (hXY : ∀ a ∈ X, a ∉ Y) (hXZ : ∀ a ∈ X, a ∉ Z)
    (hYZ : ∀ a ∈ Y, a ∉ Z) : ∀ vs : List Nat,
    (vs.filter (· ∈ X), vs.filter (· ∈ Y), vs.filter (· ∈ Z)) ∈ queries vs := by
  intro vs
  induction vs with
  | nil => exact List.mem_singleton.mpr rfl
  | cons v vs ih =>
    refine List.mem_flatMap.mpr ⟨_, ih, ?_⟩
    -- `v` is in at most one of the three lists, which selects one of the four extensions
    simp only [List.filter_cons, decide_eq_true_eq]
    by_cases hx : v ∈ X
    · rw [if_pos hx, if_neg (hXY v hx), if_neg (hXZ v hx)]
      exact List.mem_cons_of_mem _ List.mem_cons_self
    · rw [if_neg hx]
      by_cases hy : v ∈ Y
      · rw [if_pos hy, if_neg (hYZ v hy)]
        exact List.mem_cons_of_mem _ (List.mem_cons_of_mem _ List.mem_cons_self)
      · rw [if_neg hy]
        by_cases hz : v ∈ Z
        · rw [if_pos hz]
          exact List.mem_cons_of_mem _ (List.mem_cons_of_mem _ (List.mem_cons_of_mem _ List.mem_cons_self))
        · rw [if_neg hz]
          exact List.mem_cons_self

/-- **the bounded decider is complete** -/
theorem sepAllBad_none {G R : MG} (hG : G.WF) (hR : R.WF) (hsub : ∀ v ∈ G.nodes, v ∈ R.nodes)
    (h : sepAllBad G R = none) (X Y Z : List Nat) (hX : ∀ x ∈ X, x ∈ G.nodes)
    (hY : ∀ y ∈ Y, y ∈ G.nodes) (hZ : ∀ z ∈ Z, z ∈ G.nodes) (hXY : ∀ a ∈ X, a ∉ Y)
    (hXZ : ∀ a ∈ X, a ∉ Z) (hYZ : ∀ a ∈ Y, a ∉ Z) :
    mSeparated R X Y Z = mSeparated G X Y Z := by
  have mf : ∀ (S : List Nat), (∀ s ∈ S, s ∈ G.nodes) → ∀ a, a ∈ S ↔ a ∈ G.nodes.filter (· ∈ S) := by
    intro S hS a
    simp only [List.mem_filter, decide_eq_true_eq]
    exact ⟨fun ha => ⟨hS a ha, ha⟩, fun ha => ha.2⟩
  rw [mSeparated_congr G hG hX (mf X hX) (mf Y hY) (mf Z hZ),
    mSeparated_congr R hR (fun x hx => hsub x (hX x hx)) (mf X hX) (mf Y hY) (mf Z hZ)]
  have hmem := mem_queries X Y Z hXY hXZ hYZ G.nodes
  generalize G.nodes.filter (· ∈ X) = X' at hmem ⊢
  generalize G.nodes.filter (· ∈ Y) = Y' at hmem ⊢
  generalize G.nodes.filter (· ∈ Z) = Z' at hmem ⊢
  rcases X' with _ | ⟨x, xs⟩
  · rw [mSeparated_nil_left, mSeparated_nil_left]
  rcases Y' with _ | ⟨y, ys⟩
  · rw [mSeparated_nil_right, mSeparated_nil_right]
  have hp : (x :: xs, y :: ys, Z') ∈ properQueries G.nodes := List.mem_filter.mpr ⟨hmem, rfl⟩
  exact Eq.symm (by simpa using List.find?_eq_none.mp h _ hp)

end C10
