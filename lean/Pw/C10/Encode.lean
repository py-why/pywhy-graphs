import Pw.C10.Full
import Pw.C10.Sep

/-! # C10: under a numbering of the labels that is injective on the nodes of `R`, `LatentExt G R asg`
becomes `IsConv` of the encoded graphs, so separation is preserved -/
namespace C10
variable {α : Type}

def encAsg (enc : α → Nat) (asg : List (α × (α × α))) : List (Nat × (Nat × Nat)) :=
  asg.map fun p => (enc p.1, (enc p.2.1, enc p.2.2))

theorem mem_encAsg {enc : α → Nat} {asg : List (α × (α × α))} {u : Nat} {e : Nat × Nat} :
    (u, e) ∈ encAsg enc asg ↔ ∃ p ∈ asg, enc p.1 = u ∧ (enc p.2.1, enc p.2.2) = e := by
  simp only [encAsg, List.mem_map, Prod.mk.injEq]

theorem LG.WF.encode {G : LG α} (hwf : G.WF) (enc : α → Nat) : (G.encode enc).WF := by
  have key : ∀ l : List (α × α), (∀ d ∈ l, d.1 ∈ G.names ∧ d.2 ∈ G.names) →
      ∀ e ∈ l.map (fun d => (enc d.1, enc d.2)), e.1 ∈ G.names.map enc ∧ e.2 ∈ G.names.map enc := by
    intro l hl e he
    obtain ⟨d, hd, rfl⟩ := List.mem_map.mp he
    exact ⟨List.mem_map.mpr ⟨d.1, (hl d hd).1, rfl⟩, List.mem_map.mpr ⟨d.2, (hl d hd).2, rfl⟩⟩
  exact ⟨key G.dir hwf.dir_mem, key G.bi hwf.bi_mem, fun _ he => absurd he List.not_mem_nil⟩

def LG.NoSelfLoop (G : LG α) : Prop := (∀ e ∈ G.dir, e.1 ≠ e.2) ∧ (∀ e ∈ G.bi, e.1 ≠ e.2)

theorem noSelfLoop_encode {G : LG α} (hwf : G.WF) (hsl : G.NoSelfLoop) (enc : α → Nat)
    (henc : ∀ a ∈ G.names, ∀ b ∈ G.names, enc a = enc b → a = b) : MG.NoSelfLoop (G.encode enc) := by
  intro a ma mb he
  -- an encoded loop at `a` comes from an edge of G whose two ends have the same number
  have key : ∀ l : List (α × α), (∀ d ∈ l, d.1 ∈ G.names ∧ d.2 ∈ G.names) → (∀ d ∈ l, d.1 ≠ d.2) →
      (a, a) ∉ l.map fun d => (enc d.1, enc d.2) := by
    intro l hl hne h
    obtain ⟨d, hd, hda⟩ := List.mem_map.mp h
    exact hne d hd (henc _ (hl d hd).1 _ (hl d hd).2
      ((Prod.mk.inj hda).1.trans (Prod.mk.inj hda).2.symm))
  rcases he with ⟨_, _, h3⟩ | ⟨_, _, h3⟩ | ⟨_, _, h3 | h3⟩ | ⟨_, _, h3 | h3⟩
  · exact key G.dir hwf.dir_mem hsl.1 h3
  · exact key G.dir hwf.dir_mem hsl.1 h3
  · exact key G.bi hwf.bi_mem hsl.2 h3
  · exact key G.bi hwf.bi_mem hsl.2 h3
  · exact List.not_mem_nil h3
  · exact List.not_mem_nil h3

section LatentExt
variable {G : LG α} {R : DG α} {asg : List (α × (α × α))}

theorem LatentExt.isConv (h : LatentExt G R asg) (hwf : G.WF) (enc : α → Nat)
    (henc : ∀ a ∈ R.names, ∀ b ∈ R.names, enc a = enc b → a = b) :
    IsConv (G.encode enc) (R.encode enc) (encAsg enc asg) := by
  have hVR : ∀ v ∈ G.names, v ∈ R.names := fun v hv => (h.names v).mpr (Or.inl hv)
  refine { wf := hwf.encode enc, un := rfl, fn := ?_, fresh := ?_, bi_asg := ?_, asg_bi := ?_,
           nodes := ?_, dir := ?_, rbi := rfl, run := rfl }
  · intro u e e' he he'
    obtain ⟨p, hp, hpu, rfl⟩ := mem_encAsg.mp he
    obtain ⟨p', hp', hpu', rfl⟩ := mem_encAsg.mp he'
    rw [h.fn p hp p' hp' (henc _ (h.mem_names hp) _ (h.mem_names hp') (hpu.trans hpu'.symm))]
  · intro u e he hmem
    obtain ⟨p, hp, rfl, _⟩ := mem_encAsg.mp he
    obtain ⟨v, hv, hvu⟩ := List.mem_map.mp hmem
    exact h.fresh p hp (henc _ (hVR v hv) _ (h.mem_names hp) hvu ▸ hv)
  · intro e he
    obtain ⟨b, hb, rfl⟩ := List.mem_map.mp he
    obtain ⟨p, hp, rfl⟩ := h.bi_asg b hb
    exact ⟨enc p.1, mem_encAsg.mpr ⟨p, hp, rfl, rfl⟩⟩
  · intro u e he
    obtain ⟨p, hp, _, rfl⟩ := mem_encAsg.mp he
    exact List.mem_map.mpr ⟨p.2, h.asg_bi p hp, rfl⟩
  · intro v
    simp only [DG.encode, LG.encode, List.mem_map, h.names, mem_encAsg]
    constructor
    · rintro ⟨w, hG | ⟨p, hp, rfl⟩, rfl⟩
      · exact Or.inl ⟨w, hG, rfl⟩
      · exact Or.inr ⟨_, p, hp, rfl, rfl⟩
    · rintro (⟨w, hG, rfl⟩ | ⟨_, p, hp, rfl, _⟩)
      · exact ⟨w, Or.inl hG, rfl⟩
      · exact ⟨p.1, Or.inr ⟨p, hp, rfl⟩, rfl⟩
  · intro a c
    simp only [DG.encode, LG.encode, List.mem_map, h.edges, mem_encAsg, Prod.mk.injEq]
    constructor
    · rintro ⟨q, hd | ⟨p, hp, rfl | rfl⟩, rfl, rfl⟩
      · exact Or.inl ⟨q, hd, rfl, rfl⟩
      · exact Or.inr ⟨_, ⟨p, hp, rfl, rfl⟩, Or.inl rfl⟩
      · exact Or.inr ⟨_, ⟨p, hp, rfl, rfl⟩, Or.inr rfl⟩
    · rintro (⟨q, hd, rfl, rfl⟩ | ⟨_, ⟨p, hp, rfl, rfl⟩, rfl | rfl⟩)
      · exact ⟨q, Or.inl hd, rfl, rfl⟩
      · exact ⟨(p.1, p.2.1), Or.inr ⟨p, hp, Or.inl rfl⟩, rfl, rfl⟩
      · exact ⟨(p.1, p.2.2), Or.inr ⟨p, hp, Or.inr rfl⟩, rfl, rfl⟩

theorem LatentExt.sepPreserved (h : LatentExt G R asg) (hwf : G.WF) (hsl : G.NoSelfLoop) (enc : α → Nat)
    (henc : ∀ a ∈ R.names, ∀ b ∈ R.names, enc a = enc b → a = b) :
    SepPreserved (G.encode enc) (R.encode enc) :=
  sepPreserved_of_isConv (h.isConv hwf enc henc) (noSelfLoop_encode hwf hsl enc fun a ha b hb =>
    henc a ((h.names a).mpr (Or.inl ha)) b ((h.names b).mpr (Or.inl hb)))

end LatentExt

end C10
