import Pw.C09.PagClass
open Closure

/-! # C09 PAG oracle, part 2: `pagOf M0` is the PAG of `M0` from the definition

`pagOf_isPagOf`: for a well-formed MAG `M0` (directed and bidirected edges), `pagOf M0` has the nodes and
adjacencies of `M0`, and its mark at an endpoint is an arrowhead (a tail) iff **every** member of the
Markov equivalence class of `M0` – every well-formed MAG without undirected edges on the nodes of `M0`
that is Markov equivalent to `M0` – has an arrowhead (a tail) there; otherwise it is a circle.
`isMagB_iff`: the filter "is a MAG" of the oracle decides `IsMAG`. -/
namespace C09
open MG

theorem isMagB_iff {M : MG} (hwf : M.WF) : isMagB M = true ↔ IsMAG M := by
  unfold isMagB
  simp only [Bool.and_eq_true, List.isEmpty_iff]
  constructor
  · rintro ⟨⟨⟨hu, hc⟩, ha⟩, hm⟩
    have hanc := (ancestralB_iff hwf).mp ha
    exact ⟨hu, hc, hanc, (maximalB_iff hwf hu (noSelfLoop_of_ancestral hanc hu)).mp hm⟩
  · intro h
    exact ⟨⟨⟨h.noUn, h.noCirc⟩, (ancestralB_iff hwf).mpr h.ancestral⟩,
      (maximalB_iff hwf h.noUn h.noSelfLoop).mpr h.maximal⟩

theorem headAt_iff {M : MG} {a b : Nat} : headAt M a b = true ↔ markAt M a b = some .head := by
  unfold headAt; rw [beq_iff_eq, markB_eq_two]

theorem sharedMark_cases (cls : List MG) (a b : Nat) :
    sharedMark cls a b = 2 ∨ sharedMark cls a b = 1 ∨ sharedMark cls a b = 3 := by
  unfold sharedMark
  split
  · exact Or.inl rfl
  · split
    · exact Or.inr (Or.inl rfl)
    · exact Or.inr (Or.inr rfl)

theorem sharedMark_eq_two {cls : List MG} {a b : Nat} :
    sharedMark cls a b = 2 ↔ ∀ M ∈ cls, markAt M a b = some .head := by
  simp only [sharedMark, ite_eq_iff, Nat.reduceEqDiff, and_true, and_false, or_false,
    List.all_eq_true, headAt_iff]

theorem sharedMark_eq_one {cls : List MG} {a b : Nat} :
    sharedMark cls a b = 1 ↔
      (¬ ∀ M ∈ cls, markAt M a b = some .head) ∧ ∀ M ∈ cls, markAt M a b ≠ some .head := by
  simp only [sharedMark, ite_eq_iff, Nat.reduceEqDiff, and_true, and_false, or_false, false_or,
    List.all_eq_true, Bool.not_eq_true', ← Bool.not_eq_true, headAt_iff, Ne]

/-- the mark function of the oracle -/
abbrev mkOf (M : MG) : Nat → Nat → Nat := sharedMark (equivClass M)

theorem mem_pagOf_circ {M : MG} {a b : Nat} :
    (a, b) ∈ (pagOf M).circ ↔ Joins (skelPairs M) a b ∧ mkOf M a b = 3 := by
  show (a, b) ∈ List.filter _ _ ↔ _
  rw [List.mem_filter, mem_ord]; simp

theorem mem_pagOf_dir {M : MG} {a b : Nat} :
    (a, b) ∈ (pagOf M).dir ↔ Joins (skelPairs M) a b ∧ mkOf M a b = 2 ∧ mkOf M b a ≠ 2 := by
  show (a, b) ∈ List.filter _ _ ↔ _
  rw [List.mem_filter, mem_ord]; simp

theorem mem_pagOf_bi {M : MG} {a b : Nat} :
    (a, b) ∈ (pagOf M).bi ↔ (a, b) ∈ skelPairs M ∧ mkOf M a b = 2 ∧ mkOf M b a = 2 := by
  show (a, b) ∈ List.filter _ _ ↔ _
  rw [List.mem_filter]; simp

theorem mem_pagOf_un {M : MG} {a b : Nat} :
    (a, b) ∈ (pagOf M).un ↔ (a, b) ∈ skelPairs M ∧ mkOf M a b = 1 ∧ mkOf M b a = 1 := by
  show (a, b) ∈ List.filter _ _ ↔ _
  rw [List.mem_filter]; simp

theorem markAt_pagOf_none {M : MG} {a b : Nat} (h : ¬ Joins (skelPairs M) a b) : markAt (pagOf M) a b = none := by
  have h' : ¬ Joins (skelPairs M) b a := fun hs => h hs.symm
  rw [markAt_none_iff]
  simp only [mem_pagOf_circ, mem_pagOf_dir, mem_pagOf_bi, mem_pagOf_un]
  refine ⟨fun x => h x.1, fun x => h x.1, fun x => h (Or.inl x.1), fun x => h (Or.inr x.1),
    fun x => h' x.1, fun x => h (Or.inl x.1), fun x => h (Or.inr x.1), fun x => h' x.1⟩

theorem markAt_pagOf {M : MG} {a b : Nat} (h : Joins (skelPairs M) a b) :
    (mkOf M a b = 2 → markAt (pagOf M) a b = some .head) ∧
    (mkOf M a b = 1 → markAt (pagOf M) a b = some .tail) ∧
    (mkOf M a b = 3 → markAt (pagOf M) a b = some .circle) := by
  refine ⟨?_, ?_, ?_⟩
  · intro h2
    rw [markAt_head_iff]
    simp only [mem_pagOf_circ, mem_pagOf_dir, mem_pagOf_bi]
    refine ⟨fun x => by rw [h2] at x; exact absurd x.2 (by decide), ?_⟩
    by_cases hb : mkOf M b a = 2
    · rcases h with h | h
      · exact Or.inr (Or.inl ⟨h, h2, hb⟩)
      · exact Or.inr (Or.inr ⟨h, hb, h2⟩)
    · exact Or.inl ⟨h, h2, hb⟩
  · intro h1
    rw [markAt_tail_iff]
    simp only [mem_pagOf_circ, mem_pagOf_dir, mem_pagOf_bi, mem_pagOf_un]
    refine ⟨fun x => by rw [h1] at x; exact absurd x.2 (by decide), ?_, ?_⟩
    · rintro (x | x | x)
      · rw [h1] at x; exact absurd x.2.1 (by decide)
      · rw [h1] at x; exact absurd x.2.1 (by decide)
      · rw [h1] at x; exact absurd x.2.2 (by decide)
    · rcases sharedMark_cases (equivClass M) b a with hb | hb | hb
      · exact Or.inl ⟨h.symm, hb, by rw [h1]; decide⟩
      · rcases h with h | h
        · exact Or.inr (Or.inl ⟨h, h1, hb⟩)
        · exact Or.inr (Or.inr (Or.inl ⟨h, hb, h1⟩))
      · exact Or.inr (Or.inr (Or.inr ⟨h.symm, hb⟩))
  · intro h3
    rw [markAt_circle_iff, mem_pagOf_circ]
    exact ⟨h, h3⟩

theorem markB_pagOf {M : MG} {a b : Nat} (h : Joins (skelPairs M) a b) :
    markB (pagOf M) a b = mkOf M a b := by
  obtain ⟨p2, p1, p3⟩ := markAt_pagOf h
  rcases sharedMark_cases (equivClass M) a b with hc | hc | hc
  · exact (markB_eq_two.mpr (p2 hc)).trans hc.symm
  · exact (markB_eq_one.mpr (p1 hc)).trans hc.symm
  · exact (markB_eq_three.mpr (p3 hc)).trans hc.symm

theorem Member.head_or_tail {M0 M' : MG} (hwf : M0.WF) (hm : IsMAG M0) (h : Member M0 M') {a b : Nat}
    (hab : markAt M0 a b ≠ none) : markAt M' a b = some .head ∨ markAt M' a b = some .tail := by
  cases hmk : markAt M' a b with
  | none => exact absurd hmk ((h.adj_iff hwf hm a b).mpr hab)
  | some m =>
    cases m with
    | tail => exact Or.inr rfl
    | head => exact Or.inl rfl
    | circle => rw [markAt_circle_iff, h.mag.noCirc] at hmk; cases hmk

theorem pagOf_isPagOf {M0 : MG} (hwf : M0.WF) (hm : IsMAG M0) : IsPagOf M0 (pagOf M0) := by
  have hself : Member M0 M0 := ⟨rfl, hwf, hm, MarkovEquiv.refl M0⟩
  -- what holds of the mark of every enumerated graph holds of the mark of every member, and conversely
  have hall : ∀ (a b : Nat) (p : Option Mark3 → Prop),
      (∀ M'' ∈ equivClass M0, p (markAt M'' a b)) ↔ (∀ M', Member M0 M' → p (markAt M' a b)) := by
    intro a b p
    constructor
    · intro h M' hM'
      obtain ⟨M'', hin, hse⟩ := exists_mem_equivClass hwf hm hM'
      rw [hse.markAt]; exact h M'' hin
    · intro h M'' hin
      exact h M'' (member_of_mem_equivClass hwf hm hin)
  refine ⟨rfl, ?_, ?_, ?_⟩
  · intro a b
    rw [Option.isSome_iff_ne_none, Option.isSome_iff_ne_none, skel_iff hwf hm]
    constructor
    · intro h
      exact Classical.byContradiction fun hn => h (markAt_pagOf_none hn)
    · intro h hn
      have := markB_pagOf h
      rw [markB_eq_zero.mpr hn] at this
      rcases sharedMark_cases (equivClass M0) a b with hc | hc | hc <;>
        exact absurd (this.trans hc) (by decide)
  · intro a b hab
    rw [Option.isSome_iff_ne_none, skel_iff hwf hm] at hab
    rw [← markB_eq_two, markB_pagOf hab, sharedMark_eq_two]
    exact hall a b (· = some .head)
  · intro a b hab
    rw [Option.isSome_iff_ne_none] at hab
    have hsk := (skel_iff hwf hm a b).mp hab
    rw [← markB_eq_one, markB_pagOf hsk, sharedMark_eq_one]
    refine (and_congr (not_congr (hall a b (· = some .head))) (hall a b (· ≠ some .head))).trans ?_
    constructor
    · rintro ⟨_, h⟩ M' hM'
      exact (hM'.head_or_tail hwf hm hab).resolve_left (h M' hM')
    · intro h
      refine ⟨fun hh => ?_, fun M1 h1 => ?_⟩
      · have := h M0 hself
        rw [hh M0 hself] at this; cases this
      · rw [h M1 h1]; simp

/-- in particular the circles of the oracle's PAG are exactly the marks on which two members differ -/
theorem pagOf_circle_iff {M0 : MG} (hwf : M0.WF) (hm : IsMAG M0) {a b : Nat}
    (hab : markAt M0 a b ≠ none) :
    markAt (pagOf M0) a b = some .circle ↔
      (∃ M1, Member M0 M1 ∧ markAt M1 a b = some .head) ∧
      (∃ M2, Member M0 M2 ∧ markAt M2 a b = some .tail) := by
  have hp := pagOf_isPagOf hwf hm
  have hs : (markAt M0 a b).isSome := Option.isSome_iff_ne_none.mpr hab
  have hP : markAt (pagOf M0) a b ≠ none := Option.isSome_iff_ne_none.mp ((hp.adj a b).mpr hs)
  -- every member has one of the two marks here, so some member has `m` iff not all have the other
  have key : ∀ m m' : Mark3, m ≠ m' →
      (∀ M', Member M0 M' → markAt M' a b = some m ∨ markAt M' a b = some m') →
      ((∃ M1, Member M0 M1 ∧ markAt M1 a b = some m) ↔
        ¬ ∀ M', Member M0 M' → markAt M' a b = some m') := by
    intro m m' hne hmem
    constructor
    · rintro ⟨M1, h1, e1⟩ hall
      exact hne (Option.some.inj (e1.symm.trans (hall M1 h1)))
    · intro hn
      exact Classical.byContradiction fun hex =>
        hn fun M' hM' => (hmem M' hM').resolve_left fun h => hex ⟨M', hM', h⟩
  have hmem : ∀ M', Member M0 M' → markAt M' a b = some .head ∨ markAt M' a b = some .tail :=
    fun M' hM' => hM'.head_or_tail hwf hm hab
  rw [key .head .tail (by decide) hmem, key .tail .head (by decide) fun M' hM' => (hmem M' hM').symm,
    ← hp.tail a b hs, ← hp.head a b hs]
  cases hmk : markAt (pagOf M0) a b with
  | none => exact absurd hmk hP
  | some m => cases m <;> simp

end C09
