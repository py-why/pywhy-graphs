import Pw.C09.DecCorrect
import Pw.C09.Marks
open Closure

/-! # C09 validator, part 1: the structural clauses and "no new unshielded collider"

`structuralFails P M = [] ↔ StructuralS P M` for **every** pair of graphs (no well-formedness
hypothesis), `noNewUCB P M ↔ NoNewUC P M` for every well-formed `M`. -/
namespace C09
open MG

/-- `markB` is the code of `markAt` -/
theorem markB_eq_iff {G : MG} {a b : Nat} :
    (markB G a b = 0 ↔ markAt G a b = none) ∧ (markB G a b = 1 ↔ markAt G a b = some .tail) ∧
    (markB G a b = 2 ↔ markAt G a b = some .head) ∧ (markB G a b = 3 ↔ markAt G a b = some .circle) := by
  unfold markB
  cases markAt G a b with
  | none => simp
  | some m => cases m <;> simp

theorem markB_eq_zero {G : MG} {a b : Nat} : markB G a b = 0 ↔ markAt G a b = none :=
  markB_eq_iff.1

theorem markB_eq_one {G : MG} {a b : Nat} : markB G a b = 1 ↔ markAt G a b = some .tail :=
  markB_eq_iff.2.1

theorem markB_eq_two {G : MG} {a b : Nat} : markB G a b = 2 ↔ markAt G a b = some .head :=
  markB_eq_iff.2.2.1

theorem markB_eq_three {G : MG} {a b : Nat} : markB G a b = 3 ↔ markAt G a b = some .circle :=
  markB_eq_iff.2.2.2

theorem adjB_eq {G : MG} {a b : Nat} : adjB G a b = (markAt G a b).isSome := by
  rw [adjB, Bool.eq_iff_iff, bne_iff_ne, Ne, markB_eq_zero, Option.isSome_iff_ne_none]

theorem mem_ends_of_mem {G : MG} {e : Nat × Nat} (h : e ∈ G.dir ++ G.bi ++ G.un ++ G.circ) :
    e.1 ∈ ends G ∧ e.2 ∈ ends G :=
  ⟨List.mem_flatMap.mpr ⟨e, h, List.mem_cons_self⟩,
   List.mem_flatMap.mpr ⟨e, h, List.mem_cons_of_mem _ List.mem_cons_self⟩⟩

theorem mem_ends_of_markAt {G : MG} {a b : Nat} (h : markAt G a b ≠ none) :
    a ∈ ends G ∧ b ∈ ends G :=
  (markAt_ne_none_iff.mp h).elim mem_ends_of_mem fun h => (mem_ends_of_mem h).symm

theorem SameNodes.symm {A B : List Nat} (h : SameNodes A B) : SameNodes B A := fun v => (h v).symm

theorem sameNodes_iff {A B : List Nat} : sameNodes A B = true ↔ SameNodes A B := by
  unfold sameNodes SameNodes
  simp only [Bool.and_eq_true, List.all_eq_true, decide_eq_true_eq]
  exact ⟨fun ⟨h1, h2⟩ v => ⟨h1 v, h2 v⟩, fun h => ⟨fun v => (h v).mp, fun v => (h v).mpr⟩⟩

theorem ite_nil_iff {c : Prop} [Decidable c] {s : String} :
    (if c then ([] : List String) else [s]) = [] ↔ c := by
  by_cases h : c <;> simp [h]

theorem mem_prs {ns : List Nat} {a b : Nat} :
    (a, b) ∈ (ns.flatMap fun a => ns.map fun b => (a, b)) ↔ a ∈ ns ∧ b ∈ ns := by
  simp only [List.mem_flatMap, List.mem_map, Prod.mk.injEq]
  constructor
  · rintro ⟨x, hx, y, hy, rfl, rfl⟩; exact ⟨hx, hy⟩
  · rintro ⟨ha, hb⟩; exact ⟨a, ha, b, hb, rfl, rfl⟩

theorem all_pairs_iff {P M : MG} {ns : List Nat} (hns : ∀ v, v ∈ ends P ∨ v ∈ ends M → v ∈ ns)
    {p : Nat × Nat → Bool} (hp : ∀ a b, markAt P a b = none → markAt M a b = none → p (a, b) = true) :
    (ns.flatMap fun a => ns.map fun b => (a, b)).all p = true ↔ ∀ a b, p (a, b) = true := by
  simp only [List.all_eq_true, Prod.forall, mem_prs]
  refine ⟨fun h a b => ?_, fun h a b _ => h a b⟩
  by_cases hd : a ∈ ns ∧ b ∈ ns
  · exact h a b hd
  · refine hp a b (Classical.byContradiction fun hn => hd ?_)
      (Classical.byContradiction fun hn => hd ?_)
    · exact ⟨hns a (Or.inl (mem_ends_of_markAt hn).1), hns b (Or.inl (mem_ends_of_markAt hn).2)⟩
    · exact ⟨hns a (Or.inr (mem_ends_of_markAt hn).1), hns b (Or.inr (mem_ends_of_markAt hn).2)⟩

theorem circ_nil_iff {M : MG} : M.circ = [] ↔ ∀ a b, markAt M a b ≠ some .circle := by
  simp only [ne_eq, markAt_circle_iff, List.eq_nil_iff_forall_not_mem, Prod.forall]

theorem structuralFails_nil_iff (P M : MG) : structuralFails P M = [] ↔ StructuralS P M := by
  have dom := @all_pairs_iff P M (P.nodes ++ M.nodes ++ ends P ++ ends M).eraseDups fun v hv =>
    List.mem_eraseDups.mpr (List.mem_append.mpr (hv.imp_left (List.mem_append_right _)))
  -- each of the three tests passes on a pair that carries no mark in either graph
  have hadj := dom (p := fun e => adjB M e.1 e.2 == adjB P e.1 e.2) fun a b hP hM => by
    simp only [adjB_eq, hP, hM, beq_self_eq_true]
  have hkeep : ∀ k : Nat, k ≠ 0 → _ := fun k hk =>
    dom (p := fun e => markB P e.1 e.2 != k || markB M e.1 e.2 == k) fun a b hP hM => by
      simp only [markB_eq_zero.mpr hP, Bool.or_eq_true, bne_iff_ne]; exact Or.inl (Ne.symm hk)
  simp only [structuralFails, List.append_eq_nil_iff, ite_nil_iff, sameNodes_iff, List.isEmpty_iff,
    hadj, hkeep 2 (by decide), hkeep 1 (by decide), circ_nil_iff]
  simp only [Bool.or_eq_true, bne_iff_ne, ne_eq, beq_iff_eq, markB_eq_two, markB_eq_one,
    ← Decidable.imp_iff_not_or, adjB_eq]
  constructor
  · rintro ⟨⟨⟨⟨hn, ha⟩, hh⟩, ht⟩, hc⟩
    exact ⟨hn.symm, fun a b => Bool.eq_iff_iff.mp (ha a b), hh, ht, hc⟩
  · intro h
    exact ⟨⟨⟨⟨h.nodes.symm, fun a b => Bool.eq_iff_iff.mpr (h.adj a b)⟩, h.keepHead⟩, h.keepTail⟩,
      h.noCircle⟩

theorem ucB_iff {G : MG} {a c b : Nat} : ucB G a c b = true ↔ UC G a c b := by
  unfold ucB UC
  simp only [Bool.and_eq_true, beq_iff_eq, bne_iff_ne, markB_eq_two, markB_eq_zero, and_assoc]

theorem mem_nodes_of_head {G : MG} (hwf : G.WF) {a b : Nat} (h : markAt G a b = some .head) :
    a ∈ G.nodes ∧ b ∈ G.nodes := by
  rcases (markAt_head_iff.mp h).2 with h | h | h
  · exact hwf.1 _ h
  · exact hwf.2.1 _ h
  · exact (hwf.2.1 _ h).symm

/-- triples over the node list of `M` suffice: an arrowhead joins nodes -/
theorem noNewUCB_iff {P M : MG} (hwf : M.WF) : noNewUCB P M = true ↔ NoNewUC P M := by
  unfold noNewUCB NoNewUC
  simp only [List.all_eq_true, Bool.or_eq_true, Bool.not_eq_true', ← Bool.not_eq_true, ucB_iff]
  constructor
  · intro h a c b hu
    have h1 := mem_nodes_of_head hwf hu.1
    have h2 := mem_nodes_of_head hwf hu.2.1
    rcases h a h1.1 c h1.2 b h2.1 with h | h
    · exact absurd hu h
    · exact h
  · intro h a _ c _ b _
    by_cases hu : UC M a c b
    · exact Or.inr (h a c b hu)
    · exact Or.inl hu

end C09
