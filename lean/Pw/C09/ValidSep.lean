import Pw.C09.ValidStruct
import Pw.C07.DecProofs
import Pw.C01.Symm
import Pw.C08.Complete
import Pw.T5.Main
open Closure

/-! # C09 validator, part 2: acyclic / ancestral / maximal / Markov equivalent

The tests range over `combos nodes` and the enumerated sublists of the other nodes.  One orientation per
pair suffices because m-separation is symmetric (`MG.MSep.symm`), and every `(x, y, Z)` of the declarative
statements is, up to the listing of `Z`, an enumerated query. -/
namespace C09
open MG

theorem mem_sublists : ∀ {l Z : List Nat}, Z ∈ sublists l ↔ Z.Sublist l
  | [], Z => by rw [sublists, List.mem_singleton, List.sublist_nil]
  | a :: t, Z => by
    simp only [sublists, List.mem_flatMap, List.mem_cons, List.not_mem_nil, or_false]
    constructor
    · rintro ⟨s, hs, rfl | rfl⟩
      · exact (mem_sublists.mp hs).cons a
      · exact (mem_sublists.mp hs).cons_cons a
    · intro h
      cases h with
      | cons _ h => exact ⟨Z, mem_sublists.mpr h, Or.inl rfl⟩
      | cons_cons _ h => exact ⟨_, mem_sublists.mpr h, Or.inr rfl⟩

/-- unlike `C08.mem_combos`, without `Nodup` -/
theorem mem_of_mem_combos {l : List Nat} {a b : Nat} (h : (a, b) ∈ C08.combos l) : a ∈ l ∧ b ∈ l := by
  induction l with
  | nil => simp [C08.combos] at h
  | cons x t ih =>
    simp only [C08.combos, List.mem_append, List.mem_map, Prod.mk.injEq] at h
    rcases h with ⟨y, hy, rfl, rfl⟩ | h
    · exact ⟨List.mem_cons_self, List.mem_cons_of_mem _ hy⟩
    · exact ⟨List.mem_cons_of_mem _ (ih h).1, List.mem_cons_of_mem _ (ih h).2⟩

/-- the other nodes, as the validator lists them -/
def others (ns : List Nat) (x y : Nat) : List Nat := ns.filter fun v => v != x && v != y

theorem mem_others {ns : List Nat} {x y v : Nat} : v ∈ others ns x y ↔ v ∈ ns ∧ v ≠ x ∧ v ≠ y := by
  simp [others, List.mem_filter]

theorem mem_sublists_others {ns : List Nat} {x y : Nat} {Z : List Nat}
    (h : Z ∈ sublists (others ns x y)) : ∀ z ∈ Z, z ∈ ns ∧ z ≠ x ∧ z ≠ y :=
  fun _ hz => mem_others.mp ((mem_sublists.mp h).subset hz)

theorem exists_mem_sublists {ns : List Nat} {x y : Nat} {Z : List Nat}
    (hZ : ∀ z ∈ Z, z ∈ ns ∧ z ≠ x ∧ z ≠ y) :
    ∃ Z' ∈ sublists (others ns x y), ∀ v, v ∈ Z' ↔ v ∈ Z :=
  ⟨(others ns x y).filter fun v => decide (v ∈ Z), mem_sublists.mpr List.filter_sublist, fun v => by
    simp only [List.mem_filter, mem_others, decide_eq_true_eq]
    exact ⟨fun h => h.2, fun h => ⟨hZ v h, h⟩⟩⟩

theorem forall_combos_iff {ns : List Nat} {R : Nat → Nat → Prop} (hrefl : ∀ x, R x x)
    (hsymm : ∀ x y, R x y → R y x) :
    (∀ x y, (x, y) ∈ C08.combos ns → R x y) ↔ ∀ x y, x ∈ ns → y ∈ ns → R x y := by
  constructor
  · intro h x y hx hy
    by_cases hxy : x = y
    · rw [hxy]; exact hrefl y
    · exact (C08.combos_complete hx hy hxy).elim (h x y) fun hc => hsymm y x (h y x hc)
  · intro h x y hc
    exact h x y (mem_of_mem_combos hc).1 (mem_of_mem_combos hc).2

theorem mem_queries {ns : List Nat} {x y : Nat} {Z : List Nat} :
    (x, y, Z) ∈ queries ns ↔ (x, y) ∈ C08.combos ns ∧ Z ∈ sublists (others ns x y) := by
  unfold queries others
  simp only [List.mem_flatMap, List.mem_map, Prod.mk.injEq, Prod.exists]
  constructor
  · rintro ⟨a, b, hab, Z', hZ', rfl, rfl, rfl⟩; exact ⟨hab, hZ'⟩
  · rintro ⟨h1, h2⟩; exact ⟨x, y, h1, Z, h2, rfl, rfl, rfl⟩

theorem noSelfLoop_of_irrefl {M : MG} (hun : M.un = [])
    (h : ∀ a, (a, a) ∉ M.dir ∧ (a, a) ∉ M.bi) : NoSelfLoop M :=
  MG.noSelfLoop_of_irrefl (fun a => (h a).1) (fun a => (h a).2) fun a he => by rw [hun] at he; cases he

theorem noSelfLoop_of_ancestral {M : MG} (ha : Ancestral M) (hun : M.un = []) : NoSelfLoop M :=
  noSelfLoop_of_irrefl hun fun a =>
    ⟨fun h => ha.1 a a h (Anc.refl a), fun h => ha.2 a a (Or.inl h) (Anc.refl a)⟩

/-- the empty path connects -/
theorem not_mSep_self (G : MG) (x : Nat) (Z : List Nat) : ¬ MSep G [x] [x] Z := by
  intro h
  exact h x List.mem_cons_self x List.mem_cons_self
    ⟨[], trivial, rfl, by simp [nodesOf], trivial⟩

theorem acyclicB_iff {M : MG} (hwf : M.WF) : (!hasCycle M) = true ↔ Acyclic M := by
  rw [Bool.not_eq_true']; exact hasCycle_false_iff M hwf

theorem sepOf_iff' {M : MG} (hwf : M.WF) (hun : M.un = []) (hsl : NoSelfLoop M) {ns : List Nat}
    (hns : ∀ v ∈ ns, v ∈ M.nodes) {x y : Nat} {Z : List Nat} (hx : x ∈ ns)
    (hZ : ∀ z ∈ Z, z ∈ ns ∧ z ≠ x ∧ z ≠ y) :
    sepOf M (x, y, Z) = true ↔ MSep M [x] [y] Z :=
  sepOf_iff hwf hun hsl x y Z (hns x hx) (fun z hz => hns z (hZ z hz).1)
    (fun hxz => (hZ x hxz).2.1 rfl)

theorem maximalB_iff {M : MG} (hwf : M.WF) (hun : M.un = []) (hsl : NoSelfLoop M) :
    maximalB M = true ↔ Maximal M := by
  -- the clause for one pair; symmetric because adjacency and m-separation are
  let R : Nat → Nat → Prop := fun x y => x ≠ y → markAt M x y = none →
    ∃ Z, (∀ z ∈ Z, z ∈ M.nodes ∧ z ≠ x ∧ z ≠ y) ∧ MSep M [x] [y] Z
  have hsymm : ∀ x y, R x y → R y x := fun x y h hxy hn => by
    obtain ⟨Z, hZ, hs⟩ := h (Ne.symm hxy) (markAt_none_symm hn)
    exact ⟨Z, fun z hz => ⟨(hZ z hz).1, (hZ z hz).2.2, (hZ z hz).2.1⟩, hs.symm⟩
  unfold maximalB
  simp only [List.all_eq_true, Prod.forall, Bool.or_eq_true, beq_iff_eq, List.any_eq_true]
  refine (forall₂_congr fun x y => imp_congr_right fun hc => ?_).trans
    (forall_combos_iff (R := R) (fun x h => absurd rfl h) hsymm)
  have hsep := fun Z hm => sepOf_iff' hwf hun hsl (fun v hv => hv) (mem_of_mem_combos hc).1
    (mem_sublists_others (ns := M.nodes) (x := x) (y := y) (Z := Z) hm)
  constructor
  · rintro ((h | h) | ⟨Z, hm, hs⟩) hxy hn
    · exact absurd h hxy
    · rw [adjB_eq, hn] at h; cases h
    · exact ⟨Z, mem_sublists_others hm, (hsep Z hm).mp hs⟩
  · intro h
    by_cases hxy : x = y
    · exact Or.inl (Or.inl hxy)
    · by_cases hn : markAt M x y = none
      · obtain ⟨Z, hZ, hs⟩ := h hxy hn
        obtain ⟨Z', hm, heq⟩ := exists_mem_sublists hZ
        exact Or.inr ⟨Z', hm, (hsep Z' hm).mpr ((C07.mSep_congr heq [x] [y]).mpr hs)⟩
      · exact Or.inl (Or.inr (adjB_eq.trans (Option.isSome_iff_ne_none.mpr hn)))

/-- `C09.Maximal` (adjacency read off the marks) is `C07.Maximal` on graphs without circle edges … -/
theorem maximal_iff_c07 {M : MG} (hc : M.circ = []) : Maximal M ↔ C07.Maximal M := by
  have hadj : ∀ a b, markAt M a b = none ↔ ¬ C07.Adjacent M a b := by
    intro a b
    rw [markAt_none_iff, hc]
    unfold C07.Adjacent C07.Dir C07.Bi C07.Un
    simp only [List.not_mem_nil, not_false_eq_true, true_and, and_true, not_or]
    constructor
    · rintro ⟨h1, h2, h3, h4, h5, h6⟩; exact ⟨h1, h4, ⟨h2, h3⟩, h5, h6⟩
    · rintro ⟨h1, h4, ⟨h2, h3⟩, h5, h6⟩; exact ⟨h1, h2, h3, h4, h5, h6⟩
  unfold Maximal C07.Maximal
  constructor
  · intro h a ha b hb hab hn; exact h a b ha hb hab ((hadj a b).mpr hn)
  · intro h a b ha hb hab hn; exact h a ha b hb hab ((hadj a b).mp hn)

/-- … hence (Richardson–Spirtes, proved as `T5.c07_T5`) `maximalB` also decides "no inducing path
    between non-adjacent nodes", the test `is_maximal` of the library implements -/
theorem maximalB_iff_noInducingPath {M : MG} (hwf : M.WF) (hun : M.un = []) (hc : M.circ = [])
    (hsl : NoSelfLoop M) : maximalB M = true ↔ C07.NoInducingPathBetweenNonAdjacent M := by
  rw [maximalB_iff hwf hun hsl, maximal_iff_c07 hc]
  exact T5.c07_T5 hwf hun hsl

theorem maximalB_eq_c07 {M : MG} (hwf : M.WF) (hun : M.un = []) (hc : M.circ = [])
    (hsl : NoSelfLoop M) : maximalB M = C07.maximalDec M :=
  Bool.eq_iff_iff.mpr (((maximalB_iff hwf hun hsl).trans (maximal_iff_c07 hc)).trans
    (C07.maximalDec_iff hwf hun hsl).symm)

theorem sameSepB_iff {M0 M : MG} (h0 : M0.WF) (u0 : M0.un = []) (s0 : NoSelfLoop M0)
    (h1 : M.WF) (u1 : M.un = []) (s1 : NoSelfLoop M) (hn : SameNodes M0.nodes M.nodes) :
    sameSepB M0 M = true ↔ MarkovEquiv M0 M := by
  -- the clause for one pair: symmetric, and void on the diagonal
  let R : Nat → Nat → Prop := fun x y => ∀ Z, (∀ z ∈ Z, z ∈ M0.nodes ∧ z ≠ x ∧ z ≠ y) →
    (MSep M0 [x] [y] Z ↔ MSep M [x] [y] Z)
  have hrefl : ∀ x, R x x := fun x Z _ =>
    ⟨fun hs => absurd hs (not_mSep_self _ _ _), fun hs => absurd hs (not_mSep_self _ _ _)⟩
  have hsymm : ∀ x y, R x y → R y x := fun x y h Z hZ => by
    have := h Z fun z hz => ⟨(hZ z hz).1, (hZ z hz).2.2, (hZ z hz).2.1⟩
    exact ⟨fun hs => (this.mp hs.symm).symm, fun hs => (this.mpr hs.symm).symm⟩
  -- one enumerated query: equality of the two answers is equivalence of the two path statements
  have hq : ∀ x y Z, x ∈ M0.nodes → (∀ z ∈ Z, z ∈ M0.nodes ∧ z ≠ x ∧ z ≠ y) →
      (sepOf M0 (x, y, Z) = sepOf M (x, y, Z) ↔ (MSep M0 [x] [y] Z ↔ MSep M [x] [y] Z)) := by
    intro x y Z hx hZ
    rw [← sepOf_iff' h0 u0 s0 (fun v hv => hv) hx hZ,
      ← sepOf_iff' h1 u1 s1 (fun v hv => (hn v).mp hv) hx hZ]
    exact Bool.eq_iff_iff
  unfold sameSepB MarkovEquiv
  simp only [List.all_eq_true, beq_iff_eq, Prod.forall, mem_queries]
  constructor
  · intro h x y Z hx hy _ hZ
    refine (forall_combos_iff hrefl hsymm).mp (fun x y hc Z hZ => ?_) x y hx hy Z hZ
    obtain ⟨Z', hm, heq⟩ := exists_mem_sublists hZ
    rw [← C07.mSep_congr heq, ← C07.mSep_congr heq,
      ← hq x y Z' (mem_of_mem_combos hc).1 (mem_sublists_others hm)]
    exact h x y Z' ⟨hc, hm⟩
  · intro h x y Z ⟨hc, hm⟩
    obtain ⟨hx, hy⟩ := mem_of_mem_combos hc
    have hZ := mem_sublists_others hm
    rw [hq x y Z hx hZ]
    by_cases hxy : x = y
    · exact hxy ▸ hrefl x Z (hxy ▸ hZ)
    · exact h x y Z hx hy hxy hZ

end C09
