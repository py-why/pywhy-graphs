import Pw.C09.Dec
open Closure

/-! # C09 validator: the ancestral test, and a single separation query -/
namespace C09
open MG

theorem ancestralB_iff {M : MG} (hwf : M.WF) : ancestralB M = true ↔ Ancestral M := by
  unfold ancestralB Ancestral
  simp only [Bool.and_eq_true, Bool.not_eq_true', List.all_eq_true, Bool.or_eq_false_iff,
    decide_eq_false_iff_not]
  rw [hasCycle_false_iff M hwf]
  have hmem : ∀ {a b : Nat}, b ∈ M.nodes → (a ∈ M.anc [b] ↔ Anc M a b) := by
    intro a b hb
    rw [mem_anc hwf (Z := [b]) (by intro z hz; rw [List.mem_singleton] at hz; rw [hz]; exact hb)]
    unfold ColliderOpen
    simp
  refine and_congr_right fun _ => ⟨fun h a b hab => ?_, fun h e he => ?_⟩
  · rcases hab with hab | hab
    · exact fun hanc => (h _ hab).1 ((hmem (hwf.2.1 _ hab).2).mpr hanc)
    · exact fun hanc => (h _ hab).2 ((hmem (hwf.2.1 _ hab).1).mpr hanc)
  · exact ⟨fun hanc => h _ _ (Or.inl he) ((hmem (hwf.2.1 _ he).2).mp hanc),
      fun hanc => h _ _ (Or.inr he) ((hmem (hwf.2.1 _ he).1).mp hanc)⟩

/-- a single query of the validator is the path-level m-separation statement of C01 -/
theorem sepOf_iff {M : MG} (hwf : M.WF) (hun : M.un = []) (hsl : NoSelfLoop M)
    (x y : Nat) (Z : List Nat) (hx : x ∈ M.nodes) (hZ : ∀ z ∈ Z, z ∈ M.nodes) (hxZ : x ∉ Z) :
    sepOf M (x, y, Z) = true ↔ MSep M [x] [y] Z := by
  unfold sepOf
  exact mSeparated_pair_iff hwf (noUndirAtHead_of_un_nil M hun) hsl hx hZ hxZ

end C09
