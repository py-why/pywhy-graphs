import Pw.C09.SameEdges
open Closure

/-! # C09 PAG oracle, part 1: which class `equivClass M0` enumerates

For a well-formed MAG `M0` without undirected edges:
* `member_of_mem_equivClass`: every enumerated graph is a `Member M0 ·` (a well-formed MAG on the nodes
  of `M0`, Markov equivalent to `M0`);
* `exists_mem_equivClass`: every `Member M0 M'` is enumerated, up to the listing of its edge lists
  (`SameEdges M' M''`): in particular the enumeration misses no MAG on the same nodes (and, as a
  consequence of maximality, the same adjacencies) that is Markov equivalent to `M0`. -/
namespace C09
open MG

/-- the list holds the pair in one order or the other -/
def Joins (l : List (Nat × Nat)) (a b : Nat) : Prop := (a, b) ∈ l ∨ (b, a) ∈ l

theorem Joins.symm {l : List (Nat × Nat)} {a b : Nat} (h : Joins l a b) : Joins l b a := Or.symm h

theorem joins_cons {p q : Nat} {l : List (Nat × Nat)} {a b : Nat} :
    Joins ((p, q) :: l) a b ↔ (a = p ∧ b = q ∨ a = q ∧ b = p) ∨ Joins l a b := by
  unfold Joins
  rw [List.mem_cons, List.mem_cons, Prod.mk.injEq, Prod.mk.injEq, and_comm (a := b = p)]
  exact or_or_or_comm

theorem mem_ord {l : List (Nat × Nat)} {a b : Nat} :
    (a, b) ∈ (l.flatMap fun e => [(e.1, e.2), (e.2, e.1)]) ↔ Joins l a b := by
  simp only [List.mem_flatMap, List.mem_cons, List.not_mem_nil, or_false, Prod.mk.injEq, Prod.exists]
  constructor
  · rintro ⟨x, y, h, ⟨rfl, rfl⟩ | ⟨rfl, rfl⟩⟩
    · exact Or.inl h
    · exact Or.inr h
  · rintro (h | h)
    · exact ⟨a, b, h, Or.inl ⟨rfl, rfl⟩⟩
    · exact ⟨b, a, h, Or.inr ⟨rfl, rfl⟩⟩

theorem mem_assignments_cons {a b : Nat} {t d bi : List (Nat × Nat)} :
    (d, bi) ∈ assignments ((a, b) :: t) ↔ ∃ d0 b0, (d0, b0) ∈ assignments t ∧
      ((d, bi) = ((a, b) :: d0, b0) ∨ (d, bi) = ((b, a) :: d0, b0) ∨ (d, bi) = (d0, (a, b) :: b0)) := by
  simp only [assignments, List.mem_flatMap, List.mem_cons, List.not_mem_nil, or_false, Prod.exists]

theorem assignments_joins : ∀ (prs d b : List (Nat × Nat)), (d, b) ∈ assignments prs →
    ∀ x y, (Joins d x y ∨ Joins b x y) ↔ Joins prs x y
  | [], d, b, h, x, y => by
    obtain ⟨rfl, rfl⟩ := Prod.mk.inj (List.mem_singleton.mp h)
    simp only [Joins, List.not_mem_nil, or_self]
  | (p, q) :: t, d, b, h, x, y => by
    obtain ⟨d0, b0, h0, hc⟩ := mem_assignments_cons.mp h
    have ih := assignments_joins t d0 b0 h0 x y
    rcases hc with hc | hc | hc <;> obtain ⟨rfl, rfl⟩ := Prod.mk.inj hc
    · rw [joins_cons, joins_cons, or_assoc, ih]
    · rw [joins_cons, joins_cons, or_assoc, ih, or_comm (a := x = q ∧ y = p)]
    · rw [joins_cons, joins_cons, or_left_comm, ih]

/-- `p`: the pair is a directed edge, as listed; `q`: it is a bidirected edge -/
theorem filter_mem_assignments {p q : Nat × Nat → Bool} {prs : List (Nat × Nat)}
    (h : ∀ e ∈ prs, (p e = true ∧ p (e.2, e.1) = false ∧ q e = false) ∨
      (p e = false ∧ p (e.2, e.1) = true ∧ q e = false) ∨
      (p e = false ∧ p (e.2, e.1) = false ∧ q e = true)) :
    ((prs.flatMap fun e => [(e.1, e.2), (e.2, e.1)]).filter p, prs.filter q) ∈ assignments prs := by
  induction prs with
  | nil => exact List.mem_singleton.mpr rfl
  | cons e t ih =>
    refine mem_assignments_cons.mpr ⟨_, _, ih fun e he => h e (List.mem_cons_of_mem _ he), ?_⟩
    simp only [List.flatMap_cons, List.filter_append, List.filter_cons, List.filter_nil]
    rcases h e List.mem_cons_self with ⟨h1, h2, h3⟩ | ⟨h1, h2, h3⟩ | ⟨h1, h2, h3⟩
    · simp only [h1, h2, h3]; exact Or.inl rfl
    · simp only [h1, h2, h3]; exact Or.inr (Or.inl rfl)
    · simp only [h1, h2, h3]; exact Or.inr (Or.inr rfl)

theorem adj_db {G : MG} (hu : G.un = []) (hc : G.circ = []) {a b : Nat} :
    markAt G a b ≠ none ↔ Joins G.dir a b ∨ Joins G.bi a b := by
  rw [markAt_ne_none_iff, mem_layers, mem_layers, hu, hc]
  simp only [List.not_mem_nil, or_false]
  exact or_or_or_comm

theorem hasEdge_of_adj {G : MG} (hu : G.un = []) (hc : G.circ = []) {a b : Nat}
    (h : markAt G a b ≠ none) : ∃ ma mb, HasEdge G a b ma mb := by
  rcases (adj_db hu hc).mp h with (h | h) | (h | h)
  · exact ⟨.tail, .head, Or.inl ⟨rfl, rfl, h⟩⟩
  · exact ⟨.head, .tail, Or.inr (Or.inl ⟨rfl, rfl, h⟩)⟩
  · exact ⟨.head, .head, Or.inr (Or.inr (Or.inl ⟨rfl, rfl, Or.inl h⟩))⟩
  · exact ⟨.head, .head, Or.inr (Or.inr (Or.inl ⟨rfl, rfl, Or.inr h⟩))⟩

theorem connects_of_hasEdge {G : MG} {Z : List Nat} {x y : Nat} {ma mb : Mark} (hxy : x ≠ y)
    (h : HasEdge G x y ma mb) : MConnPath G Z x y :=
  ⟨[⟨ma, mb, y⟩], ⟨h, trivial⟩, rfl, by simp [nodesOf, hxy], by simp [OpenS]⟩

theorem IsMAG.noSelfLoop {G : MG} (h : IsMAG G) : NoSelfLoop G :=
  noSelfLoop_of_ancestral h.ancestral h.noUn

theorem ne_of_adj {G : MG} (hm : IsMAG G) {a b : Nat} (h : markAt G a b ≠ none) : a ≠ b := by
  obtain ⟨ma, mb, he⟩ := hasEdge_of_adj hm.noUn hm.noCirc h
  rintro rfl
  exact hm.noSelfLoop _ _ _ he

theorem mem_nodes_of_adj {G : MG} (hwf : G.WF) (hm : IsMAG G) {a b : Nat} (h : markAt G a b ≠ none) :
    a ∈ G.nodes ∧ b ∈ G.nodes := by
  obtain ⟨ma, mb, he⟩ := hasEdge_of_adj hm.noUn hm.noCirc h
  exact ⟨he.symm.mem_nodes hwf, he.mem_nodes hwf⟩

theorem not_mSep_of_adj {G : MG} (hm : IsMAG G) {x y : Nat} (h : markAt G x y ≠ none) (Z : List Nat) :
    ¬ MSep G [x] [y] Z := by
  obtain ⟨ma, mb, he⟩ := hasEdge_of_adj hm.noUn hm.noCirc h
  intro hs
  exact hs x List.mem_cons_self y List.mem_cons_self (connects_of_hasEdge (ne_of_adj hm h) he)

theorem MarkovEquiv.symm_of_nodes {A B : MG} (hn : B.nodes = A.nodes) (h : MarkovEquiv A B) :
    MarkovEquiv B A := by
  intro x y Z hx hy hxy hZ
  rw [hn] at hx hy
  exact (h x y Z hx hy hxy (fun z hz => by have := hZ z hz; rw [hn] at this; exact this)).symm

theorem MarkovEquiv.refl (A : MG) : MarkovEquiv A A := fun _ _ _ _ _ _ _ => Iff.rfl

/-- Markov equivalent MAGs on the same nodes have the same adjacencies (maximality) -/
theorem adj_transfer {A B : MG} (hA : A.WF) (mA : IsMAG A) (mB : IsMAG B) (hn : B.nodes = A.nodes)
    (he : MarkovEquiv A B) {x y : Nat} (h : markAt A x y ≠ none) : markAt B x y ≠ none := by
  intro hnone
  obtain ⟨hx, hy⟩ := mem_nodes_of_adj hA mA h
  have hxy := ne_of_adj mA h
  obtain ⟨Z, hZ, hs⟩ := mB.maximal x y (hn ▸ hx) (hn ▸ hy) hxy hnone
  have hZ' : ∀ z ∈ Z, z ∈ A.nodes ∧ z ≠ x ∧ z ≠ y := fun z hz => by
    have := hZ z hz; rw [hn] at this; exact this
  exact not_mSep_of_adj mA h Z ((he x y Z hx hy hxy hZ').mpr hs)

theorem Member.adj_iff {M0 M' : MG} (hwf : M0.WF) (hm : IsMAG M0) (h : Member M0 M') (x y : Nat) :
    markAt M' x y ≠ none ↔ markAt M0 x y ≠ none :=
  ⟨adj_transfer h.wf h.mag hm h.nodes.symm (h.equiv.symm_of_nodes h.nodes),
   adj_transfer hwf hm h.mag h.nodes h.equiv⟩

theorem mem_skelPairs {M : MG} {a b : Nat} :
    (a, b) ∈ skelPairs M ↔ (a, b) ∈ C08.combos M.nodes ∧ markAt M a b ≠ none := by
  unfold skelPairs
  rw [List.mem_filter]
  show _ ∧ adjB M a b = true ↔ _
  rw [adjB_eq, Option.isSome_iff_ne_none]

theorem mem_nodes_of_joins_skelPairs {M : MG} {a b : Nat} (h : Joins (skelPairs M) a b) :
    a ∈ M.nodes ∧ b ∈ M.nodes :=
  h.elim (fun h => mem_of_mem_combos (mem_skelPairs.mp h).1)
    fun h => (mem_of_mem_combos (mem_skelPairs.mp h).1).symm

theorem skel_iff {M : MG} (hwf : M.WF) (hm : IsMAG M) (a b : Nat) :
    markAt M a b ≠ none ↔ Joins (skelPairs M) a b := by
  constructor
  · intro h
    obtain ⟨ha, hb⟩ := mem_nodes_of_adj hwf hm h
    rcases C08.combos_complete ha hb (ne_of_adj hm h) with hc | hc
    · exact Or.inl (mem_skelPairs.mpr ⟨hc, h⟩)
    · exact Or.inr (mem_skelPairs.mpr ⟨hc, markAt_ne_none_symm h⟩)
  · rintro (h | h)
    · exact (mem_skelPairs.mp h).2
    · exact markAt_ne_none_symm (mem_skelPairs.mp h).2

theorem cand_wf {M0 : MG} {d b : List (Nat × Nat)} (hs : (d, b) ∈ assignments (skelPairs M0)) :
    (cand M0 d b).WF := by
  have hj := assignments_joins _ d b hs
  refine ⟨?_, ?_, fun e he => nomatch he⟩
  · rintro ⟨x, y⟩ he
    exact mem_nodes_of_joins_skelPairs (M := M0) ((hj x y).mp (Or.inl (Or.inl he)))
  · rintro ⟨x, y⟩ he
    exact mem_nodes_of_joins_skelPairs (M := M0) ((hj x y).mp (Or.inr (Or.inl he)))

theorem cand_adj {M0 : MG} (hwf : M0.WF) (hm : IsMAG M0) {d b : List (Nat × Nat)}
    (hs : (d, b) ∈ assignments (skelPairs M0)) (x y : Nat) :
    markAt (cand M0 d b) x y ≠ none ↔ markAt M0 x y ≠ none := by
  rw [adj_db (G := cand M0 d b) rfl rfl, skel_iff hwf hm, ← assignments_joins _ d b hs x y]
  rfl

theorem all_zip_map {α β : Type} (f : α → β) (p : α → β → Bool) : ∀ l : List α,
    ((l.zip (l.map f)).all fun (q, r) => p q r) = l.all fun q => p q (f q)
  | [] => rfl
  | a :: t => by simp [all_zip_map f p t]

theorem mem_equivClass {M0 M'' : MG} :
    M'' ∈ equivClass M0 ↔ ∃ d b, (d, b) ∈ assignments (skelPairs M0) ∧ M'' = cand M0 d b ∧
      ancestralB M'' = true ∧ sameSepB M0 M'' = true := by
  unfold equivClass
  simp only [List.mem_filter, List.mem_map, Prod.exists, Bool.and_eq_true]
  rw [all_zip_map (sepOf M0) (fun q r => sepOf M'' q == r)]
  have hc : ((queries M0.nodes).all fun q => sepOf M'' q == sepOf M0 q) = sameSepB M0 M'' := by
    unfold sameSepB
    congr 1; funext q; exact Bool.beq_comm
  rw [hc]
  constructor
  · rintro ⟨⟨d, b, hs, rfl⟩, h1, h2⟩; exact ⟨d, b, hs, rfl, h1, h2⟩
  · rintro ⟨d, b, hs, rfl, h1, h2⟩; exact ⟨⟨d, b, hs, rfl⟩, h1, h2⟩

/-- **soundness of the enumeration**: every enumerated graph is a member of the class -/
theorem member_of_mem_equivClass {M0 M'' : MG} (hwf : M0.WF) (hm : IsMAG M0)
    (h : M'' ∈ equivClass M0) : Member M0 M'' := by
  obtain ⟨d, b, hs, rfl, ha, hq⟩ := mem_equivClass.mp h
  have hwf' := cand_wf hs
  have hanc := (ancestralB_iff hwf').mp ha
  have hsl := noSelfLoop_of_ancestral hanc (M := cand M0 d b) rfl
  have heq : MarkovEquiv M0 (cand M0 d b) :=
    (sameSepB_iff hwf hm.noUn hm.noSelfLoop hwf' rfl hsl (fun _ => Iff.rfl)).mp hq
  refine ⟨rfl, hwf', ⟨rfl, rfl, hanc, ?_⟩, heq⟩
  intro x y hx hy hxy hnone
  have h0 : markAt M0 x y = none :=
    Classical.byContradiction fun hn => (cand_adj hwf hm hs x y).mpr hn hnone
  obtain ⟨Z, hZ, hsep⟩ := hm.maximal x y hx hy hxy h0
  exact ⟨Z, hZ, (heq x y Z hx hy hxy hZ).mp hsep⟩

/-- a graph with directed and bidirected edges only, at most one edge per pair, whose adjacent pairs are
    those joined by `prs`, is the candidate of an assignment of `prs`, up to the listing of its edges -/
theorem exists_assignment_sameEdges {G : MG} {prs : List (Nat × Nat)} (hu : G.un = []) (hc : G.circ = [])
    (hskel : ∀ x y, markAt G x y ≠ none ↔ Joins prs x y)
    (hone : ∀ x y, (x, y) ∈ G.dir → (y, x) ∉ G.dir ∧ (x, y) ∉ G.bi ∧ (y, x) ∉ G.bi) (M0 : MG) :
    ∃ d b, (d, b) ∈ assignments prs ∧ SameEdges G (cand M0 d b) := by
  -- each listed pair with the edge `G` has there
  let d := (prs.flatMap fun e => [(e.1, e.2), (e.2, e.1)]).filter fun e => decide (e ∈ G.dir)
  let b := prs.filter fun e => decide (e ∈ G.bi ∨ (e.2, e.1) ∈ G.bi)
  have hd : ∀ x y, (x, y) ∈ d ↔ Joins prs x y ∧ (x, y) ∈ G.dir := fun x y => by
    rw [List.mem_filter, mem_ord, decide_eq_true_eq]
  have hb : ∀ x y, (x, y) ∈ b ↔ (x, y) ∈ prs ∧ ((x, y) ∈ G.bi ∨ (y, x) ∈ G.bi) := fun x y => by
    rw [List.mem_filter, decide_eq_true_eq]
  have hdb := fun x y => adj_db (G := G) hu hc (a := x) (b := y)
  refine ⟨d, b, filter_mem_assignments fun e he => ?_, fun x y => ?_, fun x y => ?_, fun x y => ?_,
    fun x y => ?_⟩
  · simp only [decide_eq_true_eq, decide_eq_false_iff_not, not_or]
    rcases (hdb e.1 e.2).mp ((hskel e.1 e.2).mpr (Or.inl he)) with (h1 | h1) | (h1 | h1)
    · exact Or.inl ⟨h1, (hone _ _ h1).1, (hone _ _ h1).2⟩
    · exact Or.inr (Or.inl ⟨(hone _ _ h1).1, h1, (hone _ _ h1).2.2, (hone _ _ h1).2.1⟩)
    · exact Or.inr (Or.inr ⟨fun hd => (hone _ _ hd).2.1 h1, fun hd => (hone _ _ hd).2.2 h1, Or.inl h1⟩)
    · exact Or.inr (Or.inr ⟨fun hd => (hone _ _ hd).2.2 h1, fun hd => (hone _ _ hd).2.1 h1, Or.inr h1⟩)
  · exact Iff.trans ⟨fun hxy => ⟨(hskel x y).mp ((hdb x y).mpr (Or.inl (Or.inl hxy))), hxy⟩, And.right⟩
      (hd x y).symm
  · show _ ↔ ((x, y) ∈ b ∨ (y, x) ∈ b)
    rw [hb, hb]
    constructor
    · intro hxy
      exact ((hskel x y).mp ((hdb x y).mpr (Or.inr hxy))).imp (fun hp => ⟨hp, hxy⟩)
        fun hp => ⟨hp, hxy.symm⟩
    · rintro (⟨_, hxy⟩ | ⟨_, hxy⟩)
      · exact hxy
      · exact hxy.symm
  · show _ ↔ ((x, y) ∈ ([] : List (Nat × Nat)) ∨ (y, x) ∈ ([] : List (Nat × Nat)))
    rw [hu]
  · show _ ↔ (x, y) ∈ ([] : List (Nat × Nat))
    rw [hc]

/-- **completeness of the enumeration**: every member of the class is enumerated (with its edges
    listed in the oracle's canonical way) -/
theorem exists_mem_equivClass {M0 M' : MG} (hwf : M0.WF) (hm : IsMAG M0) (h : Member M0 M') :
    ∃ M'' ∈ equivClass M0, SameEdges M' M'' := by
  -- `M'` has an edge exactly on the skeleton pairs of `M0`, and (being ancestral) one edge only
  have hone : ∀ x y, (x, y) ∈ M'.dir → (y, x) ∉ M'.dir ∧ (x, y) ∉ M'.bi ∧ (y, x) ∉ M'.bi := fun x y hd =>
    ⟨fun hyx => h.mag.ancestral.1 x y hd (Anc.step hyx (Anc.refl x)),
     fun hb => h.mag.ancestral.2 x y (Or.inl hb) (Anc.step hd (Anc.refl y)),
     fun hb => h.mag.ancestral.2 x y (Or.inr hb) (Anc.step hd (Anc.refl y))⟩
  obtain ⟨d, b, hs, hse⟩ := exists_assignment_sameEdges h.mag.noUn h.mag.noCirc
    (fun x y => (h.adj_iff hwf hm x y).trans (skel_iff hwf hm x y)) hone M0
  have hanc := (hse.ancestral).mp h.mag.ancestral
  exact ⟨_, mem_equivClass.mpr ⟨d, b, hs, rfl, (ancestralB_iff (cand_wf hs)).mpr hanc,
    (sameSepB_iff hwf hm.noUn hm.noSelfLoop (cand_wf hs) rfl (noSelfLoop_of_ancestral hanc rfl)
      (fun _ => Iff.rfl)).mpr ((hse.markovEquiv M0).mp h.equiv)⟩, hse⟩

end C09
