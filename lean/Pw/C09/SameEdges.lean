import Pw.C09.ValidSep
open Closure

/-! # Graphs with the same edges (up to the listing of the edge lists) have the same marks, the same
ancestor relation and the same m-separations.  Used to state which class the PAG oracle enumerates. -/
namespace C09
open MG

/-- same edges, whatever the order, multiplicity and (for symmetric layers) orientation of the stored pairs -/
structure SameEdges (A B : MG) : Prop where
  dir : ∀ a b, (a, b) ∈ A.dir ↔ (a, b) ∈ B.dir
  bi : ∀ a b, ((a, b) ∈ A.bi ∨ (b, a) ∈ A.bi) ↔ ((a, b) ∈ B.bi ∨ (b, a) ∈ B.bi)
  un : ∀ a b, ((a, b) ∈ A.un ∨ (b, a) ∈ A.un) ↔ ((a, b) ∈ B.un ∨ (b, a) ∈ B.un)
  circ : ∀ a b, (a, b) ∈ A.circ ↔ (a, b) ∈ B.circ

variable {A B : MG}

theorem SameEdges.symm (h : SameEdges A B) : SameEdges B A :=
  ⟨fun a b => (h.dir a b).symm, fun a b => (h.bi a b).symm, fun a b => (h.un a b).symm,
   fun a b => (h.circ a b).symm⟩

theorem SameEdges.hasEdge (h : SameEdges A B) (a b : Nat) (ma mb : Mark) :
    HasEdge A a b ma mb ↔ HasEdge B a b ma mb := by
  simp only [HasEdge, h.dir, h.bi, h.un]

theorem SameEdges.markAt (h : SameEdges A B) (a b : Nat) : markAt A a b = markAt B a b :=
  -- the three tests of `markAt` agree
  have e1 := or_congr (h.dir a b) (h.bi a b)
  have e2 := or_congr (h.dir b a)
    (or_assoc.symm.trans ((or_congr (h.un a b) (h.circ b a)).trans or_assoc))
  ite_congr (propext (h.circ a b)) (fun _ => rfl) fun _ =>
    ite_congr (propext e1) (fun _ => rfl) fun _ => ite_cond_congr (propext e2)

theorem SameEdges.anc (h : SameEdges A B) {a b : Nat} (hab : Anc A a b) : Anc B a b :=
  hab.mono fun e he => (h.dir e.1 e.2).mp he

theorem SameEdges.anc_iff (h : SameEdges A B) (a b : Nat) : Anc A a b ↔ Anc B a b :=
  ⟨h.anc, h.symm.anc⟩

theorem SameEdges.validW (h : SameEdges A B) : ∀ (hs : List Hop) (a : Nat), ValidW A a hs ↔ ValidW B a hs
  | [], _ => Iff.rfl
  | hp :: t, a => by simp only [ValidW, h.hasEdge, h.validW t]

theorem SameEdges.colliderOpen (h : SameEdges A B) (Z : List Nat) (v : Nat) :
    ColliderOpen A Z v ↔ ColliderOpen B Z v := by
  unfold ColliderOpen; simp only [h.anc_iff]

theorem SameEdges.condS (h : SameEdges A B) (Z : List Nat) (mi mo : Mark) (v : Nat) :
    condS A Z mi mo v ↔ condS B Z mi mo v := by
  unfold MG.condS; simp only [h.colliderOpen]

theorem SameEdges.openS (h : SameEdges A B) (Z : List Nat) :
    ∀ (hs : List Hop) (e : Option Mark) (a : Nat), OpenS A Z e a hs ↔ OpenS B Z e a hs
  | [], e, a => by cases e <;> simp [OpenS]
  | hp :: t, none, a => by simp only [OpenS]; exact h.openS Z t _ _
  | hp :: t, some m, a => by simp only [OpenS, h.condS, h.openS Z t _ _]

theorem SameEdges.mSep (h : SameEdges A B) (X Y Z : List Nat) : MSep A X Y Z ↔ MSep B X Y Z := by
  unfold MSep MConnPath
  simp only [h.validW, h.openS]

theorem SameEdges.acyclic (h : SameEdges A B) : Acyclic A ↔ Acyclic B := by
  unfold Acyclic; simp only [h.dir, h.anc_iff]

theorem SameEdges.ancestral (h : SameEdges A B) : Ancestral A ↔ Ancestral B := by
  unfold Ancestral; simp only [h.acyclic, h.bi, h.anc_iff]

theorem SameEdges.markovEquiv (h : SameEdges A B) (M0 : MG) : MarkovEquiv M0 A ↔ MarkovEquiv M0 B := by
  unfold MarkovEquiv; simp only [h.mSep]

theorem SameEdges.wf (h : SameEdges A B) (hn : A.nodes = B.nodes) (hw : A.WF) : B.WF := by
  refine ⟨?_, ?_, ?_⟩
  · rintro ⟨a, b⟩ he; rw [← hn]; exact hw.1 _ ((h.dir a b).mpr he)
  · rintro ⟨a, b⟩ he
    rw [← hn]
    rcases (h.bi a b).mpr (Or.inl he) with h1 | h1
    · exact hw.2.1 _ h1
    · exact (hw.2.1 _ h1).symm
  · rintro ⟨a, b⟩ he
    rw [← hn]
    rcases (h.un a b).mpr (Or.inl he) with h1 | h1
    · exact hw.2.2 _ h1
    · exact (hw.2.2 _ h1).symm

end C09
