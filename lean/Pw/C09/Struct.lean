import Pw.C09.Marks
import Pw.C08.Loop
open Closure

/-! # C09 proofs: the structural clauses of `pag_to_mag` for every input and all iteration orders -/
namespace C09
open MG C08

/-- orientation sequences, as `C08.Steps` without the "compelled" side condition -/
inductive OSteps (P : MG) : MG → Prop
  | refl : OSteps P P
  | step {G : MG} {i j : Nat} : OSteps P G → HasUn G i j → OSteps P (orient G i j)

theorem OSteps.trans {P G H : MG} (h1 : OSteps P G) (h2 : OSteps G H) : OSteps P H := by
  induction h2 with
  | refl => exact h1
  | step _ hu ih => exact OSteps.step ih hu

theorem OSteps.of_steps {P G : MG} (h : Steps P G) : OSteps P G := by
  induction h with
  | refl => exact OSteps.refl
  | step _ hu _ ih => exact OSteps.step ih hu

theorem OSteps.nodes {P G : MG} (h : OSteps P G) : G.nodes = P.nodes := by
  induction h with
  | refl => rfl
  | step _ _ ih => exact ih

theorem OSteps.skel {P G : MG} (h : OSteps P G) (a b : Nat) : Skel G a b ↔ Skel P a b := by
  induction h with
  | refl => exact Iff.rfl
  | step _ hu ih => exact (skel_orient hu a b).trans ih

theorem OSteps.un_anti {P G : MG} (h : OSteps P G) : ∀ e ∈ G.un, e ∈ P.un := by
  induction h with
  | refl => exact fun _ h => h
  | step _ _ ih => exact fun e he => ih e (mem_orient_un.mp he).1

theorem OSteps.simple {P G : MG} (h : OSteps P G) (hs : Simple P) : Simple G := by
  induction h with
  | refl => exact hs
  | step _ _ ih => exact simple_orient ih

theorem OSteps.dir_from {P G : MG} (h : OSteps P G) : ∀ e ∈ G.dir, e ∈ P.dir ∨ HasUn P e.1 e.2 := by
  induction h with
  | refl => exact fun e he => Or.inl he
  | @step G i j hs hu ih =>
    intro e he
    rcases mem_orient_dir.mp he with he | rfl
    · exact ih e he
    · exact Or.inr (hu.imp (hs.un_anti _) (hs.un_anti _))

theorem meekLoop_mu_le {inner : List Nat} (hin : inner.Nodup) :
    ∀ (f : Nat) (G : MG), Simple G → mu (meekLoop inner f G) ≤ mu G
  | 0, G, _ => Nat.le_refl _
  | f + 1, G, hs => by
    have p := pass_prog (inner := inner) hs hin
    rw [meekLoop_succ]
    split
    · exact Nat.le_trans (meekLoop_mu_le hin f _ (p.steps.simple hs)) p.le
    · exact p.le

theorem firstUn_some {T : MG} {u v : Nat} (h : firstUn T = some (u, v)) : HasUn T u v := by
  obtain ⟨n, _, hn⟩ := List.exists_of_findSome?_eq_some h
  obtain ⟨⟨x, y⟩, he, heq⟩ := Option.map_eq_some_iff.mp hn
  have hmem := List.mem_of_find?_eq_some he
  have hp := List.find?_some he
  simp only [Bool.or_eq_true, beq_iff_eq] at hp
  obtain ⟨rfl, rfl⟩ := Prod.mk.inj heq
  by_cases h1 : x = n
  · rw [if_pos (beq_iff_eq.mpr h1), ← h1]; exact Or.inl hmem
  · rw [if_neg (mt beq_iff_eq.mp h1), ← hp.resolve_left h1]; exact Or.inr hmem

theorem firstUn_none {T : MG} (hwf : ∀ e ∈ T.un, e.1 ∈ T.nodes) (h : firstUn T = none) : T.un = [] := by
  refine List.eq_nil_iff_forall_not_mem.mpr fun e he => ?_
  have := List.findSome?_eq_none_iff.mp h e.1 (hwf e he)
  rw [Option.map_eq_none_iff, List.find?_eq_none] at this
  exact this e he (by rw [beq_self_eq_true, Bool.true_or])

theorem orientLoop_spec {inner : List Nat} (hin : inner.Nodup) :
    ∀ (f : Nat) (T : MG), Simple T → (∀ e ∈ T.un, e.1 ∈ T.nodes) → mu T ≤ f →
      (orientLoop inner f T).un = [] ∧ OSteps T (orientLoop inner f T)
  | 0, T, _, _, h => by
    unfold orientLoop
    exact ⟨List.eq_nil_of_length_eq_zero (Nat.le_zero.mp h), OSteps.refl⟩
  | f + 1, T, hs, hwf, h => by
    unfold orientLoop
    cases hf : firstUn T with
    | none => exact ⟨firstUn_none hwf hf, OSteps.refl⟩
    | some p =>
      obtain ⟨u, v⟩ := p
      have hu := firstUn_some hf
      have s1 : Simple (orient T u v) := simple_orient hs
      have st := meek_steps (inner := inner) s1 hin
      have o1 : OSteps T (meek (orient T u v) inner) :=
        (OSteps.step OSteps.refl hu).trans (OSteps.of_steps st)
      have hmu : mu (meek (orient T u v) inner) ≤ f :=
        Nat.le_of_lt_succ (Nat.lt_of_le_of_lt (meekLoop_mu_le hin _ _ s1)
          (Nat.lt_of_lt_of_le (mu_orient_lt hu) h))
      have hwf' : ∀ e ∈ (meek (orient T u v) inner).un, e.1 ∈ (meek (orient T u v) inner).nodes := by
        intro e he
        rw [o1.nodes]
        exact hwf e (o1.un_anti e he)
      obtain ⟨r1, r2⟩ := orientLoop_spec hin f _ (o1.simple hs) hwf' hmu
      exact ⟨r1, o1.trans r2⟩

/-- what the three lists contain, as an invariant of the fold -/
structure ClsInv (P : MG) (seen : List (Nat × Nat)) (c : Cls) : Prop where
  reorient : ∀ e, e ∈ c.toReorient ↔ (e ∈ seen ∧ (e.2, e.1) ∉ P.dir ∧ (e.2, e.1) ∉ P.circ)
  addSound : ∀ e ∈ c.toAdd, e ∈ seen ∧ (e.2, e.1) ∈ P.circ
  addComplete : ∀ e ∈ seen, (e.2, e.1) ∉ P.dir → (e.2, e.1) ∈ P.circ → e ∈ c.toAdd ∨ (e.2, e.1) ∈ c.toAdd

theorem mem_classifyStep_toReorient {P : MG} {c : Cls} {e x : Nat × Nat} :
    x ∈ (classifyStep P c e).toReorient ↔
      x ∈ c.toReorient ∨ (x = e ∧ (e.2, e.1) ∉ P.dir ∧ (e.2, e.1) ∉ P.circ) := by
  simp only [classifyStep, apply_ite Cls.toReorient, ite_self]
  by_cases h1 : (e.2, e.1) ∈ P.dir
  · simp only [h1, if_true, not_true_eq_false, false_and, and_false, or_false]
  · by_cases h2 : (e.2, e.1) ∈ P.circ
    · simp only [h1, h2, if_false, not_true_eq_false, and_false, or_false]
    · simp only [h1, h2, if_false, if_true, not_false_eq_true, and_true, List.mem_append,
        List.mem_singleton]

theorem mem_classifyStep_toAdd {P : MG} {c : Cls} {e x : Nat × Nat} :
    x ∈ (classifyStep P c e).toAdd ↔
      x ∈ c.toAdd ∨ (x = e ∧ (e.2, e.1) ∉ P.dir ∧ (e.2, e.1) ∈ P.circ ∧ (e.2, e.1) ∉ c.toAdd) := by
  simp only [classifyStep, apply_ite Cls.toAdd]
  by_cases h1 : (e.2, e.1) ∈ P.dir
  · simp only [h1, if_true, not_true_eq_false, false_and, and_false, or_false]
  · by_cases h2 : (e.2, e.1) ∈ P.circ
    · by_cases h3 : (e.2, e.1) ∈ c.toAdd
      · simp only [h1, h2, h3, if_false, not_true_eq_false, and_false, or_false]
      · simp only [h1, h2, h3, if_false, if_true, not_true_eq_false, not_false_eq_true, and_true,
          List.mem_append, List.mem_singleton]
    · simp only [h1, h2, if_false, if_true, not_false_eq_true, false_and, and_false, or_false]

theorem classifyStep_inv {P : MG} {seen : List (Nat × Nat)} {c : Cls} (h : ClsInv P seen c)
    (e : Nat × Nat) : ClsInv P (seen ++ [e]) (classifyStep P c e) := by
  refine ⟨fun x => ?_, fun x hx => ?_, fun x hx hd hc => ?_⟩
  · rw [mem_classifyStep_toReorient, h.reorient x, List.mem_append, List.mem_singleton]
    constructor
    · rintro (⟨a, b⟩ | ⟨rfl, b⟩)
      · exact ⟨Or.inl a, b⟩
      · exact ⟨Or.inr rfl, b⟩
    · rintro ⟨a | rfl, b⟩
      · exact Or.inl ⟨a, b⟩
      · exact Or.inr ⟨rfl, b⟩
  · rcases mem_classifyStep_toAdd.mp hx with hx | ⟨rfl, _, hc, _⟩
    · exact ⟨List.mem_append_left _ (h.addSound x hx).1, (h.addSound x hx).2⟩
    · exact ⟨List.mem_append_right _ (List.mem_singleton.mpr rfl), hc⟩
  · rcases List.mem_append.mp hx with hx | hx
    · exact (h.addComplete x hx hd hc).imp (fun a => mem_classifyStep_toAdd.mpr (Or.inl a))
        (fun a => mem_classifyStep_toAdd.mpr (Or.inl a))
    · rw [List.mem_singleton] at hx
      subst hx
      -- the partner edge was collected at an earlier step, or this step collects the edge
      by_cases h3 : (x.2, x.1) ∈ c.toAdd
      · exact Or.inr (mem_classifyStep_toAdd.mpr (Or.inl h3))
      · exact Or.inl (mem_classifyStep_toAdd.mpr (Or.inr ⟨rfl, hd, hc, h3⟩))

theorem foldl_classify_inv {P : MG} :
    ∀ (l seen : List (Nat × Nat)) (c : Cls), ClsInv P seen c →
      ClsInv P (seen ++ l) (l.foldl (classifyStep P) c)
  | [], seen, c, h => by simpa using h
  | e :: l, seen, c, h => by
    have := foldl_classify_inv l (seen ++ [e]) _ (classifyStep_inv h e)
    simpa [List.append_assoc] using this

theorem classify_inv (P : MG) : ClsInv P P.circ (classify P) := by
  have h0 : ClsInv P [] ({} : Cls) :=
    ⟨fun e => (by simp), fun e he => (by cases he), fun e he => (by cases he)⟩
  simpa [classify] using foldl_classify_inv P.circ [] {} h0

theorem simple_of_dir_nil {T : MG} (h : T.dir = []) : Simple T := by
  intro a b hab
  rw [h] at hab
  cases hab

theorem tempCpdag_WF (c : Cls) : (tempCpdag c).WF := by
  refine ⟨fun e he => (nomatch he), fun e he => (nomatch he), ?_⟩
  intro e he
  obtain ⟨x, hx, rfl⟩ := List.mem_map.mp he
  simp only [tempCpdag, tempNodes, List.mem_eraseDups, List.mem_flatMap]
  exact ⟨⟨x, hx, List.mem_cons_self⟩, ⟨x, hx, List.mem_cons_of_mem _ List.mem_cons_self⟩⟩

theorem hasUn_tempCpdag {c : Cls} {a b : Nat} :
    HasUn (tempCpdag c) a b ↔ ((b, a) ∈ c.toAdd ∨ (a, b) ∈ c.toAdd) := by
  unfold HasUn
  simp only [tempCpdag, List.mem_map, Prod.mk.injEq]
  constructor
  · rintro (⟨x, hx, rfl, rfl⟩ | ⟨x, hx, rfl, rfl⟩)
    · exact Or.inl hx
    · exact Or.inr hx
  · rintro (h | h)
    · exact Or.inl ⟨(b, a), h, rfl, rfl⟩
    · exact Or.inr ⟨(a, b), h, rfl, rfl⟩

theorem mem_pagToMag_dir {P : MG} {inner : List Nat} (hin : inner.Nodup) {a b : Nat} :
    ((a, b) ∈ (pagToMag P inner).dir →
      (a, b) ∈ P.dir ∨ ((a, b) ∈ P.circ ∧ (b, a) ∉ P.dir ∧ (b, a) ∉ P.circ) ∨
      ((a, b) ∈ P.circ ∧ (b, a) ∈ P.circ)) ∧
    ((a, b) ∈ P.dir → (a, b) ∈ (pagToMag P inner).dir) ∧
    ((a, b) ∈ P.circ → (b, a) ∉ P.dir → (b, a) ∉ P.circ → (a, b) ∈ (pagToMag P inner).dir) ∧
    ((a, b) ∈ P.circ → (b, a) ∈ P.circ → (a, b) ∉ P.dir → (b, a) ∉ P.dir →
      (a, b) ∈ (pagToMag P inner).dir ∨ (b, a) ∈ (pagToMag P inner).dir) := by
  have inv := classify_inv P
  let T0 := tempCpdag (classify P)
  obtain ⟨hun, ho⟩ := orientLoop_spec hin T0.un.length T0 (simple_of_dir_nil rfl)
    (fun e he => ((tempCpdag_WF _).2.2 e he).1) (Nat.le_refl _)
  have hdir : ∀ x y, (x, y) ∈ (pagToMag P inner).dir ↔
      ((x, y) ∈ P.dir ∨ (x, y) ∈ (classify P).toReorient) ∨
        (x, y) ∈ (orientLoop inner T0.un.length T0).dir := by
    intro x y
    simp only [pagToMag, copyGraph, List.mem_append]
    rfl
  refine ⟨?_, ?_, ?_, ?_⟩
  · intro h
    rcases (hdir a b).mp h with (h | h) | h
    · exact Or.inl h
    · exact Or.inr (Or.inl ((inv.reorient (a, b)).mp h))
    · rcases ho.dir_from _ h with h' | h'
      · exact absurd h' List.not_mem_nil
      · rcases hasUn_tempCpdag.mp h' with h' | h'
        · have := inv.addSound _ h'
          exact Or.inr (Or.inr ⟨this.2, this.1⟩)
        · have := inv.addSound _ h'
          exact Or.inr (Or.inr ⟨this.1, this.2⟩)
  · intro h; exact (hdir a b).mpr (Or.inl (Or.inl h))
  · intro h1 h2 h3
    exact (hdir a b).mpr (Or.inl (Or.inr ((inv.reorient (a, b)).mpr ⟨h1, h2, h3⟩)))
  · intro h1 h2 h3 h4
    have hadd : HasUn T0 a b := hasUn_tempCpdag.mpr (inv.addComplete (a, b) h1 h4 h2).symm
    have hsk := (ho.skel a b).mpr hadd.skel
    unfold Skel at hsk
    rw [hun] at hsk
    rcases hsk with h | h | h | h
    · exact Or.inl ((hdir a b).mpr (Or.inr h))
    · exact Or.inr ((hdir b a).mpr (Or.inr h))
    · cases h
    · cases h

theorem pagToMag_orients_circ {P : MG} {inner : List Nat} (hin : inner.Nodup) {a b : Nat}
    (c1 : (a, b) ∈ P.circ) : (a, b) ∈ (pagToMag P inner).dir ∨ (b, a) ∈ (pagToMag P inner).dir := by
  obtain ⟨_, k2, k3, k4⟩ := mem_pagToMag_dir (P := P) hin (a := a) (b := b)
  by_cases d2 : (b, a) ∈ P.dir
  · exact Or.inr ((mem_pagToMag_dir hin).2.1 d2)
  · by_cases c2 : (b, a) ∈ P.circ
    · by_cases d1 : (a, b) ∈ P.dir
      · exact Or.inl (k2 d1)
      · exact k4 c1 c2 d1 d2
    · exact Or.inl (k3 c1 d2 c2)

/-- **C09, structural clauses** – for *every* mixed graph `P` read as a PAG instance and every
    iteration order: same nodes, same adjacencies, every arrowhead and every tail kept, no circle
    left.  (The input is unchanged because the model is a pure function.) -/
theorem pagToMag_structural (P : MG) (inner : List Nat) (hin : inner.Nodup) :
    Structural P (pagToMag P inner) := by
  -- the result keeps the `bi` and `un` layers of `P` and has no `circ` layer (all by `rfl`)
  have key := fun a b => mem_pagToMag_dir (P := P) hin (a := a) (b := b)
  have hci : ∀ {e}, e ∉ (pagToMag P inner).circ := List.not_mem_nil
  refine ⟨rfl, fun a b => ?_, fun a b h => ?_, fun a b h => ?_, fun a b h => hci (markAt_circle_iff.mp h)⟩
  · rw [Option.isSome_iff_ne_none, Option.isSome_iff_ne_none]
    constructor
    · -- a stored edge of the result is a stored edge of `P`
      refine markAt_ne_none_of_layers fun a b h => Or.inl ?_
      rw [mem_layers] at h ⊢
      rcases h with h | h | h | h
      · rcases (key a b).1 h with d | ⟨d, _⟩ | ⟨d, _⟩
        · exact Or.inl d
        · exact Or.inr (Or.inr (Or.inr d))
        · exact Or.inr (Or.inr (Or.inr d))
      · exact Or.inr (Or.inl h)
      · exact Or.inr (Or.inr (Or.inl h))
      · exact absurd h hci
    · -- a stored edge of `P` is kept, a circle edge possibly turned round
      refine markAt_ne_none_of_layers fun a b h => ?_
      rw [mem_layers, mem_layers]
      rcases mem_layers.mp h with h | h | h | h
      · exact Or.inl (Or.inl ((key a b).2.1 h))
      · exact Or.inl (Or.inr (Or.inl h))
      · exact Or.inl (Or.inr (Or.inr (Or.inl h)))
      · exact (pagToMag_orients_circ hin h).imp Or.inl Or.inl
  · obtain ⟨_, hh⟩ := markAt_head_iff.mp h
    exact markAt_head_iff.mpr ⟨hci, hh.imp_left (key a b).2.1⟩
  · obtain ⟨c1, hh, ht⟩ := markAt_tail_iff.mp h
    refine markAt_tail_iff.mpr ⟨hci, ?_, ?_⟩
    · rintro (x | x)
      · rcases (key a b).1 x with d | ⟨d, _⟩ | ⟨d, _⟩
        · exact hh (Or.inl d)
        · exact c1 d
        · exact c1 d
      · exact hh (Or.inr x)
    · rcases ht with x | x | x | x
      · exact Or.inl ((key b a).2.1 x)
      · exact Or.inr (Or.inl x)
      · exact Or.inr (Or.inr (Or.inl x))
      · exact Or.inl ((key b a).2.2.1 x (fun d => hh (Or.inl d)) c1)

end C09
