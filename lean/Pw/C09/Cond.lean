import Pw.C09.Struct
import Pw.C08.Complete
open Closure

/-! # C09, conditional part: given Meek's theorem (`C08.MeekT3`) and some orientation of the circle
component without unshielded colliders to start from (Zhang 2008: the circle component of a PAG is
chordal), the loop "orient the first undirected edge, close under the Meek rules" ends in a DAG
orientation of the circle component that has no unshielded collider – the premise of Zhang's
Theorem 2.  `T3.meekT3` proves `C08.MeekT3`; `T3.c09_orientLoop_dag` and `T3.c09_circle_component` are
the two theorems of this file without that hypothesis. -/
namespace C09
open MG C08

structure LoopInv (inner : List Nat) (T : MG) : Prop where
  simple : Simple T
  wf : T.WF
  cov : ∀ v ∈ T.nodes, v ∈ inner
  closed : MeekClosed T
  ext : ∃ D, ConsistentExt T D ∧ ∀ a c b, ¬ VStruct D a c b

theorem meekClosed_of_dir_nil {T : MG} (h : T.dir = []) : MeekClosed T := by
  intro i j _
  refine ⟨?_, ?_, ?_, ?_⟩
  · rintro ⟨k, hk, _⟩; rw [h] at hk; cases hk
  · rintro ⟨k, hk, _⟩; rw [h] at hk; cases hk
  · rintro ⟨k, l, _, _, _, hk, _⟩; rw [h] at hk; cases hk
  · rintro ⟨k, l, _, _, hk, _⟩; rw [h] at hk; cases hk

theorem loopInv_step (hT3 : MeekT3) {inner : List Nat} (hin : inner.Nodup) {T : MG} {u v : Nat}
    (hI : LoopInv inner T) (hu : HasUn T u v) : LoopInv inner (meek (orient T u v) inner) := by
  obtain ⟨D0, hD0, hno0⟩ := hI.ext
  -- Meek's theorem: the undirected edge is not compelled as v -> u, so some extension has u -> v
  have hnc : ¬ Compelled T v u :=
    hT3 T T hI.simple ⟨D0, hD0⟩ rfl (fun _ _ => Iff.rfl) hI.simple (fun _ h => h)
      (fun e he => Or.inl he) hI.closed v u hu.symm
  obtain ⟨D, hD, huv⟩ : ∃ D, ConsistentExt T D ∧ (u, v) ∈ D.dir :=
    Classical.byContradiction fun h => hnc fun D hD =>
      (ext_dir_of_skel hD hu.skel).resolve_left fun h' => h ⟨D, hD, h'⟩
  have hDo : ConsistentExt (orient T u v) D := ext_orient hD hu huv
  have s1 : Simple (orient T u v) := simple_orient hI.simple
  have st := meek_steps (inner := inner) s1 hin
  have hDm := st.ext hDo
  -- all extensions of `T` have the unshielded colliders of `T`
  have hnoV : ∀ a c b, ¬ VStruct D a c b := fun a c b hv =>
    hno0 a c b ((hD0.vstruct a c b).mpr ((hD.vstruct a c b).mp hv))
  have wf' := st.wf (wf_orient hI.wf hu)
  have cov' : ∀ x ∈ (meek (orient T u v) inner).nodes, x ∈ inner := by
    intro x hx; rw [st.nodes] at hx; exact hI.cov x hx
  exact ⟨st.simple s1, wf', cov',
    closed_of_pass_false wf' cov' (acyclic_of_ext hDm) (irrefl_of_ext hDm)
      (by rw [meek_fixpoint s1 hin]),
    ⟨D, hDm, hnoV⟩⟩

theorem orientLoop_inv (hT3 : MeekT3) {inner : List Nat} (hin : inner.Nodup) :
    ∀ (f : Nat) (T : MG), LoopInv inner T → LoopInv inner (orientLoop inner f T)
  | 0, T, h => by unfold orientLoop; exact h
  | f + 1, T, h => by
    unfold orientLoop
    cases hf : firstUn T with
    | none => exact h
    | some p =>
      obtain ⟨u, v⟩ := p
      exact orientLoop_inv hT3 hin f _ (loopInv_step hT3 hin h (firstUn_some hf))

/-- **C09, circle component (conditional on `MeekT3`).** If the undirected graph `T0` (the `o-o`
    component) admits *some* DAG orientation without unshielded colliders, then the loop of
    `pag_to_mag` returns one: no undirected edge left, same skeleton, acyclic, no unshielded collider. -/
theorem orientLoop_dag_of_T3 (hT3 : MeekT3) (inner : List Nat) (hin : inner.Nodup) (T0 : MG)
    (hwf : T0.WF) (hcov : ∀ v ∈ T0.nodes, v ∈ inner) (hdir : T0.dir = [])
    (hext : ∃ D, ConsistentExt T0 D) :
    (orientLoop inner T0.un.length T0).un = [] ∧
    (∀ a b, Skel (orientLoop inner T0.un.length T0) a b ↔ Skel T0 a b) ∧
    Acyclic (orientLoop inner T0.un.length T0) ∧
    ∀ a c b, ¬ VStruct (orientLoop inner T0.un.length T0) a c b := by
  have hs : Simple T0 := simple_of_dir_nil hdir
  obtain ⟨D, hD⟩ := hext
  have hnoV : ∀ a c b, ¬ VStruct D a c b := by
    intro a c b hv
    have := ((hD.vstruct a c b).mp hv).1
    rw [hdir] at this; cases this
  have hI : LoopInv inner T0 := ⟨hs, hwf, hcov, meekClosed_of_dir_nil hdir, ⟨D, hD, hnoV⟩⟩
  have hfin := orientLoop_inv hT3 hin T0.un.length T0 hI
  obtain ⟨hun, ho⟩ := orientLoop_spec hin T0.un.length T0 hs (fun e he => (hwf.2.2 e he).1) (Nat.le_refl _)
  obtain ⟨D', hD', hno'⟩ := hfin.ext
  exact ⟨hun, ho.skel, acyclic_of_ext hD', fun a c b hv => hno' a c b ((hD'.vstruct a c b).mpr hv)⟩

/-- the same for the temporary CPDAG built by `pag_to_mag` from the `o-o` edges of `P` -/
theorem pagToMag_circle_component_of_T3 (hT3 : MeekT3) (P : MG) (inner : List Nat) (hin : inner.Nodup)
    (hcov : ∀ v ∈ (tempCpdag (classify P)).nodes, v ∈ inner)
    (hchordal : ∃ D, ConsistentExt (tempCpdag (classify P)) D) :
    let T0 := tempCpdag (classify P)
    let T := orientLoop inner T0.un.length T0
    T.un = [] ∧ (∀ a b, Skel T a b ↔ Skel T0 a b) ∧ Acyclic T ∧ ∀ a c b, ¬ VStruct T a c b :=
  orientLoop_dag_of_T3 hT3 inner hin _ (tempCpdag_WF _) hcov rfl hchordal

end C09
