import Pw.C09.ValidOk
import Pw.C08.Examples
open Closure

/-! # C09 validator: non-vacuity examples (the collider `0 -> 2 <- 1` and its PAG `0 o-> 2 <-o 1`) -/
namespace C09
open MG

def exM : MG := { nodes := [0, 1, 2], dir := [(0, 2), (1, 2)] }
def exP : MG := { nodes := [0, 1, 2], dir := [(0, 2), (1, 2)], circ := [(2, 0), (2, 1)] }

theorem exM_sep : MSep exM [0] [1] [] := by
  intro x hx y hy ⟨hs, hv, hend, _, ho⟩
  rw [List.mem_singleton] at hx hy
  subst hx; subst hy
  match hs, hv, hend, ho with
  | [], _, hend, _ => simp [endNode] at hend
  | [h1], hv, hend, _ =>
    obtain ⟨mp, mn, nx⟩ := h1
    simp [ValidW, HasEdge, exM] at hv
    simp [endNode] at hend
    omega
  | h1 :: h2 :: t, hv, _, ho =>
    obtain ⟨mp1, mn1, nx1⟩ := h1
    obtain ⟨mp2, mn2, nx2⟩ := h2
    simp only [ValidW, HasEdge, exM, List.mem_cons, Prod.mk.injEq, List.not_mem_nil, or_false] at hv
    simp only [OpenS, condS, ColliderOpen, List.not_mem_nil, false_and, exists_false] at ho
    obtain ⟨e1, e2, _⟩ := hv
    rcases e1 with ⟨rfl, rfl, e1⟩ | ⟨rfl, rfl, e1⟩ | ⟨_, _, e1⟩ | ⟨_, _, e1⟩
    · have : nx1 = 2 := by omega
      subst this
      rcases e2 with ⟨_, _, e2⟩ | ⟨rfl, rfl, _⟩ | ⟨_, _, e2⟩ | ⟨_, _, e2⟩
      · omega
      · simp at ho
      · exact e2.elim
      · exact e2.elim
    · omega
    · exact e1.elim
    · exact e1.elim

/-- the hypotheses of `pagOf_isPagOf` / `c09pag_spec` are satisfiable: the collider is a well-formed MAG -/
theorem exM_isMAG : exM.WF ∧ IsMAG exM := by
  refine ⟨(wf4B_iff.mp (by decide) : WF4 exM).wf, rfl, rfl,
    ⟨C08.acyclic_of_rank id (by decide), fun a b h => by simp [exM] at h⟩, ?_⟩
  -- the only non-adjacent pair is `0`, `1`
  have hpairs : ∀ x ∈ exM.nodes, ∀ y ∈ exM.nodes, x ≠ y → markAt exM x y = none →
      (x = 0 ∧ y = 1) ∨ (x = 1 ∧ y = 0) := by decide
  intro x y hx hy hxy hn
  rcases hpairs x hx y hy hxy hn with ⟨rfl, rfl⟩ | ⟨rfl, rfl⟩
  · exact ⟨[], by simp, exM_sep⟩
  · exact ⟨[], by simp, exM_sep.symm⟩

example : IsPagOf exM (pagOf exM) := pagOf_isPagOf exM_isMAG.1 exM_isMAG.2

/-- the right-hand side of `c09valid_ok_iff` is satisfiable by a non-trivial request: the PAG
    `0 o-> 2 <-o 1` (two circles), source MAG and returned graph the collider -/
example : (WF4 exP ∧ SourceOK exM) ∧ ClassClauses exP exM exM :=
  -- the clauses without a path statement are read off the validator; the others are `exM_isMAG`
  ⟨⟨wf4B_iff.mp (by decide), srcOkB_iff.mp (by decide)⟩,
    (structuralFails_nil_iff _ _).mp (by decide), exM_isMAG.2.ancestral,
    (noNewUCB_iff exM_isMAG.1).mp (by decide), rfl, exM_isMAG.2.maximal, fun _ => Iff.rfl,
    MarkovEquiv.refl _⟩

end C09
