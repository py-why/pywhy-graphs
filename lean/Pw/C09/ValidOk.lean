import Pw.C09.PagOracle
import Pw.C09.Driver
open Closure Proto

/-! # C09: the verdict of the run-time validator is the declarative statement

`c09valid_ok_iff`: the driver command `c09valid` answers `ok` **iff** the request is well-formed
(`WF4` PAG, `SourceOK` source graph) and the class clauses `ClassClauses P M0 M` of the property hold
for the graph `M` returned by the implementation – no hypothesis on `M` at all.
`c09struct_ok_iff`, `c09valid_first_ok_iff`: the same for the structural command and for `c09valid`
without a source MAG.  `c09pag_spec`: what the PAG oracle command answers. -/
namespace C09
open MG

theorem fmtFails_ok_iff (l : List String) : fmtFails l = "ok" ↔ l = [] := by
  unfold fmtFails
  cases l with
  | nil => simp
  | cons x t =>
    simp only [List.isEmpty_cons, Bool.false_eq_true, if_false, reduceCtorEq, iff_false]
    intro h
    -- the two strings differ in the first character
    have := congrArg String.toList h
    rw [String.toList_append] at this
    simp at this

theorem wf4B_iff {G : MG} : wf4B G = true ↔ WF4 G := by
  unfold wf4B WF4
  simp only [List.all_eq_true, Bool.and_eq_true, decide_eq_true_eq]

theorem srcOkB_iff {M0 : MG} : srcOkB M0 = true ↔ SourceOK M0 := by
  unfold srcOkB
  simp only [Bool.and_eq_true, wf4B_iff, List.isEmpty_iff, List.all_eq_true, bne_iff_ne]
  constructor
  · rintro ⟨⟨⟨h1, h2⟩, h3⟩, h4⟩; exact ⟨h1, h2, h3, h4⟩
  · intro h; exact ⟨⟨⟨h.wf, h.noUn⟩, h.noCirc⟩, h.noLoop⟩

theorem inputFails_nil_iff {P : MG} {S : Option MG} :
    inputFails P S = [] ↔ WF4 P ∧ (∀ M0, S = some M0 → SourceOK M0) := by
  unfold inputFails
  rw [ite_nil_iff, Bool.and_eq_true, wf4B_iff]
  cases S with
  | none => simp
  | some M0 => simp [srcOkB_iff]

theorem WF4.wf {G : MG} (h : WF4 G) : G.WF :=
  ⟨fun e he => h e (mem_layers.mpr (Or.inl he)), fun e he => h e (mem_layers.mpr (Or.inr (Or.inl he))),
   fun e he => h e (mem_layers.mpr (Or.inr (Or.inr (Or.inl he))))⟩

theorem SourceOK.noSelfLoop {M0 : MG} (h : SourceOK M0) : NoSelfLoop M0 :=
  noSelfLoop_of_irrefl h.noUn fun _ =>
    ⟨fun he => h.noLoop _ (List.mem_append_left _ he) rfl,
     fun he => h.noLoop _ (List.mem_append_right _ he) rfl⟩

theorem WF4.mem_nodes {G : MG} (h : WF4 G) {a b : Nat} (hab : markAt G a b ≠ none) :
    a ∈ G.nodes ∧ b ∈ G.nodes :=
  (markAt_ne_none_iff.mp hab).elim (h (a, b)) fun hba => (h (b, a) hba).symm

/-- hence the validator needs no assumption on the implementation's output -/
theorem StructuralS.wf {P M : MG} (hP : WF4 P) (h : StructuralS P M) : M.WF := by
  have key : ∀ e ∈ M.dir ++ M.bi ++ M.un ++ M.circ, e.1 ∈ M.nodes ∧ e.2 ∈ M.nodes := by
    intro e he
    have : markAt P e.1 e.2 ≠ none := Option.isSome_iff_ne_none.mp ((h.adj e.1 e.2).mp
      (Option.isSome_iff_ne_none.mpr (markAt_ne_none_iff.mpr (Or.inl he))))
    exact ⟨(h.nodes _).mpr (hP.mem_nodes this).1, (h.nodes _).mpr (hP.mem_nodes this).2⟩
  exact WF4.wf key

theorem firstFails_nil_iff {P M : MG} (hP : WF4 P) : firstFails P M = [] ↔ FirstClauses P M := by
  unfold firstFails
  simp only [List.append_eq_nil_iff, ite_nil_iff, structuralFails_nil_iff]
  constructor
  · rintro ⟨⟨⟨hs, _⟩, ha⟩, hu⟩
    have hwf := hs.wf hP
    exact ⟨hs, (ancestralB_iff hwf).mp ha, (noNewUCB_iff hwf).mp hu⟩
  · intro h
    have hwf := h.structural.wf hP
    exact ⟨⟨⟨h.structural, (acyclicB_iff hwf).mpr h.ancestral.1⟩,
      (ancestralB_iff hwf).mpr h.ancestral⟩, (noNewUCB_iff hwf).mpr h.noNewUC⟩

theorem secondFails_nil_iff {M0 M : MG} (h0 : SourceOK M0) (hwf : M.WF) :
    secondFails M0 M = [] ↔
      (Ancestral M ∧ M.un = [] ∧ Maximal M ∧ SameNodes M0.nodes M.nodes ∧ MarkovEquiv M0 M) := by
  unfold secondFails
  simp only [List.append_eq_nil_iff, ite_nil_iff, Bool.and_eq_true, List.isEmpty_iff,
    ancestralB_iff hwf, sameNodes_iff]
  rw [and_assoc, and_assoc]
  refine and_congr_right fun ha => and_congr_right fun hu => ?_
  have hsl := noSelfLoop_of_ancestral ha hu
  rw [maximalB_iff hwf hu hsl]
  exact and_congr_right fun _ => and_congr_right fun hn =>
    sameSepB_iff h0.wf.wf h0.noUn h0.noSelfLoop hwf hu hsl hn

theorem validFails_nil_iff (P M0 M : MG) :
    validFails P M (some M0) = [] ↔ (WF4 P ∧ SourceOK M0) ∧ ClassClauses P M0 M := by
  unfold validFails
  simp only [List.append_eq_nil_iff, inputFails_nil_iff, Option.some.injEq, forall_eq']
  rw [and_assoc, classClauses_iff_firstClauses]
  refine and_congr_right fun ⟨hP, h0⟩ => ?_
  rw [firstFails_nil_iff hP]
  exact and_congr_right fun f => secondFails_nil_iff h0 (f.structural.wf hP)

theorem validFails_none_nil_iff (P M : MG) :
    validFails P M none = [] ↔ WF4 P ∧ FirstClauses P M := by
  unfold validFails
  simp only [List.append_eq_nil_iff, inputFails_nil_iff, reduceCtorEq, false_implies,
    implies_true, and_true]
  exact and_congr_right fun hP => firstFails_nil_iff hP

/-- **C09, run-time validator.** `c09valid … sN=…` answers `ok` iff the request is well-formed and every
    class clause of the property holds for the returned graph. -/
theorem c09valid_ok_iff (a : Args) (hs : a.has "sN" = true) :
    hValid a = "ok" ↔
      (WF4 a.graph ∧ SourceOK (graphP a "s")) ∧ ClassClauses a.graph (graphP a "s") (graphP a "m") := by
  unfold hValid
  rw [fmtFails_ok_iff, hs, if_pos rfl, validFails_nil_iff]

/-- `c09valid` without a source MAG: the first sentence of the property -/
theorem c09valid_first_ok_iff (a : Args) (hs : a.has "sN" = false) :
    hValid a = "ok" ↔ WF4 a.graph ∧ FirstClauses a.graph (graphP a "m") := by
  unfold hValid
  rw [fmtFails_ok_iff, hs, if_neg (by simp), validFails_none_nil_iff]

/-- `c09struct` answers `ok` iff the structural clauses hold – for every request -/
theorem c09struct_ok_iff (a : Args) : hStruct a = "ok" ↔ StructuralS a.graph (graphP a "m") := by
  unfold hStruct
  rw [fmtFails_ok_iff, structuralFails_nil_iff]

/-- `c09pag` answers `notmag` exactly on the graphs that are not MAGs, and otherwise prints (after the
    size of the class) the graph `pagOf M`, which is the PAG of `M` from the definition -/
theorem c09pag_spec (a : Args) (hwf : a.graph.WF) :
    (hPag a = "notmag" ↔ ¬ IsMAG a.graph) ∧
    (IsMAG a.graph →
      hPag a = "cls=" ++ toString (equivClass a.graph).length ++ " " ++ fmtGraph (pagOf a.graph) ∧
      IsPagOf a.graph (pagOf a.graph)) := by
  unfold hPag
  cases hm : isMagB a.graph
  · have hn : ¬ IsMAG a.graph := fun h => by rw [← isMagB_iff hwf, hm] at h; cases h
    simp only [hm, Bool.not_false, if_true, true_iff]
    exact ⟨hn, fun h => absurd h hn⟩
  · have h := (isMagB_iff hwf).mp hm
    simp only [hm, Bool.not_true, Bool.false_eq_true, if_false]
    refine ⟨⟨fun heq => ?_, fun hn => absurd h hn⟩, fun _ => ⟨trivial, pagOf_isPagOf hwf h⟩⟩
    -- the two strings differ in the first character
    have := congrArg String.toList heq
    rw [String.append_assoc, String.append_assoc, String.toList_append] at this
    simp at this

end C09
