import Pw.C09.Spec
open Closure

/-! # Which stored edges produce which mark of `markAt` -/
namespace C09
open MG

theorem ite_eq_iff {α : Type} {c : Prop} [Decidable c] {x y z : α} :
    (if c then x else y) = z ↔ (c ∧ x = z) ∨ (¬ c ∧ y = z) := by
  by_cases h : c <;> simp [h]

variable {G : MG} {a b : Nat}

theorem markAt_circle_iff : markAt G a b = some .circle ↔ (a, b) ∈ G.circ := by
  simp only [markAt, ite_eq_iff, Option.some.injEq, reduceCtorEq, and_false, or_false, and_true]

theorem markAt_head_iff : markAt G a b = some .head ↔
    (a, b) ∉ G.circ ∧ ((a, b) ∈ G.dir ∨ (a, b) ∈ G.bi ∨ (b, a) ∈ G.bi) := by
  simp only [markAt, ite_eq_iff, Option.some.injEq, reduceCtorEq, and_false, or_false, false_or,
    and_true]

theorem markAt_tail_iff : markAt G a b = some .tail ↔
    (a, b) ∉ G.circ ∧ ¬ ((a, b) ∈ G.dir ∨ (a, b) ∈ G.bi ∨ (b, a) ∈ G.bi) ∧
      ((b, a) ∈ G.dir ∨ (a, b) ∈ G.un ∨ (b, a) ∈ G.un ∨ (b, a) ∈ G.circ) := by
  simp only [markAt, ite_eq_iff, Option.some.injEq, reduceCtorEq, and_false, or_false, false_or,
    and_true]

theorem markAt_none_iff : markAt G a b = none ↔
    (a, b) ∉ G.circ ∧ (a, b) ∉ G.dir ∧ (a, b) ∉ G.bi ∧ (b, a) ∉ G.bi ∧
      (b, a) ∉ G.dir ∧ (a, b) ∉ G.un ∧ (b, a) ∉ G.un ∧ (b, a) ∉ G.circ := by
  simp only [markAt, ite_eq_iff, reduceCtorEq, and_false, false_or, and_true, not_or, and_assoc]

theorem markAt_none_symm (h : markAt G a b = none) : markAt G b a = none := by
  rw [markAt_none_iff] at h ⊢
  obtain ⟨h1, h2, h3, h4, h5, h6, h7, h8⟩ := h
  exact ⟨h8, h5, h4, h3, h2, h7, h6, h1⟩

theorem markAt_ne_none_symm (h : markAt G a b ≠ none) : markAt G b a ≠ none :=
  fun hn => h (markAt_none_symm hn)

theorem mem_layers {e : Nat × Nat} :
    e ∈ G.dir ++ G.bi ++ G.un ++ G.circ ↔ e ∈ G.dir ∨ e ∈ G.bi ∨ e ∈ G.un ∨ e ∈ G.circ := by
  simp only [List.mem_append, or_assoc]

theorem markAt_ne_none_iff : markAt G a b ≠ none ↔
    (a, b) ∈ G.dir ++ G.bi ++ G.un ++ G.circ ∨ (b, a) ∈ G.dir ++ G.bi ++ G.un ++ G.circ := by
  -- both sides deny the same eight memberships
  have h : markAt G a b = none ↔
      ¬ ((a, b) ∈ G.dir ++ G.bi ++ G.un ++ G.circ ∨ (b, a) ∈ G.dir ++ G.bi ++ G.un ++ G.circ) := by
    rw [markAt_none_iff, mem_layers, mem_layers]
    simp only [not_or]
    constructor
    · rintro ⟨h1, h2, h3, h4, h5, h6, h7, h8⟩
      exact ⟨⟨h2, h3, h6, h1⟩, h5, h4, h7, h8⟩
    · rintro ⟨⟨h2, h3, h6, h1⟩, h5, h4, h7, h8⟩
      exact ⟨h1, h2, h3, h4, h5, h6, h7, h8⟩
  exact (not_congr h).trans Classical.not_not

/-- adjacency is kept when every stored edge of `G` is a stored edge of `H`, in one direction or the other -/
theorem markAt_ne_none_of_layers {H : MG}
    (h : ∀ a b, (a, b) ∈ G.dir ++ G.bi ++ G.un ++ G.circ →
      (a, b) ∈ H.dir ++ H.bi ++ H.un ++ H.circ ∨ (b, a) ∈ H.dir ++ H.bi ++ H.un ++ H.circ)
    (hab : markAt G a b ≠ none) : markAt H a b ≠ none :=
  markAt_ne_none_iff.mpr ((markAt_ne_none_iff.mp hab).elim (h a b) fun hba => (h b a hba).symm)

end C09
