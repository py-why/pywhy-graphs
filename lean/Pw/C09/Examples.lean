import Pw.C09.Cond
import Pw.C08.Examples
open Closure

/-! # C09: non-vacuity examples and a kernel-evaluated instance (test) -/
namespace C09
open MG C08

/-- `0 o-> 1 o-o 2`, isolated node `3`, `2 <-> 4` -/
def exPag : MG :=
  { nodes := [0, 1, 2, 3, 4], dir := [(0, 1)], circ := [(1, 0), (1, 2), (2, 1)], bi := [(2, 4)] }

/-- test (kernel evaluation of the model): circles gone, `<->` and the isolated node kept -/
theorem exPag_result : pagToMag exPag [0, 1, 2, 3, 4] =
    { nodes := [0, 1, 2, 3, 4], dir := [(0, 1), (2, 1)], bi := [(2, 4)], un := [], circ := [] } := by
  decide +kernel

/-- instance of `pagToMag_structural` on a PAG with every kind of clause exercised -/
example : Structural exPag (pagToMag exPag [0, 1, 2, 3, 4]) :=
  pagToMag_structural exPag _ (by decide)

/-- the circle mark at `0` of `0 o-> 1` became a tail, the arrowhead at `1` is kept (read off the result) -/
example : markAt exPag 1 0 = some .circle ∧ markAt (pagToMag exPag [0, 1, 2, 3, 4]) 1 0 = some .tail ∧
    markAt exPag 0 1 = some .head ∧ markAt (pagToMag exPag [0, 1, 2, 3, 4]) 0 1 = some .head := by
  rw [exPag_result]; decide

/-- non-vacuity of the hypotheses of `pagToMag_circle_component_of_T3` (other than Meek's theorem
    itself, which is `T3.meekT3`): the `o-o` component of `exPag` has an orientation without unshielded colliders -/
example : [0, 1, 2, 3, 4].Nodup ∧ (∀ v ∈ (tempCpdag (classify exPag)).nodes, v ∈ [0, 1, 2, 3, 4]) ∧
    ∃ D, ConsistentExt (tempCpdag (classify exPag)) D := by
  have hT : tempCpdag (classify exPag) = { nodes := [2, 1], un := [(2, 1)] } := by decide
  rw [hT]
  refine ⟨by decide, by decide, ⟨{ nodes := [2, 1], dir := [(1, 2)] }, ?_⟩⟩
  exact {
    nodes := rfl
    noUn := rfl
    acyclic := acyclic_of_rank id (by decide)
    skel := fun a b => by
      simp only [Skel, List.mem_singleton, List.not_mem_nil, Prod.mk.injEq, false_or, or_false]
      exact ⟨fun h => h.symm.imp And.symm And.symm, fun h => h.symm.imp And.symm And.symm⟩
    dir := fun e he => nomatch he
    -- a single directed edge makes no collider
    vstruct := fun a c b =>
      ⟨fun ⟨h1, h2, hne, _⟩ => absurd ((Prod.mk.inj (List.mem_singleton.mp h1)).1.trans
        (Prod.mk.inj (List.mem_singleton.mp h2)).1.symm) hne,
       fun ⟨h, _⟩ => nomatch h⟩ }

end C09
