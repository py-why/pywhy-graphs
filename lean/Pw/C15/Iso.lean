import Pw.C01.Symm
open Closure

/-! # C15 for m-separation: independence of node names and of insertion order

`Iso σ τ G G'`: `σ` renames the nodes of `G` into those of `G'` (`τ` is a left inverse of `σ`).
With `σ = id` and `G'` any re-ordering / re-orientation of the same edge *sets* this is independence of
insertion order; with `G' = G.map σ` for an injective `σ` it is independence of node names. -/
namespace MG

theorem mem_map_leftInv {α β : Type} {f : α → β} {g : β → α} (hl : ∀ a, g (f a) = a) {l : List α}
    {a : α} : f a ∈ l.map f ↔ a ∈ l := by
  rw [List.mem_map]
  constructor
  · rintro ⟨c, hc, hca⟩
    have := congrArg g hca
    rw [hl, hl] at this
    exact this ▸ hc
  · intro h; exact ⟨a, h, rfl⟩

structure Iso (σ τ : Nat → Nat) (G G' : MG) : Prop where
  left : ∀ v, τ (σ v) = v
  nodes : ∀ v, v ∈ G.nodes ↔ σ v ∈ G'.nodes
  edge : ∀ a b ma mb, HasEdge G a b ma mb ↔ HasEdge G' (σ a) (σ b) ma mb
  img : ∀ a b ma mb, HasEdge G' a b ma mb → σ (τ a) = a ∧ σ (τ b) = b

namespace Iso
variable {σ τ : Nat → Nat} {G G' : MG}

theorem inj (h : Iso σ τ G G') {a b : Nat} (hab : σ a = σ b) : a = b := by
  have := congrArg τ hab
  rwa [h.left, h.left] at this

theorem anc_fwd (h : Iso σ τ G G') {a c : Nat} (ha : Anc G a c) : Anc G' (σ a) (σ c) := by
  induction ha with
  | refl => exact Anc.refl _
  | step e _ ih => exact Anc.step (hasEdge_dir.mpr ((h.edge _ _ _ _).mp (hasEdge_dir.mp e))) ih

theorem anc_bwd (h : Iso σ τ G G') {a' c' : Nat} (ha : Anc G' a' c') :
    σ (τ a') = a' → Anc G (τ a') (τ c') ∧ σ (τ c') = c' := by
  induction ha with
  | refl => intro h1; exact ⟨Anc.refl _, h1⟩
  | @step x y z e _ ih =>
    intro h1
    have he := hasEdge_dir.mp e
    obtain ⟨_, h2⟩ := h.img _ _ _ _ he
    obtain ⟨h3, h4⟩ := ih h2
    have : HasEdge G (τ x) (τ y) .tail .head := by
      rw [h.edge, h1, h2]; exact he
    exact ⟨Anc.step (hasEdge_dir.mpr this) h3, h4⟩

theorem anc_iff (h : Iso σ τ G G') {a c : Nat} : Anc G a c ↔ Anc G' (σ a) (σ c) := by
  constructor
  · exact h.anc_fwd
  · intro ha
    have := h.anc_bwd ha (by rw [h.left])
    rw [h.left, h.left] at this
    exact this.1

theorem mem_map_iff (h : Iso σ τ G G') {Z : List Nat} {v : Nat} : σ v ∈ Z.map σ ↔ v ∈ Z :=
  mem_map_leftInv h.left

theorem colliderOpen_iff (h : Iso σ τ G G') {Z : List Nat} {v : Nat} :
    ColliderOpen G Z v ↔ ColliderOpen G' (Z.map σ) (σ v) := by
  unfold ColliderOpen
  constructor
  · rintro ⟨z, hz, ha⟩; exact ⟨σ z, List.mem_map.mpr ⟨z, hz, rfl⟩, h.anc_fwd ha⟩
  · rintro ⟨z', hz', ha⟩
    obtain ⟨z, hz, rfl⟩ := List.mem_map.mp hz'
    exact ⟨z, hz, h.anc_iff.mpr ha⟩

theorem condS_iff (h : Iso σ τ G G') {Z : List Nat} {mi mo : Mark} {v : Nat} :
    condS G Z mi mo v ↔ condS G' (Z.map σ) mi mo (σ v) := by
  unfold condS
  split
  · exact h.colliderOpen_iff
  · rw [h.mem_map_iff]

def mapHops (f : Nat → Nat) (hs : List Hop) : List Hop := hs.map fun h => ⟨h.mp, h.mn, f h.nx⟩

theorem validW_fwd (h : Iso σ τ G G') : ∀ (hs : List Hop) (a : Nat),
    ValidW G a hs → ValidW G' (σ a) (mapHops σ hs) := by
  intro hs
  induction hs with
  | nil => exact fun _ _ => trivial
  | cons x t ih => exact fun a hv => ⟨(h.edge _ _ _ _).mp hv.1, ih x.nx hv.2⟩

theorem validW_preimage (h : Iso σ τ G G') : ∀ (hs' : List Hop) (a : Nat),
    ValidW G' (σ a) hs' → ∃ hs, mapHops σ hs = hs' ∧ ValidW G a hs := by
  intro hs'
  induction hs' with
  | nil => exact fun _ _ => ⟨[], rfl, trivial⟩
  | cons x t ih =>
    intro a hv
    obtain ⟨hv1, hvt⟩ := hv
    obtain ⟨_, h2⟩ := h.img _ _ _ _ hv1
    rw [← h2] at hv1 hvt
    obtain ⟨hs, rfl, hv2⟩ := ih (τ x.nx) hvt
    refine ⟨⟨x.mp, x.mn, τ x.nx⟩ :: hs, ?_, (h.edge _ _ _ _).mpr hv1, hv2⟩
    show (⟨x.mp, x.mn, σ (τ x.nx)⟩ : Hop) :: _ = _
    rw [h2]; rfl

theorem endNode_map (f : Nat → Nat) : ∀ (hs : List Hop) (a : Nat),
    endNode (f a) (mapHops f hs) = f (endNode a hs) := by
  intro hs
  induction hs with
  | nil => exact fun _ => rfl
  | cons x t ih => exact fun _ => ih x.nx

theorem nodesOf_map (f : Nat → Nat) (hs : List Hop) (a : Nat) :
    nodesOf (f a) (mapHops f hs) = (nodesOf a hs).map f := by
  simp [nodesOf, mapHops, List.map_map, Function.comp_def]

theorem openS_iff (h : Iso σ τ G G') {Z : List Nat} : ∀ (hs : List Hop) (e : Option Mark) (a : Nat),
    OpenS G Z e a hs ↔ OpenS G' (Z.map σ) e (σ a) (mapHops σ hs) := by
  intro hs
  induction hs with
  | nil => intro e a; cases e <;> exact Iff.rfl
  | cons x t ih =>
    intro e a
    cases e with
    | none => exact ih _ _
    | some m => exact and_congr h.condS_iff (ih _ _)

theorem nodup_map_inj (h : Iso σ τ G G') {l : List Nat} : (l.map σ).Nodup ↔ l.Nodup := by
  induction l with
  | nil => exact Iff.rfl
  | cons a t ih => rw [List.map_cons, List.nodup_cons, List.nodup_cons, ih, h.mem_map_iff]

theorem mConnPath_iff (h : Iso σ τ G G') {Z : List Nat} {x y : Nat} :
    MConnPath G Z x y ↔ MConnPath G' (Z.map σ) (σ x) (σ y) := by
  constructor
  · rintro ⟨hs, hv, hend, hn, ho⟩
    refine ⟨mapHops σ hs, h.validW_fwd hs x hv, ?_, ?_, (h.openS_iff hs none x).mp ho⟩
    · rw [endNode_map, hend]
    · rw [nodesOf_map]; exact h.nodup_map_inj.mpr hn
  · rintro ⟨hs', hv, hend, hn, ho⟩
    obtain ⟨hs, rfl, hv2⟩ := h.validW_preimage hs' x hv
    rw [endNode_map] at hend
    rw [nodesOf_map, h.nodup_map_inj] at hn
    exact ⟨hs, hv2, h.inj hend, hn, (h.openS_iff hs none x).mpr ho⟩

/-- **C15 / C01 (spec level).** m-separation is invariant under renaming of nodes and does not
    depend on the order in which nodes and edges are stored. -/
theorem mSep_iff (h : Iso σ τ G G') {X Y Z : List Nat} :
    MSep G X Y Z ↔ MSep G' (X.map σ) (Y.map σ) (Z.map σ) := by
  unfold MSep
  constructor
  · intro hs x' hx' y' hy' hp
    obtain ⟨x, hx, rfl⟩ := List.mem_map.mp hx'
    obtain ⟨y, hy, rfl⟩ := List.mem_map.mp hy'
    exact hs x hx y hy (h.mConnPath_iff.mpr hp)
  · intro hs x hx y hy hp
    exact hs (σ x) (List.mem_map.mpr ⟨x, hx, rfl⟩) (σ y) (List.mem_map.mpr ⟨y, hy, rfl⟩)
      (h.mConnPath_iff.mp hp)

theorem noSelfLoop (h : Iso σ τ G G') (hs : NoSelfLoop G) : NoSelfLoop G' := by
  intro a ma mb he
  obtain ⟨h1, _⟩ := h.img _ _ _ _ he
  apply hs (τ a) ma mb
  rw [h.edge, h1]; exact he

theorem noUndirAtHead (h : Iso σ τ G G') (hb : NoUndirAtHead G) : NoUndirAtHead G' := by
  intro a p mp hp c hc
  obtain ⟨h1, h2⟩ := h.img _ _ _ _ hp
  obtain ⟨_, h3⟩ := h.img _ _ _ _ hc
  apply hb (τ a) (τ p) mp _ (τ c)
  · rw [h.edge, h2, h3]; exact hc
  · rw [h.edge, h1, h2]; exact hp

end Iso

/-- **C15 / C01 (model level).** On the property's domain the model of `m_separated` gives the same
    answer on a renamed / re-ordered copy of the graph and query. -/
theorem mSeparated_iso {σ τ : Nat → Nat} {G G' : MG} (h : Iso σ τ G G')
    (hwf : G.WF) (hwf' : G'.WF) (hb : NoUndirAtHead G) (hsl : NoSelfLoop G)
    (X Y Z : List Nat) (hX : ∀ x ∈ X, x ∈ G.nodes) (hZ : ∀ z ∈ Z, z ∈ G.nodes)
    (hXZ : ∀ x ∈ X, x ∉ Z) :
    mSeparated G' (X.map σ) (Y.map σ) (Z.map σ) = mSeparated G X Y Z := by
  have h1 := mSeparated_iff_MSep G hwf hb hsl X Y Z hX hZ hXZ
  have h2 := mSeparated_iff_MSep G' hwf' (h.noUndirAtHead hb) (h.noSelfLoop hsl)
    (X.map σ) (Y.map σ) (Z.map σ)
    (by intro x' hx'; obtain ⟨x, hx, rfl⟩ := List.mem_map.mp hx'; exact (h.nodes x).mp (hX x hx))
    (by intro z' hz'; obtain ⟨z, hz, rfl⟩ := List.mem_map.mp hz'; exact (h.nodes z).mp (hZ z hz))
    (by
      intro x' hx' hz'
      obtain ⟨x, hx, rfl⟩ := List.mem_map.mp hx'
      exact hXZ x hx (h.mem_map_iff.mp hz'))
  exact Bool.eq_iff_iff.mpr (h2.trans (h.mSep_iff.symm.trans h1.symm))

def mapG (σ : Nat → Nat) (G : MG) : MG :=
  { nodes := G.nodes.map σ, dir := G.dir.map (Prod.map σ σ), bi := G.bi.map (Prod.map σ σ),
    un := G.un.map (Prod.map σ σ), circ := G.circ.map (Prod.map σ σ) }

theorem mem_map_pair {σ τ : Nat → Nat} (hl : ∀ v, τ (σ v) = v) {l : List (Nat × Nat)} {a b : Nat} :
    (σ a, σ b) ∈ l.map (Prod.map σ σ) ↔ (a, b) ∈ l :=
  mem_map_leftInv (f := Prod.map σ σ) (g := Prod.map τ τ) (a := (a, b))
    fun p => Prod.ext (hl p.1) (hl p.2)

theorem mem_map_pair_img {σ τ : Nat → Nat} (hl : ∀ v, τ (σ v) = v) {l : List (Nat × Nat)} {a b : Nat}
    (h : (a, b) ∈ l.map (Prod.map σ σ)) : σ (τ a) = a ∧ σ (τ b) = b := by
  obtain ⟨⟨c, d⟩, _, heq⟩ := List.mem_map.mp h
  simp only [Prod.map, Prod.mk.injEq] at heq
  rw [← heq.1, ← heq.2, hl, hl]; exact ⟨rfl, rfl⟩

/-- renaming by any `σ` with a left inverse (i.e. any injective renaming) is an `Iso` -/
theorem iso_mapG {σ τ : Nat → Nat} (hl : ∀ v, τ (σ v) = v) (G : MG) : Iso σ τ G (mapG σ G) where
  left := hl
  nodes := fun _ => (mem_map_leftInv hl).symm
  edge := by
    intro a b ma mb
    simp only [HasEdge, mapG, mem_map_pair hl]
  img := by
    intro a b ma mb he
    simp only [HasEdge, mapG] at he
    rcases he with ⟨_, _, h⟩ | ⟨_, _, h⟩ | ⟨_, _, h | h⟩ | ⟨_, _, h | h⟩
    · exact mem_map_pair_img hl h
    · exact (mem_map_pair_img hl h).symm
    · exact mem_map_pair_img hl h
    · exact (mem_map_pair_img hl h).symm
    · exact mem_map_pair_img hl h
    · exact (mem_map_pair_img hl h).symm

/-- same node set and same edge sets (any storage order, any orientation of unordered pairs) -/
structure SameSets (G G' : MG) : Prop where
  nodes : ∀ v, v ∈ G.nodes ↔ v ∈ G'.nodes
  dir : ∀ e, e ∈ G.dir ↔ e ∈ G'.dir
  bi : ∀ a b, ((a, b) ∈ G.bi ∨ (b, a) ∈ G.bi) ↔ ((a, b) ∈ G'.bi ∨ (b, a) ∈ G'.bi)
  un : ∀ a b, ((a, b) ∈ G.un ∨ (b, a) ∈ G.un) ↔ ((a, b) ∈ G'.un ∨ (b, a) ∈ G'.un)

/-- insertion order / stored orientation is irrelevant: identity is an `Iso` -/
theorem iso_of_sameSets {G G' : MG} (h : SameSets G G') : Iso id id G G' where
  left := fun _ => rfl
  nodes := h.nodes
  edge := by
    intro a b ma mb
    simp only [HasEdge, id, h.dir, h.bi, h.un]
  img := fun _ _ _ _ _ => ⟨rfl, rfl⟩

/-- non-vacuity: a 3-node collider renamed by `v ↦ v + 10` -/
example : Iso (· + 10) (· - 10) { nodes := [0, 1, 2], dir := [(0, 2), (1, 2)] }
    (mapG (· + 10) { nodes := [0, 1, 2], dir := [(0, 2), (1, 2)] }) :=
  iso_mapG (by intro v; simp) _

end MG
