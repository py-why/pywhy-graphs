import Pw.C07.Proofs
import Pw.T5.Main
open Closure

/-! # C07, full statement, unconditional (T5a discharged by `T5.c07_T5`) -/
namespace C07
open MG C06

variable {G : MG}

/-- **C07, valid_mag.**  For every graph (no self loops): the model of `valid_mag` returns True iff
    there is no undirected edge, at most one edge per node pair, no directed cycle, no bidirected edge
    between a node and one of its ancestors, and every non-adjacent pair of nodes is m-separated by
    some set of other nodes. -/
theorem validMag_iff_ValidMAG (hwf : G.WF) (hcirc : G.circ = []) (hsl : NoSelfLoop G) :
    validMag G = true ↔ ValidMAG G := by
  by_cases hun : G.un = []
  · exact validMag_iff_ValidMAG_of_T5 hwf hcirc (T5.c07_T5 hwf hun hsl)
  · rw [validMag_false_of_undirected hwf hun]
    constructor
    · intro h; cases h
    · intro h; exact absurd h.1 hun

/-- **C07, is_maximal.**  For every graph with directed and bidirected edges only (no self loop, no
    2-cycle): `is_maximal` returns True iff every non-adjacent pair is m-separated by some set of other
    nodes. -/
theorem isMaximal_iff_Maximal (hwf : G.WF) (hun : G.un = []) (hcirc : G.circ = [])
    (no2 : ∀ a b, (a, b) ∈ G.dir → (b, a) ∉ G.dir) (hsl : NoSelfLoop G) :
    ∃ b, isMaximal G = .ok b ∧ (b = true ↔ Maximal G) :=
  isMaximal_iff_Maximal_of_T5 hwf hun hcirc no2 (T5.c07_T5 hwf hun hsl)

end C07
