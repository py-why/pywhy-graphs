import Pw.C07.Dec
import Pw.C07.Proofs
open Closure

/-! # C07: the definitional deciders used as run-time oracles are correct

`maximalDec_iff`: enumerating all subsets of the other nodes with the proved `MG.mSeparated` decides
`Maximal`; `validMagDec_iff`: the whole right-hand side of the property. -/
namespace C07
open MG C06

variable {G : MG}

theorem mSep_congr {Z Z' : List Nat} (h : ∀ v, v ∈ Z ↔ v ∈ Z') (X Y : List Nat) :
    MSep G X Y Z ↔ MSep G X Y Z' :=
  MG.mSep_congr h

theorem subsets_sub : ∀ (l Z : List Nat), Z ∈ subsets l → ∀ z ∈ Z, z ∈ l := by
  intro l
  induction l with
  | nil =>
    intro Z h z hz
    rw [subsets, List.mem_singleton] at h
    subst h
    cases hz
  | cons a t ih =>
    intro Z h z hz
    rw [subsets, List.mem_append, List.mem_map] at h
    rcases h with h | ⟨Z0, h, rfl⟩
    · exact List.mem_cons_of_mem _ (ih Z h z hz)
    · rcases List.mem_cons.mp hz with rfl | hz
      · exact List.mem_cons_self
      · exact List.mem_cons_of_mem _ (ih Z0 h z hz)

theorem filter_mem_subsets (p : Nat → Bool) : ∀ l : List Nat, l.filter p ∈ subsets l
  | [] => by simp [subsets]
  | a :: t => by
    simp only [subsets, List.mem_append, List.mem_map, List.filter_cons]
    cases p a
    · exact Or.inl (filter_mem_subsets p t)
    · exact Or.inr ⟨_, filter_mem_subsets p t, rfl⟩

/-- `subsets O` reaches every list inside `O` up to membership, on which `MSep` does not depend -/
theorem exists_subsets_mSeparated (hwf : G.WF) (hb : NoUndirAtHead G) (hsl : NoSelfLoop G)
    {a b : Nat} {O S : List Nat} (ha : a ∈ G.nodes) (hO : ∀ v ∈ O, v ∈ G.nodes ∧ v ≠ a)
    (hS : ∀ s ∈ S, s ∈ G.nodes) (haS : a ∉ S) :
    (∃ Z ∈ subsets O, mSeparated G [a] [b] (Z ++ S) = true) ↔
      ∃ Z, (∀ z ∈ Z, z ∈ O) ∧ MSep G [a] [b] (Z ++ S) := by
  have hside : ∀ Z, (∀ z ∈ Z, z ∈ O) →
      (mSeparated G [a] [b] (Z ++ S) = true ↔ MSep G [a] [b] (Z ++ S)) := fun Z hZ =>
    mSeparated_pair_iff hwf hb hsl ha
      (fun z hz => (List.mem_append.mp hz).elim (fun h => (hO z (hZ z h)).1) (hS z))
      (fun hz => (List.mem_append.mp hz).elim (fun h => (hO a (hZ a h)).2 rfl) haS)
  constructor
  · rintro ⟨Z, hZ, h⟩
    exact ⟨Z, subsets_sub O Z hZ, (hside Z (subsets_sub O Z hZ)).mp h⟩
  · rintro ⟨Z, hZ, h⟩
    have hmem : ∀ v, v ∈ O.filter (fun v => decide (v ∈ Z)) ↔ v ∈ Z := fun v => by
      rw [List.mem_filter, decide_eq_true_eq]
      exact ⟨fun h => h.2, fun hv => ⟨hZ v hv, hv⟩⟩
    refine ⟨O.filter (fun v => decide (v ∈ Z)), filter_mem_subsets _ O,
      (hside _ fun z hz => (List.mem_filter.mp hz).1).mpr ?_⟩
    exact (mSep_congr (fun v => by rw [List.mem_append, List.mem_append, hmem]) [a] [b]).mpr h

theorem adjacentB_iff {a b : Nat} : adjacentB G a b = true ↔ Adjacent G a b := by
  simp only [adjacentB, Adjacent, Dir, Bool.or_eq_true, decide_eq_true_eq, biB_iff, unB_iff, or_assoc]

/-- **the all-subsets decider decides `Maximal`** (ADMG without self loops) -/
theorem maximalDec_iff (hwf : G.WF) (hun : G.un = []) (hsl : NoSelfLoop G) :
    maximalDec G = true ↔ Maximal G := by
  unfold maximalDec Maximal
  simp only [List.all_eq_true, Bool.or_eq_true, beq_iff_eq, adjacentB_iff, List.any_eq_true]
  refine forall_congr' fun a => forall_congr' fun ha => forall_congr' fun b => forall_congr' fun _ => ?_
  have hO : ∀ v, v ∈ G.nodes.filter (fun v => v != a && v != b) ↔ (v ∈ G.nodes ∧ v ≠ a ∧ v ≠ b) :=
    fun v => by rw [List.mem_filter, Bool.and_eq_true, bne_iff_ne, bne_iff_ne]
  have := exists_subsets_mSeparated hwf (noUndirAtHead_of_un_nil G hun) hsl (b := b) (S := []) ha
    (fun v hv => ⟨((hO v).mp hv).1, ((hO v).mp hv).2.1⟩) (fun _ h => nomatch h) (fun h => nomatch h)
  simp only [List.append_nil, hO] at this
  rw [this, or_assoc, Classical.or_iff_not_imp_left, Classical.or_iff_not_imp_left]

theorem mem_nodes_of_adjacent (hwf : G.WF) {a b : Nat} (h : Adjacent G a b) :
    a ∈ G.nodes ∧ b ∈ G.nodes := by
  rcases h with h | h | (h | h) | (h | h)
  · exact hwf.1 _ h
  · exact (hwf.1 _ h).symm
  · exact hwf.2.1 _ h
  · exact (hwf.2.1 _ h).symm
  · exact hwf.2.2 _ h
  · exact (hwf.2.2 _ h).symm

theorem simpleDec_iff (hwf : G.WF) : simpleDec G = true ↔ Simple G := by
  unfold simpleDec Simple Dir
  simp only [List.all_eq_true, Bool.and_eq_true, Bool.not_eq_true', ← Bool.not_eq_true, biB_iff,
    unB_iff, decide_eq_true_eq, and_assoc]
  refine ⟨fun h a b => ?_, fun h a _ b _ => h a b⟩
  by_cases hn : a ∈ G.nodes ∧ b ∈ G.nodes
  · exact h a hn.1 b hn.2
  · -- outside the node set there are no edges at all
    have nd : ¬ (a, b) ∈ G.dir := fun h => hn (mem_nodes_of_adjacent hwf (Or.inl h))
    have nb : ¬ Bi G a b := fun h => hn (mem_nodes_of_adjacent hwf (Or.inr (Or.inr (Or.inl h))))
    exact ⟨fun h => nd h.1, fun h => nd h.1, fun h => nd h.1, fun h => nb h.1⟩

theorem ancestralDec_iff (hwf : G.WF) : ancestralDec G = true ↔ Ancestral G := by
  unfold ancestralDec Ancestral SAnc
  simp only [List.all_eq_true, Bool.and_eq_true, Bool.not_eq_true', List.any_eq_false,
    decide_eq_true_eq, mem_children]
  have hmem : ∀ (c t : Nat), t ∈ G.nodes → (c ∈ G.anc [t] ↔ Anc G c t) := fun c t ht => by
    rw [mem_anc hwf fun z hz => by rw [List.eq_of_mem_singleton hz]; exact ht]
    simp only [ColliderOpen, List.mem_singleton, exists_eq_left]
  constructor
  · intro h a b hbi ⟨c, hac, hcb⟩
    rcases hbi with hbi | hbi
    · exact (h _ hbi).1 c hac ((hmem c b (hwf.2.1 _ hbi).2).mpr hcb)
    · exact (h _ hbi).2 c hac ((hmem c b (hwf.2.1 _ hbi).1).mpr hcb)
  · intro h e he
    constructor
    · intro c hc hanc
      exact h e.1 e.2 (Or.inl he) ⟨c, hc, (hmem c e.2 (hwf.2.1 _ he).2).mp hanc⟩
    · intro c hc hanc
      exact h e.2 e.1 (Or.inr he) ⟨c, hc, (hmem c e.1 (hwf.2.1 _ he).1).mp hanc⟩

/-- **the run-time oracle for `valid_mag` decides the property's right-hand side** -/
theorem validMagDec_iff (hwf : G.WF) (hsl : NoSelfLoop G) : validMagDec G = true ↔ ValidMAG G := by
  unfold validMagDec ValidMAG NoUndirected
  simp only [Bool.and_eq_true, List.isEmpty_iff, Bool.not_eq_true', simpleDec_iff hwf,
    hasCycle_false_iff G hwf, ancestralDec_iff hwf, and_assoc]
  exact and_congr_right fun hun => by rw [maximalDec_iff hwf hun hsl]

end C07
