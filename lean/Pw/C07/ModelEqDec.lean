import Pw.C07.Full
import Pw.C07.DecProofs
import Pw.C06.DecProofs
open Closure

/-! # model = run-time oracle, for all inputs (corollaries)

The differential harness compares the implementation both with the model and with the definitional
decider; these corollaries say the two Lean sides can never disagree. -/
namespace C07
open MG C06

variable {G : MG}

theorem validMag_eq_validMagDec (hwf : G.WF) (hcirc : G.circ = []) (hsl : NoSelfLoop G) :
    validMag G = validMagDec G :=
  Bool.eq_iff_iff.mpr ((validMag_iff_ValidMAG hwf hcirc hsl).trans (validMagDec_iff hwf hsl).symm)

theorem isMaximal_eq_maximalDec (hwf : G.WF) (hun : G.un = []) (hcirc : G.circ = [])
    (no2 : ∀ a b, (a, b) ∈ G.dir → (b, a) ∉ G.dir) (hsl : NoSelfLoop G) :
    isMaximal G = .ok (maximalDec G) := by
  obtain ⟨b, hb, h⟩ := isMaximal_iff_Maximal hwf hun hcirc no2 hsl
  rw [hb, Bool.eq_iff_iff.mpr (h.trans (maximalDec_iff hwf hun hsl).symm)]

end C07

namespace C06
open MG

theorem hasInd_eq_inducingDec {G : MG} {L S : List Nat} {x y : Nat} (dom : Dom G L S x y)
    (hS : ∀ s ∈ S, s ∈ G.nodes) : hasInd G L S x y = inducingDec G L S x y := by
  apply Bool.eq_iff_iff.mpr
  rw [hasInd_iff dom, inducingDec_iff dom.wf]
  intro z hz
  simp only [List.mem_cons] at hz
  rcases hz with rfl | rfl | hz
  · exact dom.hx
  · exact dom.hy
  · exact hS z hz

end C06
