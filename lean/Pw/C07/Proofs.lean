import Pw.C07.Model
import Pw.C07.Spec
import Pw.C06.Mag
open Closure

/-! # C07: `valid_mag` / `is_maximal` model = specification

For all graphs, no size bound:
* `validMag_iff`: `valid_mag` accepts iff no undirected edge, at most one edge per pair, no directed
  cycle, no bidirected edge between a node and an ancestor, and no inducing path between non-adjacent
  nodes.  This includes the fact that `has_adc` misses `a -> b, a <-> b` but those pairs are exactly
  what the first loop rejects.
The statement with `Maximal` follows by `C07.T5` (inducing path ⇔ inseparable; Richardson–Spirtes), which
`validMag_iff_ValidMAG_of_T5` takes as an argument; `T5.c07_T5` proves it for ADMGs without self loops and
C07/Full.lean puts the two together. -/
namespace C07
open MG C06

variable {G : MG}

theorem biB_iff {a b : Nat} : biB G a b = true ↔ Bi G a b := by
  simp only [biB, Bi, Bool.or_eq_true, decide_eq_true_eq]
theorem unB_iff {a b : Nat} : unB G a b = true ↔ Un G a b := by
  simp only [unB, Un, Bool.or_eq_true, decide_eq_true_eq]

theorem edgeScanBad_iff : edgeScanBad G = true ↔
    ∃ node, node ∈ G.nodes ∧ ∃ elem, elem ∈ nbrs G node ∧
      (Un G node elem ∨ (Bi G node elem ∧ (node, elem) ∈ G.dir)) := by
  simp only [edgeScanBad, List.any_eq_true, Bool.or_eq_true, Bool.and_eq_true, decide_eq_true_eq,
    unB_iff, biB_iff]

theorem not_un_of_nil (hun : G.un = []) {a b : Nat} : ¬ Un G a b := by
  unfold Un
  rw [hun]
  exact fun h => h.elim (nomatch ·) (nomatch ·)

/-- first loop of `valid_mag` -/
theorem edgeScanBad_false_iff (hwf : G.WF) :
    edgeScanBad G = false ↔ (G.un = [] ∧ ∀ a b, (a, b) ∈ G.dir → ¬ Bi G a b) := by
  rw [← Bool.not_eq_true, edgeScanBad_iff]
  constructor
  · intro h
    refine ⟨?_, ?_⟩
    · rw [List.eq_nil_iff_forall_not_mem]
      rintro ⟨a, b⟩ hab
      exact h ⟨a, (hwf.2.2 _ hab).1, b, mem_nbrs.mpr (Or.inr (Or.inr (Or.inr (Or.inl hab)))),
        Or.inl (Or.inl hab)⟩
    · intro a b hab hbi
      exact h ⟨a, (hwf.1 _ hab).1, b, mem_nbrs.mpr (Or.inr (Or.inl hab)), Or.inr ⟨hbi, hab⟩⟩
  · rintro ⟨hun, hbow⟩ ⟨node, _, elem, _, h | ⟨hbi, hd⟩⟩
    · exact not_un_of_nil hun h
    · exact hbow _ _ hd hbi

theorem sanc_trans {a b c : Nat} (h1 : SAnc G a b) (h2 : SAnc G b c) : SAnc G a c := by
  obtain ⟨x, hax, hxb⟩ := h1
  obtain ⟨y, hby, hyc⟩ := h2
  exact ⟨x, hax, hxb.trans (Anc.step hby hyc)⟩

theorem mem_descStrict (hwf : G.WF) {e v : Nat} : v ∈ descStrict G e ↔ SAnc G e v := by
  unfold descStrict SAnc
  rw [mem_closure_children hwf]
  constructor
  · rintro ⟨w, hw, _, ha⟩
    exact ⟨w, mem_children.mp hw, ha⟩
  · rintro ⟨c, hc, ha⟩
    exact ⟨c, mem_children.mpr hc, (hwf.1 _ hc).2, ha⟩

theorem mem_ancStrict' (hwf : G.WF) {e u : Nat} : u ∈ ancStrict G e ↔ SAnc G u e := by
  rw [mem_ancStrict hwf]; exact sanc_first_iff_last.symm

theorem hasAdc_iff (hwf : G.WF) : hasAdc G = true ↔
    ∃ elem, elem ∈ G.nodes ∧ ∃ a b, (a, b) ∈ G.bi ∧
      ((SAnc G a elem ∧ SAnc G elem b) ∨ (SAnc G b elem ∧ SAnc G elem a)) := by
  simp only [hasAdc, List.any_eq_true, Bool.or_eq_true, Bool.and_eq_true, decide_eq_true_eq,
    mem_ancStrict' hwf, mem_descStrict hwf, Prod.exists]

/-- `has_adc` agrees with "not ancestral" on graphs in which no pair carries `a -> b` and `a <-> b`;
    it is silent on exactly those pairs -/
theorem hasAdc_false_iff (hwf : G.WF) (hbow : ∀ a b, (a, b) ∈ G.dir → ¬ Bi G a b) :
    hasAdc G = false ↔ Ancestral G := by
  rw [← Bool.not_eq_true, hasAdc_iff hwf]
  constructor
  · intro h a b hbi hs
    obtain ⟨c, hac, hcb⟩ := hs
    cases hcb with
    | refl => exact hbow _ _ hac hbi
    | step hcd hdb =>
      have hc := (hwf.1 _ hac).2
      have h1 : SAnc G a c := ⟨c, hac, Anc.refl c⟩
      have h2 : SAnc G c b := ⟨_, hcd, hdb⟩
      rcases hbi with hbi | hbi
      · exact h ⟨c, hc, a, b, hbi, Or.inl ⟨h1, h2⟩⟩
      · exact h ⟨c, hc, b, a, hbi, Or.inr ⟨h1, h2⟩⟩
  · rintro h ⟨elem, _, a, b, he, ⟨h1, h2⟩ | ⟨h1, h2⟩⟩
    · exact h a b (Or.inl he) (sanc_trans h1 h2)
    · exact h b a (Or.inr he) (sanc_trans h1 h2)

theorem not_mem_nbrs_iff {a b : Nat} : b ∉ nbrs G a ↔ ¬ Adjacent G a b :=
  not_congr (mem_nbrs.trans or_left_comm)

theorem indScan_false_iff (hwf : G.WF) (hun : G.un = []) (hcirc : G.circ = [])
    (no2 : ∀ a b, (a, b) ∈ G.dir → (b, a) ∉ G.dir) :
    indScan G [] [] = false ↔ NoInducingPathBetweenNonAdjacent G := by
  have hind : ∀ {a b : Nat}, a ∈ G.nodes → b ∈ G.nodes → a ≠ b →
      (hasInd G [] [] a b = false ↔ ¬ HasInducingPath G [] [] a b) := fun ha hb hab => by
    rw [← Bool.not_eq_true, hasInd_full hwf hun hcirc no2 ha hb hab]
    simp only [List.not_mem_nil, not_false_eq_true, true_and]
  unfold indScan NoInducingPathBetweenNonAdjacent
  simp only [List.any_eq_false, List.mem_filter, Bool.and_eq_true, decide_eq_true_eq, bne_iff_ne,
    and_imp, Bool.not_eq_true, not_mem_nbrs_iff]
  exact ⟨fun h a ha b hb hab hadj => (hind ha hb hab).mp (h a ha b hb hadj (Ne.symm hab)),
    fun h s hs d hd hadj hne => (hind hs hd (Ne.symm hne)).mpr (h s hs d hd (Ne.symm hne) hadj)⟩

theorem validMag_unfold :
    validMag G = true ↔
      (edgeScanBad G = false ∧ hasCycle G = false ∧ hasAdc G = false ∧ indScan G [] [] = false) := by
  have stage : ∀ {c b : Bool}, (if c = true then false else b) = true ↔ c = false ∧ b = true := by
    intro c b
    cases c <;> simp
  simp only [validMag, stage, and_true]

/-- **C07, valid_mag**, with "no inducing path between non-adjacent nodes" in place of `Maximal`. -/
theorem validMag_iff (hwf : G.WF) (hcirc : G.circ = []) :
    validMag G = true ↔
      (NoUndirected G ∧ Simple G ∧ Acyclic G ∧ Ancestral G ∧ NoInducingPathBetweenNonAdjacent G) := by
  rw [validMag_unfold, edgeScanBad_false_iff hwf, hasCycle_false_iff G hwf]
  constructor
  · rintro ⟨⟨hun, hbow⟩, hac, hadc, hind⟩
    have no2 := no2_of_acyclic hac
    refine ⟨hun, ?_, hac, (hasAdc_false_iff hwf hbow).mp hadc,
      (indScan_false_iff hwf hun hcirc no2).mp hind⟩
    intro a b
    exact ⟨fun h => no2 a b h.1 h.2, fun h => hbow a b h.1 h.2, fun h => not_un_of_nil hun h.2,
      fun h => not_un_of_nil hun h.2⟩
  · rintro ⟨hun, hsimple, hac, hanc, hind⟩
    have no2 := no2_of_acyclic hac
    have hbow : ∀ a b, (a, b) ∈ G.dir → ¬ Bi G a b := fun a b hab hbi => (hsimple a b).2.1 ⟨hab, hbi⟩
    exact ⟨⟨hun, hbow⟩, hac, (hasAdc_false_iff hwf hbow).mpr hanc,
      (indScan_false_iff hwf hun hcirc no2).mpr hind⟩

/-- **C07, rejection clause.** A graph containing an undirected edge is never accepted. -/
theorem validMag_false_of_undirected (hwf : G.WF) (h : G.un ≠ []) : validMag G = false := by
  cases hv : validMag G with
  | false => rfl
  | true =>
    have := (validMag_unfold.mp hv).1
    exact absurd ((edgeScanBad_false_iff hwf).mp this).1 h

/-- **C07, is_maximal**: on a graph with directed and bidirected edges only and
    no 2-cycle, `is_maximal` returns, and returns True iff no inducing path joins a non-adjacent pair -/
theorem isMaximal_iff (hwf : G.WF) (hun : G.un = []) (hcirc : G.circ = [])
    (no2 : ∀ a b, (a, b) ∈ G.dir → (b, a) ∉ G.dir) :
    ∃ b, isMaximal G = .ok b ∧ (b = true ↔ NoInducingPathBetweenNonAdjacent G) := by
  unfold isMaximal
  rw [if_neg (fun h => not_foreign hun hcirc h.1)]
  refine ⟨_, rfl, ?_⟩
  rw [← indScan_false_iff hwf hun hcirc no2]
  cases indScan G [] [] <;> simp

/-- **C07, full statement**, given `T5 G` (every non-adjacent pair is m-separable iff no inducing path joins a
    non-adjacent pair; `T5.c07_T5`). -/
theorem validMag_iff_ValidMAG_of_T5 (hwf : G.WF) (hcirc : G.circ = []) (hT5 : T5 G) :
    validMag G = true ↔ ValidMAG G := by
  rw [validMag_iff hwf hcirc]
  unfold ValidMAG T5 at *
  rw [hT5]

theorem isMaximal_iff_Maximal_of_T5 (hwf : G.WF) (hun : G.un = []) (hcirc : G.circ = [])
    (no2 : ∀ a b, (a, b) ∈ G.dir → (b, a) ∉ G.dir) (hT5 : T5 G) :
    ∃ b, isMaximal G = .ok b ∧ (b = true ↔ Maximal G) := by
  obtain ⟨b, hb, h⟩ := isMaximal_iff hwf hun hcirc no2
  exact ⟨b, hb, by rw [h]; exact hT5.symm⟩

/-- `has_adc` alone is *not* "not ancestral": it is silent on `0 -> 1, 0 <-> 1` (test by evaluation of
    the specification side; the model side is the run-time correspondence case `vm n=2 D=0-1 B=0-1`) -/
theorem bow_not_ancestral : ¬ Ancestral { nodes := [0, 1], dir := [(0, 1)], bi := [(0, 1)] } := by
  intro h
  exact h 0 1 (Or.inl (by simp)) ⟨1, by simp, Anc.refl 1⟩

/-- non-vacuity: the hypotheses of `validMag_iff` / `isMaximal_iff` hold for the C06 example DAG -/
example : ∃ b, isMaximal exG = .ok b ∧ (b = true ↔ NoInducingPathBetweenNonAdjacent exG) :=
  isMaximal_iff exG_dom.wf rfl rfl exG_dom.no2

example : validMag exG = true ↔
    (NoUndirected exG ∧ Simple exG ∧ Acyclic exG ∧ Ancestral exG ∧ NoInducingPathBetweenNonAdjacent exG) :=
  validMag_iff exG_dom.wf rfl

end C07
