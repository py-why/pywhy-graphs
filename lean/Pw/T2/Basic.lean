import Pw.C01.Symm
open Closure

/-! # T2 (moralisation criterion), part 1: anterior sets

The "semi-open" walks of the moral-graph argument are `OpenP A Z` for the anterior set `A`. -/
namespace MG

/-- the condition may be weakened node by node, on the nodes of the walk -/
theorem openP_imp {C D : Nat → Prop} {Z Z' : List Nat} (hs : List Hop) :
    ∀ (e : Option Mark) (a : Nat),
      (∀ v ∈ nodesOf a hs, (C v → D v) ∧ (v ∉ Z → v ∉ Z')) → OpenP C Z e a hs → OpenP D Z' e a hs := by
  induction hs with
  | nil => exact fun _ _ _ _ => trivial
  | cons h t ih =>
    intro e a hn ho
    refine ⟨?_, ih _ _ (fun v hv => hn v (List.mem_cons_of_mem _ hv)) ho.2⟩
    cases e with
    | none => trivial
    | some m => exact condP.imp (hn a List.mem_cons_self).1 (hn a List.mem_cons_self).2 ho.1

theorem OpenP.mono {C D : Nat → Prop} {Z : List Nat} (hCD : ∀ v, C v → D v) :
    ∀ (hs : List Hop) (e : Option Mark) (a : Nat), OpenP C Z e a hs → OpenP D Z e a hs :=
  fun hs e a => openP_imp hs e a fun v _ => ⟨hCD v, id⟩

/-- `Ant G a c`: a path from a to c each of whose edges has a tail at its source end
    (directed a -> b or undirected a - b). -/
inductive Ant (G : MG) : Nat → Nat → Prop
  | refl (a : Nat) : Ant G a a
  | step {a b c : Nat} {mb : Mark} : HasEdge G a b .tail mb → Ant G b c → Ant G a c

theorem Ant.trans {G : MG} {a b c : Nat} (h1 : Ant G a b) (h2 : Ant G b c) : Ant G a c := by
  induction h1 with
  | refl => exact h2
  | step e _ ih => exact Ant.step e (ih h2)

theorem Ant.of_anc {G : MG} {a c : Nat} (h : Anc G a c) : Ant G a c := by
  induction h with
  | refl => exact Ant.refl _
  | step e _ ih => exact Ant.step (Or.inl ⟨rfl, rfl, e⟩) ih

/-- a node that carries an arrowhead has no undirected edge, so from it anterior = ancestor -/
theorem Ant.anc_of_head {G : MG} (hb : NoUndirAtHead G) {a c : Nat} (h : Ant G a c) :
    (∃ p mp, HasEdge G p a mp .head) → Anc G a c := by
  induction h with
  | refl => intro _; exact Anc.refl _
  | @step a b c mb he _ ih =>
    rintro ⟨p, mp, hp⟩
    cases mb with
    | tail => exact absurd he (hb a p mp hp b)
    | head => exact Anc.step he.dir_of_tail_head (ih ⟨a, .tail, he⟩)

/-- the anterior set of a target list -/
def InAnt (G : MG) (T : List Nat) (v : Nat) : Prop := ∃ t ∈ T, Ant G v t

theorem InAnt.step {G : MG} {T : List Nat} {a b : Nat} {mb : Mark} (he : HasEdge G a b .tail mb)
    (hb : InAnt G T b) : InAnt G T a := by
  obtain ⟨t, ht, ha⟩ := hb
  exact ⟨t, ht, Ant.step he ha⟩

end MG
