import Pw.T2.Basic
open Closure

/-! # T2, part 2: every node of an open walk between two anterior nodes is anterior -/
namespace MG

theorem revHops_snoc : ∀ (s : List Hop) (a : Nat) (hop : Hop),
    revHops a (s ++ [hop]) = ⟨hop.mn, hop.mp, endNode a s⟩ :: revHops a s
  | [], a, hop => by simp [revHops, endNode]
  | h :: t, a, hop => by
    simp only [List.cons_append, revHops, endNode, revHops_snoc t h.nx hop, List.cons_append]

/-- following tails forward: if the walk leaves `a` through a tail, `a` is anterior to the far end or to
    a collider on the way -/
theorem inAnt_of_tail_exit {G : MG} (hb : NoUndirAtHead G) {Z T : List Nat} {C : Nat → Prop}
    (hC : ∀ v, C v → InAnt G T v) :
    ∀ (t : List Hop) (h : Hop) (a : Nat) (e : Option Mark), h.mp = .tail →
      ValidW G a (h :: t) → OpenP C Z e a (h :: t) → InAnt G T (endNode a (h :: t)) → InAnt G T a
  | [], h, a, _, hmp, hv, _, hend => InAnt.step (hmp ▸ hv.1) hend
  | h2 :: t2, h, a, e, hmp, hv, ho, hend => by
    obtain ⟨hv1, hv2⟩ := hv
    obtain ⟨_, ho2⟩ := ho
    rw [hmp] at hv1
    cases hm2 : h2.mp with
    | tail => exact InAnt.step hv1 (inAnt_of_tail_exit hb hC t2 h2 h.nx (some h.mn) hm2 hv2 ho2 hend)
    | head =>
      cases hmn : h.mn with
      | head =>
        exact InAnt.step hv1 (hC _ ((condP_collider ⟨hmn, hm2⟩).mp ho2.1))
      | tail =>
        -- an undirected edge into a node that carries an arrowhead
        have h2e := hv2.1
        rw [hmn] at hv1
        rw [hm2] at h2e
        exact absurd hv1.symm (hb h.nx h2.nx h2.mn h2e.symm a)

theorem all_inAnt {G : MG} (hb : NoUndirAtHead G) {Z T : List Nat} {C : Nat → Prop}
    (hC : ∀ v, C v → InAnt G T v) (hs : List Hop) (a : Nat)
    (hv : ValidW G a hs) (ho : OpenP C Z none a hs) (ha : InAnt G T a)
    (hend : InAnt G T (endNode a hs)) : ∀ v ∈ nodesOf a hs, InAnt G T v := by
  intro v hvmem
  simp only [nodesOf, List.mem_cons, List.mem_map] at hvmem
  rcases hvmem with rfl | ⟨hop, hhop, rfl⟩
  · exact ha
  obtain ⟨s, t2, rfl⟩ := List.append_of_mem hhop
  have hsplit : s ++ hop :: t2 = (s ++ [hop]) ++ t2 := by simp
  rw [hsplit] at hv ho hend
  rw [validW_append] at hv
  rw [openP_append, exitMark_snoc] at ho
  rw [endNode_append] at hend
  rw [endNode_snoc] at hv ho hend
  obtain ⟨hv1, hv2⟩ := hv
  obtain ⟨ho1, ho2⟩ := ho
  cases t2 with
  | nil => exact hend
  | cons h2 t3 =>
    cases hm2 : h2.mp with
    | tail => exact inAnt_of_tail_exit hb hC t3 h2 hop.nx (some hop.mn) hm2 hv2 ho2 hend
    | head =>
      cases hmn : hop.mn with
      | head =>
        exact hC _ ((condP_collider ⟨hmn, hm2⟩).mp ho2.1)
      | tail =>
        -- walk back along the reversed prefix, which leaves `hop.nx` through a tail
        have hR := validW_revHops (s ++ [hop]) a hv1
        have hoR := ((openP_revHops (C := C) (Z := Z) (s ++ [hop]) a none none).mp
          ⟨ho1, by simp [condPO, exitMark_snoc]⟩).1
        have hendR := endNode_revHops (s ++ [hop]) a
        rw [endNode_snoc, revHops_snoc] at hR hoR hendR
        exact inAnt_of_tail_exit hb hC _ _ hop.nx none hmn hR hoR (hendR.symm ▸ ha)

end MG
