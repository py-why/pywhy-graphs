import Pw.T2.InA
open Closure

/-! # T2, part 3: the moral graph of the anterior subgraph as a relation, and semi-open walks

`HAdj G A u v`: u and v are joined inside `A` by an edge or by a walk all of whose inner nodes are
colliders (collider-connected).  `HConn G A Z u v`: v is reachable from u in that graph by a walk all
of whose nodes after u avoid `Z` – an ordinary vertex-cut statement. -/
namespace MG

/-- every inner node of the walk is a collider -/
def CollW : Option Mark → List Hop → Prop
  | _, [] => True
  | none, h :: t => CollW (some h.mn) t
  | some m, h :: t => (m = .head ∧ h.mp = .head) ∧ CollW (some h.mn) t

def HAdj (G : MG) (A : Nat → Prop) (u v : Nat) : Prop :=
  ∃ hs, hs ≠ [] ∧ ValidW G u hs ∧ endNode u hs = v ∧ CollW none hs ∧ ∀ w ∈ nodesOf u hs, A w

inductive HConn (G : MG) (A : Nat → Prop) (Z : List Nat) : Nat → Nat → Prop
  | refl (a : Nat) : HConn G A Z a a
  | step {a b c : Nat} : HAdj G A a b → b ∉ Z → HConn G A Z b c → HConn G A Z a c

abbrev Tr : Nat → Prop := fun _ => True

theorem collW_snoc : ∀ (t : List Hop) (m : Mark) (h : Hop),
    CollW (some m) t → lastMn m t = .head → h.mp = .head → CollW (some m) (t ++ [h])
  | [], _, _, _, h1, h2 => ⟨⟨h1, h2⟩, trivial⟩
  | x :: t, _, h, hc, h1, h2 => ⟨hc.1, collW_snoc t x.mn h hc.2 h1 h2⟩

theorem openP_of_collW {Z : List Nat} : ∀ (Q : List Hop) (e : Option Mark) (a : Nat),
    CollW e Q → OpenP Tr Z e a Q
  | [], _, _, _ => trivial
  | h :: t, none, a, hc => ⟨trivial, openP_of_collW t _ _ hc⟩
  | h :: t, some m, a, hc => by
    exact ⟨(condP_collider hc.1).mpr trivial, openP_of_collW t _ _ hc.2⟩

theorem openP_of_none {C : Nat → Prop} {Z : List Nat} {b : Nat} (hb : b ∉ Z) (hC : C b) :
    ∀ (P : List Hop) (e : Option Mark), OpenP C Z none b P → OpenP C Z e b P
  | [], _, _ => trivial
  | h :: t, none, ho => ho
  | h :: t, some m, ho => by
    exact ⟨condP_intro (fun _ => hC) fun _ => hb, ho.2⟩

theorem nodesOf_append (a : Nat) (P Q : List Hop) :
    nodesOf a (P ++ Q) = nodesOf a P ++ Q.map (·.nx) := by
  simp [nodesOf]

theorem endNode_mem_nodesOf : ∀ (P : List Hop) (a : Nat), endNode a P ∈ nodesOf a P
  | [], a => by simp [nodesOf, endNode]
  | h :: t, a => by
    have := endNode_mem_nodesOf t h.nx
    simp only [nodesOf, endNode, List.map_cons, List.mem_cons] at this ⊢
    rcases this with h1 | h1
    · exact Or.inr (Or.inl h1)
    · exact Or.inr (Or.inr h1)

theorem semiOpen_of_hconn {G : MG} {A : Nat → Prop} {Z : List Nat} {u y : Nat}
    (h : HConn G A Z u y) (hu : A u) :
    ∃ hs, ValidW G u hs ∧ endNode u hs = y ∧ OpenP Tr Z none u hs ∧ ∀ w ∈ nodesOf u hs, A w := by
  induction h with
  | refl a => exact ⟨[], trivial, rfl, trivial, by simpa [nodesOf] using hu⟩
  | @step a b c hadj hbZ _ ih =>
    obtain ⟨Q, _, hvQ, hendQ, hcQ, hAQ⟩ := hadj
    have hbA : A b := by rw [← hendQ]; exact hAQ _ (endNode_mem_nodesOf Q a)
    obtain ⟨P, hvP, hendP, hoP, hAP⟩ := ih hbA
    refine ⟨Q ++ P, ?_, ?_, ?_, ?_⟩
    · rw [validW_append, hendQ]; exact ⟨hvQ, hvP⟩
    · rw [endNode_append, hendQ, hendP]
    · rw [openP_append, hendQ]
      exact ⟨openP_of_collW Q none a hcQ, openP_of_none hbZ trivial P _ hoP⟩
    · intro w hw
      rw [nodesOf_append] at hw
      rcases List.mem_append.mp hw with hw | hw
      · exact hAQ w hw
      · exact hAP w (List.mem_cons_of_mem _ hw)

/-- a semi-open walk inside A folds into an H-walk; `pre` is the pending collider section -/
theorem hconn_of_semiOpen {G : MG} {A : Nat → Prop} {Z : List Nat} :
    ∀ (hs : List Hop) (u a : Nat) (pre : List Hop),
      ValidW G u pre → endNode u pre = a → CollW none pre → (∀ w ∈ nodesOf u pre, A w) →
      ValidW G a hs → OpenP Tr Z (exitMark none pre) a hs → (∀ w ∈ nodesOf a hs, A w) →
      endNode a hs ∉ Z → HConn G A Z u (endNode a hs)
  | [], u, a, pre, hvp, hep, hcp, hap, _, _, _, hy => by
    cases pre with
    | nil =>
      simp only [endNode] at hep ⊢
      rw [hep]; exact HConn.refl _
    | cons p ps =>
      exact HConn.step ⟨p :: ps, by simp, hvp, hep, hcp, hap⟩ hy (HConn.refl _)
  | h :: t, u, a, pre, hvp, hep, hcp, hap, hv, ho, ha, hy => by
    obtain ⟨hv1, hv2⟩ := hv
    obtain ⟨ho1, ho2⟩ := ho
    have haA : A a := ha a List.mem_cons_self
    have htA : ∀ w ∈ nodesOf h.nx t, A w := fun w hw => ha w (List.mem_cons_of_mem _ hw)
    have hnxA : A h.nx := htA _ List.mem_cons_self
    -- restart a fresh collider section [h] at `a`
    have fresh : HConn G A Z a (endNode h.nx t) :=
      hconn_of_semiOpen t a h.nx [h] ⟨hv1, trivial⟩ rfl trivial
        (List.forall_mem_cons.mpr ⟨haA, List.forall_mem_singleton.mpr hnxA⟩) hv2 ho2 htA hy
    cases pre with
    | nil =>
      simp only [endNode] at hep
      subst hep
      exact fresh
    | cons p ps =>
      have hex : exitMark none (p :: ps) = some (lastMn p.mn ps) := rfl
      by_cases hcol : lastMn p.mn ps = .head ∧ h.mp = .head
      · -- `a` is a collider: extend the pending section
        have hv' : ValidW G u ((p :: ps) ++ [h]) := by
          rw [validW_append, hep]; exact ⟨hvp, hv1, trivial⟩
        have he' : endNode u ((p :: ps) ++ [h]) = h.nx := endNode_snoc _ _ _
        have hc' : CollW none ((p :: ps) ++ [h]) := collW_snoc ps p.mn h hcp hcol.1 hcol.2
        have ha' : ∀ w ∈ nodesOf u ((p :: ps) ++ [h]), A w := by
          intro w hw
          rw [nodesOf_append] at hw
          rcases List.mem_append.mp hw with hw | hw
          · exact hap w hw
          · simp at hw; rw [hw]; exact hnxA
        exact hconn_of_semiOpen t u h.nx ((p :: ps) ++ [h]) hv' he' hc' ha' hv2
          (by rw [exitMark_snoc]; exact ho2) htA hy
      · -- `a` is a non-collider outside Z: close the section here
        have haZ : a ∉ Z := by
          rw [hex] at ho1
          exact (condP_nonCollider hcol).mp ho1
        exact HConn.step ⟨p :: ps, by simp, hvp, hep, hcp, hap⟩ haZ fresh

end MG
