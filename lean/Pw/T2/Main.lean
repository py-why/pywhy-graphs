import Pw.T2.Moral
open Closure

/-! # T2, part 4: m-separation = vertex cut in the moral graph of the anterior subgraph -/
namespace MG

theorem openW_iff_openP {Z anZ : List Nat} : ∀ (hs : List Hop) (e : Option Mark) (a : Nat),
    OpenW Z anZ e a hs ↔ OpenP (· ∈ anZ) Z e a hs
  | [], _, _ => by simp [OpenW, OpenP]
  | h :: t, none, a => by
    simp only [OpenW, OpenP, condE, condPO]; rw [openW_iff_openP t _ _]
  | h :: t, some m, a => by
    simp only [OpenW, OpenP, condE, condAt, condPO, condP]; rw [openW_iff_openP t _ _]

theorem Conn.has_head {G : MG} {Z anZ : List Nat} {x v : Nat} (h : Conn G Z anZ x v .head) :
    ∃ p mp, HasEdge G p v mp .head := by
  generalize hm : Mark.head = m at h
  cases h with
  | start => cases hm
  | @step u w m0 mv mw _ he _ => subst hm; exact ⟨u, mv, he⟩

theorem conn_down {G : MG} {Z anZ : List Nat} {x : Nat} {v t : Nat} (ha : Anc G v t) :
    (∀ d, Anc G v d → d ∉ Z) → ∀ m, Conn G Z anZ x v m → ∃ m', Conn G Z anZ x t m' := by
  induction ha with
  | refl => intro _ m hc; exact ⟨m, hc⟩
  | @step a b c e _ ih =>
    intro hz m hc
    have hstep : Conn G Z anZ x b .head :=
      Conn.step hc (Or.inl ⟨rfl, rfl, e⟩ : HasEdge G a b .tail .head)
        (by simp; exact hz a (Anc.refl a))
    exact ih (fun d hd => hz d (Anc.step e hd)) .head hstep

theorem conn_up {G : MG} {Z anZ : List Nat} {v t : Nat} (ha : Anc G v t) :
    (∀ d, Anc G v d → d ∉ Z) → Conn G Z anZ t v .tail := by
  induction ha with
  | refl => intro _; exact Conn.start
  | @step a b c e _ ih =>
    intro hz
    have hb : Conn G Z anZ c b .tail := ih (fun d hd => hz d (Anc.step e hd))
    exact Conn.step hb (Or.inr (Or.inl ⟨rfl, rfl, e⟩) : HasEdge G b a .head .tail)
      (by simp; exact hz b (Anc.step e (Anc.refl b)))

/-- a semi-open walk inside the anterior set, prefixed by an open walk from X, yields an
    open walk between X and Y (colliders outside An(Z) are by-passed along directed paths). -/
theorem open_of_semiOpen {G : MG} (hwf : G.WF) (hb : NoUndirAtHead G) {X Y Z : List Nat}
    (hZ : ∀ z ∈ Z, z ∈ G.nodes) (hXZ : ∀ x ∈ X, x ∉ Z) :
    ∀ (S : List Hop) (v : Nat) (m : Mark) (x' : Nat), x' ∈ X → Conn G Z (G.anc Z) x' v m →
      ValidW G v S → OpenP Tr Z (some m) v S → (∀ w ∈ nodesOf v S, InAnt G (X ++ Y ++ Z) w) →
      endNode v S ∈ Y → ∃ x'' ∈ X, ∃ y'' ∈ Y, ∃ m'', Conn G Z (G.anc Z) x'' y'' m''
  | [], v, m, x', hx', hc, _, _, _, hy => ⟨x', hx', v, hy, m, hc⟩
  | h :: t, v, m, x', hx', hc, hv, ho, hA, hy => by
    obtain ⟨hv1, hv2⟩ := hv
    obtain ⟨ho1, ho2⟩ := ho
    have htA : ∀ w ∈ nodesOf h.nx t, InAnt G (X ++ Y ++ Z) w := fun w hw => hA w (List.mem_cons_of_mem _ hw)
    simp only [endNode] at hy
    by_cases hcol : m = .head ∧ h.mp = .head
    · by_cases hvan : v ∈ G.anc Z
      · exact open_of_semiOpen hwf hb hZ hXZ t h.nx h.mn x' hx'
          (Conn.step hc hv1 (by simp only [hcol, and_self, if_true]; exact hvan)) hv2 ho2 htA hy
      · -- collider outside An(Z): by-pass along a directed path to X or Y
        obtain ⟨hm, _⟩ := hcol
        subst hm
        obtain ⟨tt, htt, hant⟩ := hA v List.mem_cons_self
        have hanc : Anc G v tt := hant.anc_of_head hb hc.has_head
        have hnoZ : ∀ d, Anc G v d → d ∉ Z := by
          intro d hd hdZ
          exact hvan ((mem_anc hwf hZ).mpr ⟨d, hdZ, hd⟩)
        rcases List.mem_append.mp htt with htt | htt
        · rcases List.mem_append.mp htt with htt | htt
          · -- lands in X: restart from tt, climb to v, continue
            have hup : Conn G Z (G.anc Z) tt v .tail := conn_up hanc hnoZ
            exact open_of_semiOpen hwf hb hZ hXZ t h.nx h.mn tt htt
              (Conn.step hup hv1 (by simp; exact hnoZ v (Anc.refl v))) hv2 ho2 htA hy
          · -- lands in Y: finish there
            obtain ⟨m', hc'⟩ := conn_down hanc hnoZ .head hc
            exact ⟨x', hx', tt, htt, m', hc'⟩
        · exact absurd htt (hnoZ tt hanc)
    · have hvZ : v ∉ Z := (condP_nonCollider hcol).mp ho1
      exact open_of_semiOpen hwf hb hZ hXZ t h.nx h.mn x' hx'
        (Conn.step hc hv1 (by simp only [hcol, if_false]; exact hvZ)) hv2 ho2 htA hy

/-- the anterior set of X ∪ Y ∪ Z -/
abbrev AntSet (G : MG) (X Y Z : List Nat) : Nat → Prop := InAnt G (X ++ Y ++ Z)

/-- a walk inside `A` on which no non-collider is in `Z`, ending outside `Z`, joins its ends in the moral graph -/
theorem hconn_of_openP {G : MG} {A : Nat → Prop} {Z : List Nat} {x y : Nat} {hs : List Hop}
    (hv : ValidW G x hs) (hend : endNode x hs = y) (ho : OpenP Tr Z none x hs)
    (hall : ∀ w ∈ nodesOf x hs, A w) (hyZ : y ∉ Z) : HConn G A Z x y := by
  have := hconn_of_semiOpen (A := A) hs x x [] trivial rfl trivial
    (fun w hw => by rw [List.mem_singleton.mp hw]; exact hall x List.mem_cons_self) hv ho hall
    (by rw [hend]; exact hyZ)
  rwa [hend] at this

/-- **T2 (walk level).** An m-connecting walk between X and Y exists iff Y is reachable from X, avoiding
    Z, in the moral graph of the subgraph induced by the anterior set of X ∪ Y ∪ Z. -/
theorem conn_iff_hconn {G : MG} (hwf : G.WF) (hb : NoUndirAtHead G) {X Y Z : List Nat}
    (hZ : ∀ z ∈ Z, z ∈ G.nodes) (hXZ : ∀ x ∈ X, x ∉ Z) (hYZ : ∀ y ∈ Y, y ∉ Z) :
    (∃ x ∈ X, ∃ y ∈ Y, ∃ m, Conn G Z (G.anc Z) x y m) ↔
      (∃ x ∈ X, ∃ y ∈ Y, HConn G (AntSet G X Y Z) Z x y) := by
  have hxA : ∀ x ∈ X, AntSet G X Y Z x := fun x hx =>
    ⟨x, List.mem_append_left _ (List.mem_append_left _ hx), Ant.refl x⟩
  have hyA : ∀ y ∈ Y, AntSet G X Y Z y := fun y hy =>
    ⟨y, List.mem_append_left _ (List.mem_append_right _ hy), Ant.refl y⟩
  have hanA : ∀ v, v ∈ G.anc Z → AntSet G X Y Z v := by
    intro v hv
    obtain ⟨z, hz, ha⟩ := (mem_anc hwf hZ).mp hv
    exact ⟨z, List.mem_append_right _ hz, Ant.of_anc ha⟩
  constructor
  · rintro ⟨x, hx, y, hy, m, hc⟩
    obtain ⟨hs, hv, ho, hend, _⟩ := walk_of_conn hc
    have hoP := (openW_iff_openP hs none x).mp ho
    have hall := all_inAnt hb hanA hs x hv hoP (hxA x hx) (by rw [hend]; exact hyA y hy)
    have hsemi : OpenP Tr Z none x hs := OpenP.mono (fun _ _ => trivial) hs none x hoP
    exact ⟨x, hx, y, hy, hconn_of_openP hv hend hsemi hall (hYZ y hy)⟩
  · rintro ⟨x, hx, y, hy, hh⟩
    obtain ⟨hs, hv, hend, ho, hall⟩ := semiOpen_of_hconn hh (hxA x hx)
    exact open_of_semiOpen hwf hb hZ hXZ hs x .tail x hx Conn.start hv
      (openP_of_none (hXZ x hx) trivial hs _ ho) hall (by rw [hend]; exact hy)

/-- **T2.** On the domain of C01: X and Y are m-separated given Z iff Z separates them, as an ordinary
    vertex cut, in the moral graph of the subgraph induced by the anterior closure of X ∪ Y ∪ Z. -/
theorem mSep_iff_moral_cut (G : MG) (hwf : G.WF) (hb : NoUndirAtHead G) (hsl : NoSelfLoop G)
    (X Y Z : List Nat) (hZ : ∀ z ∈ Z, z ∈ G.nodes) (hXZ : ∀ x ∈ X, x ∉ Z) (hYZ : ∀ y ∈ Y, y ∉ Z) :
    MSep G X Y Z ↔ ¬ ∃ x ∈ X, ∃ y ∈ Y, HConn G (AntSet G X Y Z) Z x y := by
  rw [← conn_iff_hconn hwf hb hZ hXZ hYZ]
  unfold MSep
  constructor
  · rintro h ⟨x, hx, y, hy, hm⟩
    exact h x hx y hy ((walk_iff_path hwf hb hsl hZ (hXZ x hx)).mp hm)
  · intro h x hx y hy hp
    exact h ⟨x, hx, y, hy, (walk_iff_path hwf hb hsl hZ (hXZ x hx)).mpr hp⟩

/-- T2 for single nodes -/
theorem mSep_pair_iff {G : MG} (hwf : G.WF) (hb : NoUndirAtHead G) (hsl : NoSelfLoop G) {x y : Nat}
    {Z : List Nat} (hZ : ∀ z ∈ Z, z ∈ G.nodes) (hx : x ∉ Z) (hy : y ∉ Z) :
    MSep G [x] [y] Z ↔ ¬ HConn G (AntSet G [x] [y] Z) Z x y := by
  rw [mSep_iff_moral_cut G hwf hb hsl [x] [y] Z hZ
    (fun a ha => List.mem_singleton.mp ha ▸ hx) (fun a ha => List.mem_singleton.mp ha ▸ hy)]
  simp only [List.mem_singleton, exists_eq_left]

end MG
