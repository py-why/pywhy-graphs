/-! # Worklist search with a visited set (`nx.ancestors` / `nx.descendants`, the deques of `m_separated`, every
BFS/DFS of the code): `closure U step init` computes exactly the nodes of `U` reachable from `init` (`mem_closure`). -/
namespace Closure
variable {α : Type} [DecidableEq α]

theorem countP_lt' (p q : α → Bool) (h : ∀ a, p a = true → q a = true) (U : List α) (x : α)
    (hx : x ∈ U) (hq : q x = true) (hp : ¬ p x = true) : U.countP p < U.countP q := by
  induction U with
  | nil => cases hx
  | cons a U ih =>
    rw [List.countP_cons, List.countP_cons]
    rcases List.mem_cons.mp hx with rfl | hxU
    · rw [if_neg hp, if_pos hq]
      exact Nat.lt_succ_of_le (List.countP_mono_left fun a _ => h a)
    · by_cases hpa : p a = true
      · rw [if_pos hpa, if_pos (h a hpa)]
        exact Nat.add_lt_add_right (ih hxU) 1
      · rw [if_neg hpa]
        exact Nat.lt_of_lt_of_le (ih hxU) (Nat.le_add_right _ _)

/-- Worklist closure of `work` under `step`, restricted to universe `U`, starting from `seen`. -/
def go (U : List α) (step : α → List α) (work seen : List α) : List α :=
  match work with
  | [] => seen
  | x :: work =>
    if x ∈ seen then go U step work seen
    else if x ∈ U then go U step (step x ++ work) (x :: seen)
    else go U step work seen
termination_by (U.countP (fun u => decide (u ∉ seen)), work.length)
decreasing_by
  · exact Prod.Lex.right _ (by simp)
  · rename_i hs hu
    refine Prod.Lex.left _ _ (countP_lt' _ _ ?_ U x hu (by simpa using hs) (by simp))
    intro a; simp
  · exact Prod.Lex.right _ (by simp)

/-- one-step relation inside U -/
def Step (U : List α) (step : α → List α) (a b : α) : Prop := b ∈ step a ∧ b ∈ U

inductive Reach (U : List α) (step : α → List α) : α → α → Prop
  | refl (a) : Reach U step a a
  | tail {a b c} : Reach U step a b → Step U step b c → Reach U step a c

omit [DecidableEq α] in
theorem Reach.trans {U : List α} {step : α → List α} {a b c : α}
    (h1 : Reach U step a b) (h2 : Reach U step b c) : Reach U step a c := by
  induction h2 with
  | refl => exact h1
  | tail _ s ih => exact Reach.tail ih s

omit [DecidableEq α] in
theorem Reach.head {U : List α} {step : α → List α} {a b c : α}
    (h1 : Step U step a b) (h2 : Reach U step b c) : Reach U step a c :=
  (Reach.tail (Reach.refl a) h1).trans h2

omit [DecidableEq α] in
theorem Reach.mem {U : List α} {step : α → List α} {a b : α}
    (ha : a ∈ U) (h : Reach U step a b) : b ∈ U := by
  cases h with
  | refl => exact ha
  | tail _ s => exact s.2

theorem go_sound (U : List α) (step : α → List α) (work seen : List α) :
    ∀ r ∈ go U step work seen, r ∈ seen ∨ ∃ w ∈ work, w ∈ U ∧ Reach U step w r := by
  fun_induction go U step work seen with
  | case1 seen => exact fun r hr => Or.inl hr
  | case2 seen x work hs ih => exact fun r hr => (ih r hr).imp_right fun ⟨w, hw, h⟩ => ⟨w, List.mem_cons_of_mem _ hw, h⟩
  | case3 seen x work hs hu ih =>
    intro r hr
    rcases ih r hr with h | ⟨w, hw, hwU, hreach⟩
    · rcases List.mem_cons.mp h with rfl | h
      · exact Or.inr ⟨r, List.mem_cons_self, hu, Reach.refl r⟩
      · exact Or.inl h
    · rcases List.mem_append.mp hw with hw | hw
      · exact Or.inr ⟨x, List.mem_cons_self, hu, Reach.head ⟨hw, hwU⟩ hreach⟩
      · exact Or.inr ⟨w, List.mem_cons_of_mem _ hw, hwU, hreach⟩
  | case4 seen x work hs hu ih => exact fun r hr => (ih r hr).imp_right fun ⟨w, hw, h⟩ => ⟨w, List.mem_cons_of_mem _ hw, h⟩

/-- The invariant of `go`: `seen` is closed under `Step` modulo the worklist (a successor of a seen node is seen or
    waiting).  It survives dropping a head that is already seen or lies outside `U` ... -/
theorem closedMod_drop {U : List α} {step : α → List α} {x : α} {work seen : List α}
    (hx : x ∈ seen ∨ x ∉ U)
    (hinv : ∀ a ∈ seen, ∀ b, Step U step a b → b ∈ seen ∨ b ∈ x :: work) :
    ∀ a ∈ seen, ∀ b, Step U step a b → b ∈ seen ∨ b ∈ work := by
  intro a ha b hb
  rcases hinv a ha b hb with h | h
  · exact Or.inl h
  · rcases List.mem_cons.mp h with rfl | h
    · exact hx.elim Or.inl fun hu => absurd hb.2 hu
    · exact Or.inr h

/-- ... and marking the head `x` while pushing its successors. -/
theorem closedMod_push {U : List α} {step : α → List α} {x : α} {work seen : List α}
    (hinv : ∀ a ∈ seen, ∀ b, Step U step a b → b ∈ seen ∨ b ∈ x :: work) :
    ∀ a ∈ x :: seen, ∀ b, Step U step a b → b ∈ x :: seen ∨ b ∈ step x ++ work := by
  intro a ha b hb
  rcases List.mem_cons.mp ha with rfl | ha
  · exact Or.inr (List.mem_append_left _ hb.1)
  · rcases hinv a ha b hb with h | h
    · exact Or.inl (List.mem_cons_of_mem _ h)
    · rcases List.mem_cons.mp h with rfl | h
      · exact Or.inl List.mem_cons_self
      · exact Or.inr (List.mem_append_right _ h)

theorem go_complete (U : List α) (step : α → List α) (work seen : List α)
    (hinv : ∀ a ∈ seen, ∀ b, Step U step a b → b ∈ seen ∨ b ∈ work) :
    (∀ a ∈ seen, a ∈ go U step work seen) ∧
    (∀ w ∈ work, w ∈ U → w ∈ go U step work seen) ∧
    (∀ a ∈ go U step work seen, ∀ b, Step U step a b → b ∈ go U step work seen) := by
  fun_induction go U step work seen with
  | case1 seen =>
    exact ⟨fun a h => h, fun w h _ => (nomatch h),
      fun a ha b hb => (hinv a ha b hb).elim id fun h => (nomatch h)⟩
  | case2 seen x work hs ih =>
    obtain ⟨h1, h2, h3⟩ := ih (closedMod_drop (Or.inl hs) hinv)
    refine ⟨h1, fun w hw hwU => ?_, h3⟩
    rcases List.mem_cons.mp hw with rfl | hw
    · exact h1 _ hs
    · exact h2 w hw hwU
  | case3 seen x work hs hu ih =>
    obtain ⟨h1, h2, h3⟩ := ih (closedMod_push hinv)
    refine ⟨fun a ha => h1 a (List.mem_cons_of_mem _ ha), fun w hw hwU => ?_, h3⟩
    rcases List.mem_cons.mp hw with rfl | hw
    · exact h1 _ List.mem_cons_self
    · exact h2 w (List.mem_append_right _ hw) hwU
  | case4 seen x work hs hu ih =>
    obtain ⟨h1, h2, h3⟩ := ih (closedMod_drop (Or.inr hu) hinv)
    refine ⟨h1, fun w hw hwU => ?_, h3⟩
    rcases List.mem_cons.mp hw with rfl | hw
    · exact absurd hwU hu
    · exact h2 w hw hwU

def closure (U : List α) (step : α → List α) (init : List α) : List α := go U step init []

theorem mem_closure (U : List α) (step : α → List α) (init : List α) (r : α) :
    r ∈ closure U step init ↔ ∃ w ∈ init, w ∈ U ∧ Reach U step w r := by
  constructor
  · intro h
    rcases go_sound U step init [] r h with h | h
    · cases h
    · exact h
  · rintro ⟨w, hw, hwU, hreach⟩
    obtain ⟨_, h2, h3⟩ := go_complete U step init [] (by intro a ha; cases ha)
    induction hreach with
    | refl => exact h2 w hw hwU
    | tail _ s ih => exact h3 _ ih _ s

theorem closure_subset {U : List α} {step : α → List α} {init : List α} {r : α}
    (h : r ∈ closure U step init) : r ∈ U := by
  obtain ⟨w, _, hwU, hr⟩ := (mem_closure U step init r).mp h
  cases hr with
  | refl => exact hwU
  | tail _ s => exact s.2

end Closure
