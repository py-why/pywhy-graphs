import Pw.Core.Closure
open Closure

/-! # Mixed graphs as one edge list per edge type (the sub-graphs `directed`, `bidirected`, `undirected`, `circle` of a
`MixedEdgeGraph`), with networkx' neighbour queries and the endpoint marks of an edge.  `HasEdge` and `WF` speak of
the first three layers; the circle layer is carried for the PAG models and constrained where it is used. -/

/-- mixed graph over Nat-labelled nodes; every layer is a plain edge list.
    `dir`/`circ` hold ordered pairs (u,v) meaning u -> v resp. u -o v (circle mark at v);
    `bi`/`un` hold unordered pairs (either orientation may be stored). -/
structure MG where
  nodes : List Nat
  dir : List (Nat × Nat) := []
  bi  : List (Nat × Nat) := []
  un  : List (Nat × Nat) := []
  circ : List (Nat × Nat) := []
deriving Repr, DecidableEq

namespace MG
def parents (G : MG) (v : Nat) : List Nat := (G.dir.filter (·.2 == v)).map (·.1)
def children (G : MG) (v : Nat) : List Nat := (G.dir.filter (·.1 == v)).map (·.2)
def sym (es : List (Nat × Nat)) (v : Nat) : List Nat :=
  (es.filter (·.1 == v)).map (·.2) ++ (es.filter (·.2 == v)).map (·.1)
def spouses (G : MG) (v : Nat) : List Nat := sym G.bi v
def unbrs (G : MG) (v : Nat) : List Nat := sym G.un v

/-- ancestors of Z (including Z): closure under `parents` -/
def anc (G : MG) (Z : List Nat) : List Nat := closure G.nodes G.parents Z

inductive Mark | tail | head deriving DecidableEq, Repr

/-- there is an edge between a and b whose mark at a is `ma` and at b is `mb` -/
def HasEdge (G : MG) (a b : Nat) (ma mb : Mark) : Prop :=
  (ma = .tail ∧ mb = .head ∧ (a, b) ∈ G.dir) ∨
  (ma = .head ∧ mb = .tail ∧ (b, a) ∈ G.dir) ∨
  (ma = .head ∧ mb = .head ∧ ((a, b) ∈ G.bi ∨ (b, a) ∈ G.bi)) ∨
  (ma = .tail ∧ mb = .tail ∧ ((a, b) ∈ G.un ∨ (b, a) ∈ G.un))

theorem mem_filter_fst {es : List (Nat × Nat)} {v w : Nat} :
    w ∈ (es.filter (·.1 == v)).map (·.2) ↔ (v, w) ∈ es := by
  simp only [List.mem_map, List.mem_filter, beq_iff_eq]
  constructor
  · rintro ⟨⟨a, b⟩, ⟨h, rfl⟩, rfl⟩; exact h
  · intro h; exact ⟨(v, w), ⟨h, rfl⟩, rfl⟩

theorem mem_filter_snd {es : List (Nat × Nat)} {v w : Nat} :
    w ∈ (es.filter (·.2 == v)).map (·.1) ↔ (w, v) ∈ es := by
  simp only [List.mem_map, List.mem_filter, beq_iff_eq]
  constructor
  · rintro ⟨⟨a, b⟩, ⟨h, rfl⟩, rfl⟩; exact h
  · intro h; exact ⟨(w, v), ⟨h, rfl⟩, rfl⟩

theorem mem_parents {G : MG} {v p : Nat} : p ∈ G.parents v ↔ (p, v) ∈ G.dir := mem_filter_snd

theorem mem_children {G : MG} {v c : Nat} : c ∈ G.children v ↔ (v, c) ∈ G.dir := mem_filter_fst

theorem mem_sym {es : List (Nat × Nat)} {v w : Nat} : w ∈ sym es v ↔ ((v, w) ∈ es ∨ (w, v) ∈ es) := by
  rw [sym, List.mem_append, mem_filter_fst, mem_filter_snd]

theorem hasEdge_tail_head {G : MG} {a b : Nat} : HasEdge G a b .tail .head ↔ b ∈ G.children a := by
  simp [HasEdge, mem_children]

theorem hasEdge_head_tail {G : MG} {a b : Nat} : HasEdge G a b .head .tail ↔ b ∈ G.parents a := by
  simp [HasEdge, mem_parents]

theorem hasEdge_head_head {G : MG} {a b : Nat} : HasEdge G a b .head .head ↔ b ∈ G.spouses a := by
  simp [HasEdge, spouses, mem_sym]

theorem hasEdge_tail_tail {G : MG} {a b : Nat} : HasEdge G a b .tail .tail ↔ b ∈ G.unbrs a := by
  simp [HasEdge, unbrs, mem_sym]

/-- well-formed: endpoints of all directed, bidirected and undirected edges are nodes -/
def WF (G : MG) : Prop :=
  (∀ e ∈ G.dir, e.1 ∈ G.nodes ∧ e.2 ∈ G.nodes) ∧
  (∀ e ∈ G.bi, e.1 ∈ G.nodes ∧ e.2 ∈ G.nodes) ∧
  (∀ e ∈ G.un, e.1 ∈ G.nodes ∧ e.2 ∈ G.nodes)

theorem HasEdge.mem_nodes {G : MG} (h : G.WF) {a b : Nat} {ma mb : Mark} (he : HasEdge G a b ma mb) :
    b ∈ G.nodes := by
  obtain ⟨hd, hb, hu⟩ := h
  rcases he with ⟨_, _, h⟩ | ⟨_, _, h⟩ | ⟨_, _, h | h⟩ | ⟨_, _, h | h⟩
  · exact (hd _ h).2
  · exact (hd _ h).1
  · exact (hb _ h).2
  · exact (hb _ h).1
  · exact (hu _ h).2
  · exact (hu _ h).1
end MG
