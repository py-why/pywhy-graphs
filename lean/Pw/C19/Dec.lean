import Pw.C19.Scc
open Closure MG

/-! # C19: the brute-force decider of sigma-separation is the declarative definition -/
namespace C19

theorem mem_map_hop {l : List Nat} {mp mn : Mark} {h : Hop} :
    h ∈ l.map (⟨mp, mn, ·⟩) ↔ h.mp = mp ∧ h.mn = mn ∧ h.nx ∈ l := by
  obtain ⟨mp', mn', nx⟩ := h
  simp only [List.mem_map, Hop.mk.injEq]
  constructor
  · rintro ⟨w, hw, rfl, rfl, rfl⟩; exact ⟨rfl, rfl, hw⟩
  · rintro ⟨rfl, rfl, hw⟩; exact ⟨nx, hw, rfl, rfl, rfl⟩

theorem mem_hopsFrom {G : MG} {a : Nat} {h : Hop} :
    h ∈ hopsFrom G a ↔ HasEdge G a h.nx h.mp h.mn := by
  simp only [hopsFrom, List.mem_append, mem_map_hop, mem_children, mem_parents, spouses, unbrs,
    mem_sym, HasEdge, or_assoc]

theorem cons_mem_pathsFrom {G : MG} {f : Nat} {vis : List Nat} {a : Nat} {h : Hop} {t : List Hop} :
    h :: t ∈ pathsFrom G (f + 1) vis a ↔
      (h ∈ hopsFrom G a ∧ h.nx ∉ vis) ∧ t ∈ pathsFrom G f (h.nx :: vis) h.nx := by
  simp only [pathsFrom, List.mem_cons, reduceCtorEq, false_or, List.mem_flatMap, List.mem_filter,
    List.mem_map, List.cons.injEq, decide_eq_true_eq, exists_eq_right_right]

theorem mem_pathsFrom (G : MG) (f : Nat) (vis : List Nat) (a : Nat) (hs : List Hop) :
    hs ∈ pathsFrom G f vis a ↔
      ValidW G a hs ∧ hs.length ≤ f ∧ (hs.map (·.nx)).Nodup ∧ ∀ v ∈ hs.map (·.nx), v ∉ vis := by
  induction f generalizing vis a hs with
  | zero =>
    simp only [pathsFrom, List.mem_singleton, Nat.le_zero, List.length_eq_zero_iff]
    constructor
    · rintro rfl; exact ⟨trivial, rfl, List.nodup_nil, nofun⟩
    · exact fun h => h.2.1
  | succ f ih =>
    cases hs with
    | nil =>
      rw [pathsFrom]
      exact ⟨fun _ => ⟨trivial, Nat.zero_le _, List.nodup_nil, nofun⟩, fun _ => List.mem_cons_self⟩
    | cons h t =>
      rw [cons_mem_pathsFrom, ih, mem_hopsFrom]
      simp only [ValidW, List.length_cons, List.map_cons, List.nodup_cons, List.mem_cons, not_or,
        forall_eq_or_imp, imp_and, forall_and, List.forall_mem_ne', Nat.add_le_add_iff_right]
      constructor
      · rintro ⟨⟨he, hvis⟩, hv, hl, hn, hh, ha⟩; exact ⟨⟨he, hv⟩, hl, ⟨hh, hn⟩, hvis, ha⟩
      · rintro ⟨⟨he, hv⟩, hl, ⟨hh, hn⟩, hvis, ha⟩; exact ⟨⟨he, hvis⟩, hv, hl, hn, hh, ha⟩

theorem mem_pathsFrom_start {G : MG} (hwf : G.WF) {x : Nat} {hs : List Hop} :
    hs ∈ pathsFrom G G.nodes.length [x] x ↔ ValidW G x hs ∧ (nodesOf x hs).Nodup := by
  simp only [mem_pathsFrom, nodesOf, List.nodup_cons, List.mem_singleton, List.forall_mem_ne']
  constructor
  · rintro ⟨hv, _, hn, hx⟩; exact ⟨hv, hx, hn⟩
  · rintro ⟨hv, hx, hn⟩
    -- a list of different nodes is not longer than the node list
    have := List.Nodup.length_le_of_subset hn (validW_nodes hwf hv)
    rw [List.length_map] at this
    exact ⟨hv, this, hn, hx⟩

theorem sigmaCondB_iff {G : MG} (hwf : G.WF) {Z : List Nat} (hZ : ∀ z ∈ Z, z ∈ G.nodes)
    {v : Nat} (hv : v ∈ G.nodes) {u w : Nat} {mi mo : Mark} :
    sigmaCondB G Z (G.anc Z) u mi v mo w = true ↔ sigmaCond G Z u mi v mo w := by
  unfold sigmaCondB sigmaCond
  split
  · simp only [decide_eq_true_eq, mem_anc hwf hZ]
  · simp only [Bool.or_eq_true, Bool.and_eq_true, decide_eq_true_eq, bne_iff_ne, ne_eq,
      scB_iff hwf hv, ← Decidable.imp_iff_not_or]

theorem openSigB_iff {G : MG} (hwf : G.WF) {Z : List Nat} (hZ : ∀ z ∈ Z, z ∈ G.nodes)
    {hs : List Hop} {e : Option (Nat × Mark)} {a : Nat} (ha : a ∈ G.nodes) (hv : ValidW G a hs) :
    openSigB G Z (G.anc Z) e a hs = true ↔ OpenSig G Z e a hs := by
  induction hs generalizing e a with
  | nil => cases e <;> simp only [openSigB, OpenSig]
  | cons h t ih =>
    have ht := fun e => ih (e := e) (HasEdge.mem_nodes hwf hv.1) hv.2
    match e with
    | none => simp only [openSigB, OpenSig, ht]
    | some (u, m) => simp only [openSigB, OpenSig, Bool.and_eq_true, sigmaCondB_iff hwf hZ ha, ht]

/-- **the decider is the definition**: `sigmaSepDec` answers `true` exactly when every path between
    X and Y is sigma-blocked by Z -/
theorem sigmaSepDec_iff {G : MG} (hwf : G.WF) {X Y Z : List Nat} (hX : ∀ x ∈ X, x ∈ G.nodes)
    (hZ : ∀ z ∈ Z, z ∈ G.nodes) :
    sigmaSepDec G X Y Z = true ↔ SigmaSep G X Y Z := by
  unfold sigmaSepDec SigmaSep SigmaConnPath
  simp only [List.all_eq_true, Bool.not_eq_true', List.any_eq_false, Bool.and_eq_true, beq_iff_eq,
    mem_pathsFrom_start hwf]
  refine forall_congr' fun x => forall_congr' fun hx => forall_congr' fun y => forall_congr' fun _ => ?_
  constructor
  · rintro h ⟨hs, hv, he, hn, ho⟩
    exact h hs ⟨hv, hn⟩ ⟨he, (openSigB_iff hwf hZ (hX x hx) hv).mpr ho⟩
  · rintro h hs ⟨hv, hn⟩ ⟨he, ho⟩
    exact h ⟨hs, hv, he, hn, (openSigB_iff hwf hZ (hX x hx) hv).mp ho⟩

end C19
