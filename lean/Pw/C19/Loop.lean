import Pw.C19.Scc
open Closure MG

/-! # C19: what the component loop writes -/
namespace C19

theorem mem_fanOut {l : List Nat} {f : Nat → List Nat} {e : Nat × Nat} :
    e ∈ l.flatMap (fun u => (f u).map (u, ·)) ↔ e.1 ∈ l ∧ e.2 ∈ f e.1 := by
  obtain ⟨u, v⟩ := e
  simp only [List.mem_flatMap, List.mem_map, Prod.mk.injEq, exists_eq_right_right]

theorem mem_fanIn {c ps : List Nat} {e : Nat × Nat} :
    e ∈ c.flatMap (fun v => ps.map (·, v)) ↔ e.2 ∈ c ∧ e.1 ∈ ps := by
  obtain ⟨u, v⟩ := e
  simp only [List.mem_flatMap, List.mem_map, Prod.mk.injEq, ← and_assoc, exists_and_right,
    exists_eq_right]

theorem mem_scompParents {G0 : MG} {c : List Nat} {p : Nat} :
    p ∈ scompParents G0 c ↔ p ∉ c ∧ ∃ k ∈ c, (p, k) ∈ G0.dir := by
  simp only [scompParents, List.mem_filter, List.mem_flatMap, mem_parents, decide_eq_true_eq]
  exact and_comm

theorem mem_scompCC {G0 : MG} {c : List Nat} {i : Nat} :
    i ∈ scompCC G0 c ↔ ∃ s, (∃ k ∈ c, (k, s) ∈ G0.bi ∨ (s, k) ∈ G0.bi) ∧ s ∉ c ∧ i ∈ sc G0 s := by
  simp only [scompCC, List.mem_filter, List.mem_flatMap, spouses, mem_sym, decide_eq_true_eq,
    and_assoc]

theorem mem_intra {G0 : MG} {c : List Nat} {e : Nat × Nat} :
    e ∈ intra G0 c ↔ e.1 ∈ c ∧ e.2 ∈ c ∧ e ∈ G0.dir := by
  simp only [intra, mem_fanOut, List.mem_filter, mem_children, decide_eq_true_eq]
  exact and_congr_right fun _ => and_comm

theorem mem_complete {c : List Nat} {e : Nat × Nat} :
    e ∈ complete c ↔ e.1 ∈ c ∧ e.2 ∈ c ∧ e.2 ≠ e.1 := by
  simp only [complete, mem_fanOut, List.mem_filter, decide_eq_true_eq]

/-- the loop removes `e` while processing `c` -/
def IntraD (G0 : MG) (c : List Nat) (e : Nat × Nat) : Prop := ¬ c.length ≤ 1 ∧ e ∈ intra G0 c
/-- the loop adds the directed edge `e` while processing `c` -/
def AddedD (G0 : MG) (c : List Nat) (e : Nat × Nat) : Prop :=
  ¬ c.length ≤ 1 ∧ e.2 ∈ c ∧ e.1 ∈ scompParents G0 c
/-- the loop adds the bidirected edge `e` while processing `c` -/
def AddedB (G0 : MG) (c : List Nat) (e : Nat × Nat) : Prop :=
  ¬ c.length ≤ 1 ∧ (e ∈ complete c ∨ (e.2 ∈ c ∧ e.1 ∈ scompCC G0 c))

theorem procComp_dir (G0 H : MG) (c : List Nat) (e : Nat × Nat) :
    e ∈ (procComp G0 H c).dir ↔ (e ∈ H.dir ∧ ¬ IntraD G0 c e) ∨ AddedD G0 c e := by
  unfold procComp IntraD AddedD
  by_cases hl : c.length ≤ 1
  · simp [hl]
  · simp only [hl, if_false, List.mem_append, List.mem_filter, mem_fanIn, decide_eq_true_eq,
      not_false_eq_true, true_and]

theorem procComp_bi (G0 H : MG) (c : List Nat) (e : Nat × Nat) :
    e ∈ (procComp G0 H c).bi ↔ e ∈ H.bi ∨ AddedB G0 c e := by
  unfold procComp AddedB
  by_cases hl : c.length ≤ 1
  · simp [hl]
  · simp only [hl, if_false, List.mem_append, mem_fanIn, not_false_eq_true, true_and, or_assoc]

theorem procComp_frame (G0 H : MG) (c : List Nat) :
    (procComp G0 H c).nodes = H.nodes ∧ (procComp G0 H c).un = H.un ∧
      (procComp G0 H c).circ = H.circ := by
  unfold procComp; split <;> exact ⟨rfl, rfl, rfl⟩

theorem foldl_frame (G0 : MG) (cs : List (List Nat)) (H : MG) :
    (cs.foldl (procComp G0) H).nodes = H.nodes ∧ (cs.foldl (procComp G0) H).un = H.un ∧
      (cs.foldl (procComp G0) H).circ = H.circ := by
  induction cs generalizing H with
  | nil => exact ⟨rfl, rfl, rfl⟩
  | cons c cs ih =>
    obtain ⟨h1, h2, h3⟩ := ih (procComp G0 H c)
    obtain ⟨p1, p2, p3⟩ := procComp_frame G0 H c
    exact ⟨h1.trans p1, h2.trans p2, h3.trans p3⟩

theorem foldl_circ (G0 : MG) : ∀ (cs : List (List Nat)) (H : MG),
    (cs.foldl (procComp G0) H).circ = H.circ :=
  fun cs H => (foldl_frame G0 cs H).2.2

theorem foldl_bi (G0 : MG) (cs : List (List Nat)) (H : MG) (e : Nat × Nat) :
    e ∈ (cs.foldl (procComp G0) H).bi ↔ e ∈ H.bi ∨ ∃ c ∈ cs, AddedB G0 c e := by
  induction cs generalizing H with
  | nil => simp only [List.foldl_nil, List.not_mem_nil, false_and, exists_false, or_false]
  | cons c cs ih =>
    rw [List.foldl_cons, ih, procComp_bi]
    simp only [List.mem_cons, exists_eq_or_imp, or_assoc]

/-- directed layer after the loop, provided no edge written for one component is an inner edge of
    another one (true for strongly connected components, which are disjoint) -/
theorem foldl_dir (G0 : MG) (cs : List (List Nat)) (H : MG)
    (hyp : ∀ c ∈ cs, ∀ c' ∈ cs, ∀ e, AddedD G0 c e → ¬ IntraD G0 c' e) (e : Nat × Nat) :
    e ∈ (cs.foldl (procComp G0) H).dir ↔
      (e ∈ H.dir ∧ ∀ c ∈ cs, ¬ IntraD G0 c e) ∨ ∃ c ∈ cs, AddedD G0 c e := by
  induction cs generalizing H with
  | nil => simp only [List.foldl_nil, List.not_mem_nil, false_and, exists_false, or_false,
      false_imp_iff, implies_true, and_true]
  | cons c cs ih =>
    -- an edge added for `c` survives the rest of the loop
    have hA : AddedD G0 c e → ∀ c' ∈ cs, ¬ IntraD G0 c' e :=
      fun h c' hc' => hyp c List.mem_cons_self c' (List.mem_cons_of_mem _ hc') e h
    rw [List.foldl_cons,
      ih _ (fun a ha b hb => hyp a (List.mem_cons_of_mem _ ha) b (List.mem_cons_of_mem _ hb)),
      procComp_dir, or_and_right, and_iff_left_of_imp hA, and_assoc, or_assoc]
    simp only [List.mem_cons, forall_eq_or_imp, exists_eq_or_imp]

end C19
