import Pw.C19.Loop
import Pw.C19.Char
open Closure MG

/-! # C19: the model of `acyclification` satisfies the edge characterisation, for every component order -/
namespace C19

theorem intraD_sc {G : MG} (hwf : G.WF) {r i j : Nat} (hr : r ∈ G.nodes) :
    IntraD G (sc G r) (i, j) ↔
      ¬ (sc G r).length ≤ 1 ∧ SC G r i ∧ SC G r j ∧ (i, j) ∈ G.dir := by
  simp only [IntraD, mem_intra, mem_sc hwf hr]

theorem addedD_sc {G : MG} (hwf : G.WF) {r i j : Nat} (hr : r ∈ G.nodes) :
    AddedD G (sc G r) (i, j) ↔
      ¬ (sc G r).length ≤ 1 ∧ SC G r j ∧ ¬ SC G r i ∧ ∃ k, SC G r k ∧ (i, k) ∈ G.dir := by
  simp only [AddedD, mem_scompParents, mem_sc hwf hr]

theorem addedB_sc {G : MG} (hwf : G.WF) {r i j : Nat} (hr : r ∈ G.nodes) :
    AddedB G (sc G r) (i, j) ↔
      ¬ (sc G r).length ≤ 1 ∧ ((SC G r i ∧ SC G r j ∧ j ≠ i) ∨
        (SC G r j ∧ ∃ s k, ¬ SC G r s ∧ SC G r k ∧ ((k, s) ∈ G.bi ∨ (s, k) ∈ G.bi) ∧ SC G s i)) := by
  simp only [AddedB, mem_complete, mem_scompCC, mem_sc hwf hr]
  refine and_congr_right fun _ => or_congr_right (and_congr_right fun _ => ?_)
  constructor
  · rintro ⟨s, ⟨k, hk, he⟩, hs, hi⟩
    exact ⟨s, k, hs, hk, he, (mem_sc hwf (mem_nodes_of_bi hwf he).2).mp hi⟩
  · rintro ⟨s, k, hs, hk, he, hi⟩
    exact ⟨s, ⟨k, hk, he⟩, hs, (mem_sc hwf (mem_nodes_of_bi hwf he).2).mpr hi⟩

theorem mem_acy_dir {G : MG} (hwf : G.WF) {order : List Nat} (ho : IsOrder G order) {e : Nat × Nat} :
    e ∈ (acy G order).dir ↔
      (e ∈ G.dir ∧ ∀ r ∈ G.nodes, ¬ IntraD G (sc G r) e) ∨ ∃ r ∈ G.nodes, AddedD G (sc G r) e := by
  rw [acy, foldl_dir, forall_comps hwf ho, exists_comps hwf ho]
  -- an edge written for a component has its head inside and its tail outside it, so it is an inner
  -- edge of no component
  simp only [forall_comps hwf ho]
  rintro r hr r' hr' ⟨i, j⟩ ha hi
  obtain ⟨_, hrj, hri, _⟩ := (addedD_sc hwf hr).mp ha
  obtain ⟨_, hri', hrj', _⟩ := (intraD_sc hwf hr').mp hi
  exact hri (hrj.trans (hrj'.symm.trans hri'))

theorem mem_acy_bi {G : MG} (hwf : G.WF) {order : List Nat} (ho : IsOrder G order) {e : Nat × Nat} :
    e ∈ (acy G order).bi ↔ e ∈ G.bi ∨ ∃ r ∈ G.nodes, AddedB G (sc G r) e := by
  rw [acy, foldl_bi, exists_comps hwf ho]

/-- C19, directed edges of the result -/
theorem acy_dir {G : MG} {order : List Nat} (hd : Dom G) (ho : IsOrder G order) (i j : Nat) :
    (i, j) ∈ (acy G order).dir ↔ DirSpec G i j := by
  have hwf := hd.wf
  rw [mem_acy_dir hwf ho]
  constructor
  · rintro (⟨hij, hno⟩ | ⟨r, hr, h⟩)
    · -- an edge of `G` inside a component would have been removed with it
      have hj := (hwf.1 _ hij).2
      refine ⟨fun hsc => ?_, j, SC.refl G j, hij⟩
      refine hno j hj ((intraD_sc hwf hj).mpr ⟨fun ht => ?_, hsc.symm, SC.refl G j, hij⟩)
      rw [← SC.eq_of_trivial hwf hj ht hsc.symm] at hij
      exact hd.noloopD j hij
    · obtain ⟨_, hrj, hri, k, hrk, hik⟩ := (addedD_sc hwf hr).mp h
      exact ⟨fun hsc => hri (hrj.trans hsc.symm), k, hrj.symm.trans hrk, hik⟩
  · intro h
    have hj := (DirSpec.mem_nodes hwf h).2
    obtain ⟨hnsc, k, hjk, hik⟩ := h
    by_cases ht : (sc G j).length ≤ 1
    · -- `j` is alone in its component: the edge is one of `G` and is never touched
      rw [← SC.eq_of_trivial hwf hj ht hjk] at hik
      refine Or.inl ⟨hik, fun r hr hin => ?_⟩
      obtain ⟨_, hri, hrj, _⟩ := (intraD_sc hwf hr).mp hin
      exact hnsc (hri.symm.trans hrj)
    · exact Or.inr ⟨j, hj, (addedD_sc hwf hj).mpr ⟨ht, SC.refl G j, fun h => hnsc h.symm, k, hjk, hik⟩⟩

theorem acy_bi_sound {G : MG} {order : List Nat} (hd : Dom G) (ho : IsOrder G order) {i j : Nat}
    (h : (i, j) ∈ (acy G order).bi) : BiSpec G i j := by
  have hwf := hd.wf
  rcases (mem_acy_bi hwf ho).mp h with h | ⟨r, hr, h⟩
  · refine ⟨?_, Or.inr ⟨i, j, SC.refl G i, SC.refl G j, Or.inl h⟩⟩
    rintro rfl; exact hd.noloopB i h
  · obtain ⟨_, ⟨hri, hrj, hne⟩ | ⟨hrj, s, k, hrs, hrk, he, hsi⟩⟩ := (addedB_sc hwf hr).mp h
    · exact ⟨fun e => hne e.symm, Or.inl (hri.symm.trans hrj)⟩
    · refine ⟨?_, Or.inr ⟨s, k, hsi.symm, hrj.symm.trans hrk, he.symm⟩⟩
      rintro rfl; exact hrs (hrj.trans hsi.symm)

/-- completeness for a non-trivial component: while processing the component of `j` the loop writes
    `(i, j)` for every `i` that the characterisation joins to `j` -/
theorem acy_bi_head {G : MG} {order : List Nat} (hwf : G.WF) (ho : IsOrder G order) {i j : Nat}
    (hj : j ∈ G.nodes) (hnt : ¬ (sc G j).length ≤ 1) (h : BiSpec G i j) : (i, j) ∈ (acy G order).bi := by
  refine (mem_acy_bi hwf ho).mpr (Or.inr ⟨j, hj, (addedB_sc hwf hj).mpr ⟨hnt, ?_⟩⟩)
  obtain ⟨hne, h⟩ := h
  by_cases hsc : SC G i j
  · exact Or.inl ⟨hsc.symm, SC.refl G j, Ne.symm hne⟩
  · obtain ⟨a, b, hia, hjb, he⟩ := h.resolve_left hsc
    exact Or.inr ⟨SC.refl G j, a, b, fun hja => hsc (hia.trans hja.symm), hjb, he.symm, hia.symm⟩

/-- C19, bidirected edges of the result -/
theorem acy_bi {G : MG} {order : List Nat} (hd : Dom G) (ho : IsOrder G order) (i j : Nat) :
    ((i, j) ∈ (acy G order).bi ∨ (j, i) ∈ (acy G order).bi) ↔ BiSpec G i j := by
  have hwf := hd.wf
  constructor
  · rintro (h | h)
    · exact acy_bi_sound hd ho h
    · exact (acy_bi_sound hd ho h).symm
  · intro h
    obtain ⟨hi, hj⟩ := BiSpec.mem_nodes hwf h
    by_cases hntj : (sc G j).length ≤ 1
    · by_cases hnti : (sc G i).length ≤ 1
      · -- `i` and `j` are alone in their components: the edge is one of `G` and is never touched
        obtain ⟨hne, hsc | ⟨a, b, hia, hjb, he⟩⟩ := h
        · exact absurd (SC.eq_of_trivial hwf hi hnti hsc) hne
        · rw [← SC.eq_of_trivial hwf hi hnti hia,
            ← SC.eq_of_trivial hwf hj hntj hjb] at he
          exact he.imp (fun h => (mem_acy_bi hwf ho).mpr (Or.inl h))
            (fun h => (mem_acy_bi hwf ho).mpr (Or.inl h))
      · exact Or.inr (acy_bi_head hwf ho hi hnti h.symm)
    · exact Or.inl (acy_bi_head hwf ho hj hntj h)

theorem acy_nodes (G : MG) (order : List Nat) : (acy G order).nodes = G.nodes :=
  (foldl_frame G _ G).1

theorem acy_un (G : MG) (order : List Nat) : (acy G order).un = G.un :=
  (foldl_frame G _ G).2.1

theorem acy_acyclic {G : MG} {order : List Nat} (hd : Dom G) (ho : IsOrder G order) :
    Acyclic (acy G order) := acyclic_of_dirSpec (acy_dir hd ho)

/-- **C19, structural part.** For every input graph of the property's domain and every order in
    which the components are visited, the model of `acyclification` returns the acyclification. -/
theorem acy_isAcyclification {G : MG} {order : List Nat} (hd : Dom G) (ho : IsOrder G order) :
    IsAcyclification G (acy G order) :=
  ⟨acy_nodes G order, acy_dir hd ho, acy_bi hd ho, acy_un G order, acy_acyclic hd ho⟩

theorem acy_order_indep {G : MG} {o1 o2 : List Nat} (hd : Dom G) (h1 : IsOrder G o1) (h2 : IsOrder G o2) :
    (acy G o1).nodes = (acy G o2).nodes ∧
    (∀ e, e ∈ (acy G o1).dir ↔ e ∈ (acy G o2).dir) ∧
    (∀ i j, ((i, j) ∈ (acy G o1).bi ∨ (j, i) ∈ (acy G o1).bi) ↔
            ((i, j) ∈ (acy G o2).bi ∨ (j, i) ∈ (acy G o2).bi)) :=
  (acy_isAcyclification hd h1).unique (acy_isAcyclification hd h2)

/-- **`copy=True` leaves the caller's graph unchanged** (and `copy=False` hands back the written
    object) in the state model of the call -/
theorem acyclificationCall_copy_pure (G : MG) (order : List Nat) :
    (acyclificationCall true G order).1 = G ∧ (acyclificationCall true G order).2 = acy G order := by
  simp [acyclificationCall]

theorem acyclificationCall_inplace (G : MG) (order : List Nat) :
    (acyclificationCall false G order).1 = acy G order ∧
    (acyclificationCall false G order).2 = acy G order := by
  simp [acyclificationCall]

end C19
