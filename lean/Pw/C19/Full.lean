import Pw.C19.Acy
import Pw.C19.Dec
open Closure MG

/-! # C19: `sigma_separated` decides m-separation in the acyclification; the sigma clause, given T8 -/
namespace C19

/-- `m_separated`'s acyclicity guard never fires on the acyclification -/
theorem sigmaSeparatedE_eq {G : MG} {order : List Nat} (hd : Dom G) (hu : G.un = [])
    (ho : IsOrder G order) (X Y Z : List Nat) :
    sigmaSeparatedE G order X Y Z = .ok (sigmaSeparated G order X Y Z) := by
  have hA := acy_isAcyclification hd ho
  unfold sigmaSeparatedE sigmaSeparated mSeparatedE
  rw [(hasCycle_false_iff _ (hA.wf hd.wf)).mpr hA.acyclic]
  rfl

/-- **unconditional part of the sigma clause**: the model of `sigma_separated` decides path-level
    m-separation in the acyclification (by C01's theorem) -/
theorem sigmaSeparated_iff_MSep_acy {G : MG} {order : List Nat} (hd : Dom G) (hu : G.un = [])
    (ho : IsOrder G order) (X Y Z : List Nat) (hX : ∀ x ∈ X, x ∈ G.nodes) (hZ : ∀ z ∈ Z, z ∈ G.nodes)
    (hXZ : ∀ x ∈ X, x ∉ Z) :
    sigmaSeparated G order X Y Z = true ↔ MSep (acy G order) X Y Z := by
  have hA := acy_isAcyclification hd ho
  unfold sigmaSeparated
  exact mSeparated_iff_MSep _ (hA.wf hd.wf) (noUndirAtHead_of_un_nil _ (by rw [acy_un, hu]))
    (hA.noSelfLoop hu) X Y Z (by rw [acy_nodes]; exact hX) (by rw [acy_nodes]; exact hZ) hXZ

/-- **T8 (Forré–Mooij)** as a statement: sigma-separation in G = m-separation in any acyclification
    of G, for the inputs of the property.  The theorems of this file take it as an explicit
    hypothesis; it is PROVED in `Pw/T8` and discharged in `Pw/C19/Sigma.lean` (`C19.forreMooij`). -/
def ForreMooij : Prop :=
  ∀ (G A : MG), Dom G → G.un = [] → IsAcyclification G A →
    ∀ X Y Z : List Nat, (∀ x ∈ X, x ∈ G.nodes) → (∀ y ∈ Y, y ∈ G.nodes) → (∀ z ∈ Z, z ∈ G.nodes) →
      (∀ x ∈ X, x ∉ Y ∧ x ∉ Z) → (∀ y ∈ Y, y ∉ Z) →
      (MSep A X Y Z ↔ SigmaSep G X Y Z)

/-- the full sigma clause of C19 for the model -/
def C19_sigma_full : Prop :=
  ∀ (G : MG) (order : List Nat), Dom G → G.un = [] → IsOrder G order →
    ∀ X Y Z : List Nat, (∀ x ∈ X, x ∈ G.nodes) → (∀ y ∈ Y, y ∈ G.nodes) → (∀ z ∈ Z, z ∈ G.nodes) →
      (∀ x ∈ X, x ∉ Y ∧ x ∉ Z) → (∀ y ∈ Y, y ∉ Z) →
      (sigmaSeparatedE G order X Y Z = .ok true ↔ SigmaSep G X Y Z) ∧
      (sigmaSeparatedE G order X Y Z = .ok false ↔ ¬ SigmaSep G X Y Z)

theorem C19_sigma_full_of_T8 (T8 : ForreMooij) : C19_sigma_full := by
  intro G order hd hu ho X Y Z hX hY hZ hXYZ hYZ
  have key := sigmaSeparated_iff_MSep_acy hd hu ho X Y Z hX hZ (fun x hx => (hXYZ x hx).2)
  have t8 := T8 G (acy G order) hd hu (acy_isAcyclification hd ho) X Y Z hX hY hZ hXYZ hYZ
  rw [sigmaSeparatedE_eq hd hu ho, ← t8, ← key]
  simp only [Except.ok.injEq, Bool.not_eq_true, and_self]

theorem sigmaSeparated_eq_dec_of_T8 (T8 : ForreMooij) {G : MG} {order : List Nat} (hd : Dom G)
    (hu : G.un = []) (ho : IsOrder G order) (X Y Z : List Nat) (hX : ∀ x ∈ X, x ∈ G.nodes)
    (hY : ∀ y ∈ Y, y ∈ G.nodes) (hZ : ∀ z ∈ Z, z ∈ G.nodes) (hXYZ : ∀ x ∈ X, x ∉ Y ∧ x ∉ Z)
    (hYZ : ∀ y ∈ Y, y ∉ Z) :
    sigmaSeparated G order X Y Z = sigmaSepDec G X Y Z := by
  have key := sigmaSeparated_iff_MSep_acy hd hu ho X Y Z hX hZ (fun x hx => (hXYZ x hx).2)
  have t8 := T8 G (acy G order) hd hu (acy_isAcyclification hd ho) X Y Z hX hY hZ hXYZ hYZ
  exact Bool.eq_iff_iff.mpr (key.trans (t8.trans (sigmaSepDec_iff hd.wf hX hZ).symm))

end C19
