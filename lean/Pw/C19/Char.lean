import Pw.C19.Scc
open Closure MG

/-! # C19: what the edge characterisation implies, for any graph that has it -/
namespace C19

theorem BiSpec.symm {G : MG} {i j : Nat} (h : BiSpec G i j) : BiSpec G j i := by
  obtain ⟨hne, h⟩ := h
  refine ⟨fun e => hne e.symm, ?_⟩
  rcases h with h | ⟨a, b, ha, hb, he⟩
  · exact Or.inl h.symm
  · exact Or.inr ⟨b, a, hb, ha, he.symm⟩

theorem mem_nodes_of_bi {G : MG} (hwf : G.WF) {a b : Nat} (he : (a, b) ∈ G.bi ∨ (b, a) ∈ G.bi) :
    a ∈ G.nodes ∧ b ∈ G.nodes :=
  he.elim (hwf.2.1 _) fun h => (hwf.2.1 _ h).symm

theorem DirSpec.mem_nodes {G : MG} (hwf : G.WF) {i j : Nat} (h : DirSpec G i j) :
    i ∈ G.nodes ∧ j ∈ G.nodes := by
  obtain ⟨_, k, hjk, hik⟩ := h
  exact ⟨(hwf.1 _ hik).1, Anc.mem_nodes hwf hjk.2 (hwf.1 _ hik).2⟩

theorem BiSpec.mem_nodes {G : MG} (hwf : G.WF) {i j : Nat} (h : BiSpec G i j) :
    i ∈ G.nodes ∧ j ∈ G.nodes := by
  obtain ⟨hne, h | ⟨a, b, hia, hjb, he⟩⟩ := h
  · -- different nodes of one component lie on a directed cycle
    exact ⟨(Anc.eq_or_mem_nodes hwf h.1).resolve_left hne,
      (Anc.eq_or_mem_nodes hwf h.2).resolve_left (Ne.symm hne)⟩
  · have han := mem_nodes_of_bi hwf he
    exact ⟨Anc.mem_nodes hwf hia.2 han.1, Anc.mem_nodes hwf hjb.2 han.2⟩

theorem anc_of_dirSpec {G A : MG} (h : ∀ i j, (i, j) ∈ A.dir ↔ DirSpec G i j) {a b : Nat}
    (hab : Anc A a b) : Anc G a b := by
  induction hab with
  | refl => exact Anc.refl _
  | step e _ ih =>
    obtain ⟨_, k, hjk, hik⟩ := (h _ _).mp e
    exact (Anc.step hik hjk.2).trans ih

/-- the characterisation of the directed layer alone forces acyclicity -/
theorem acyclic_of_dirSpec {G A : MG} (h : ∀ i j, (i, j) ∈ A.dir ↔ DirSpec G i j) : Acyclic A := by
  intro a b hab hba
  have h1 : Anc G a b := anc_of_dirSpec h (Anc.step hab (Anc.refl b))
  exact ((h a b).mp hab).1 ⟨h1, anc_of_dirSpec h hba⟩

theorem IsAcyclification.wf {G A : MG} (hwf : G.WF) (h : IsAcyclification G A) : A.WF := by
  refine ⟨?_, ?_, ?_⟩
  · rintro ⟨i, j⟩ he
    rw [h.nodes]; exact DirSpec.mem_nodes hwf ((h.dir i j).mp he)
  · rintro ⟨i, j⟩ he
    rw [h.nodes]; exact BiSpec.mem_nodes hwf ((h.bi i j).mp (Or.inl he))
  · intro e he
    rw [h.nodes]; exact hwf.2.2 e (h.un ▸ he)

theorem IsAcyclification.noSelfLoop {G A : MG} (hu : G.un = []) (h : IsAcyclification G A) :
    NoSelfLoop A :=
  noSelfLoop_of_irrefl (fun a h1 => ((h.dir a a).mp h1).1 (SC.refl G a))
    (fun a h1 => ((h.bi a a).mp (Or.inl h1)).1 rfl) (fun a h1 => by rw [h.un, hu] at h1; cases h1)

/-- the characterisation determines the result: two acyclifications of `G` have the same nodes and
    the same edge sets (so comparing the implementation with `acySpecG` loses nothing) -/
theorem IsAcyclification.unique {G A A' : MG} (h : IsAcyclification G A) (h' : IsAcyclification G A') :
    A.nodes = A'.nodes ∧ (∀ e, e ∈ A.dir ↔ e ∈ A'.dir) ∧
    (∀ i j, ((i, j) ∈ A.bi ∨ (j, i) ∈ A.bi) ↔ ((i, j) ∈ A'.bi ∨ (j, i) ∈ A'.bi)) :=
  ⟨h.nodes.trans h'.nodes.symm, fun (i, j) => (h.dir i j).trans (h'.dir i j).symm,
    fun i j => (h.bi i j).trans (h'.bi i j).symm⟩

end C19
