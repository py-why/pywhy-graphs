import Pw.C19.Oracle
import Pw.T8.Main
import Pw.C01.Symm
open Closure MG

/-! # C19, sigma clause, unconditional

T8 (Forré–Mooij) is proved in `Pw/T8` (`C19.sigmaSep_iff_mSep`).  It discharges the hypothesis
`ForreMooij` of the conditional theorems of `Pw/C19/Full.lean`. -/
namespace C19

/-- T8 in the form in which `Full.lean` assumes it -/
theorem forreMooij : ForreMooij := by
  intro G A hd hu hA X Y Z _ _ hZ hXYZ hYZ
  exact (sigmaSep_iff_mSep hd hu hA X Y Z hZ (fun x hx => (hXYZ x hx).2) hYZ).symm

/-- **C19, second sentence.** On every input of the property and for every order in which the
    components are visited, the model of `sigma_separated` returns (never raises, the acyclicity
    guard of `m_separated` cannot fire) and answers `True` iff every path between X and Y is
    sigma-blocked by Z. -/
theorem C19_sigma_full_holds : C19_sigma_full := C19_sigma_full_of_T8 forreMooij

/-- the model of `sigma_separated` equals the brute-force path decider used as run-time oracle -/
theorem sigmaSeparated_eq_dec {G : MG} {order : List Nat} (hd : Dom G) (hu : G.un = [])
    (ho : IsOrder G order) (X Y Z : List Nat) (hX : ∀ x ∈ X, x ∈ G.nodes)
    (hY : ∀ y ∈ Y, y ∈ G.nodes) (hZ : ∀ z ∈ Z, z ∈ G.nodes) (hXYZ : ∀ x ∈ X, x ∉ Y ∧ x ∉ Z)
    (hYZ : ∀ y ∈ Y, y ∉ Z) :
    sigmaSeparated G order X Y Z = sigmaSepDec G X Y Z :=
  sigmaSeparated_eq_dec_of_T8 forreMooij hd hu ho X Y Z hX hY hZ hXYZ hYZ

theorem sigmaSeparated_order_indep {G : MG} {o1 o2 : List Nat} (hd : Dom G) (hu : G.un = [])
    (h1 : IsOrder G o1) (h2 : IsOrder G o2) (X Y Z : List Nat) (hX : ∀ x ∈ X, x ∈ G.nodes)
    (hY : ∀ y ∈ Y, y ∈ G.nodes) (hZ : ∀ z ∈ Z, z ∈ G.nodes) (hXYZ : ∀ x ∈ X, x ∉ Y ∧ x ∉ Z)
    (hYZ : ∀ y ∈ Y, y ∉ Z) :
    sigmaSeparated G o1 X Y Z = sigmaSeparated G o2 X Y Z := by
  rw [sigmaSeparated_eq_dec hd hu h1 X Y Z hX hY hZ hXYZ hYZ,
    sigmaSeparated_eq_dec hd hu h2 X Y Z hX hY hZ hXYZ hYZ]

theorem sigmaSeparated_symm {G : MG} {order : List Nat} (hd : Dom G) (hu : G.un = [])
    (ho : IsOrder G order) (X Y Z : List Nat) (hX : ∀ x ∈ X, x ∈ G.nodes) (hY : ∀ y ∈ Y, y ∈ G.nodes)
    (hZ : ∀ z ∈ Z, z ∈ G.nodes) (hXZ : ∀ x ∈ X, x ∉ Z) (hYZ : ∀ y ∈ Y, y ∉ Z) :
    sigmaSeparated G order X Y Z = sigmaSeparated G order Y X Z :=
  Bool.eq_iff_iff.mpr ((sigmaSeparated_iff_MSep_acy hd hu ho X Y Z hX hZ hXZ).trans
    (Iff.trans ⟨MSep.symm, MSep.symm⟩ (sigmaSeparated_iff_MSep_acy hd hu ho Y X Z hY hZ hYZ).symm))

theorem SigmaSep.symm_of_dom {G : MG} {order : List Nat} (hd : Dom G) (hu : G.un = [])
    (ho : IsOrder G order) {X Y Z : List Nat} (hZ : ∀ z ∈ Z, z ∈ G.nodes) (hXZ : ∀ x ∈ X, x ∉ Z)
    (hYZ : ∀ y ∈ Y, y ∉ Z) (h : SigmaSep G X Y Z) : SigmaSep G Y X Z := by
  have hA := acy_isAcyclification hd ho
  rw [sigmaSep_iff_mSep hd hu hA Y X Z hZ hYZ hXZ]
  exact MSep.symm ((sigmaSep_iff_mSep hd hu hA X Y Z hZ hXZ hYZ).mp h)

/-- non-vacuity: the sigma clause on the two adjacent 2-cycles `0 ⇄ 3 → 1 ⇄ 2`, query (0, 2 | 3) -/
example : SigmaSpec (fun G X Y Z => sigmaSeparated G [2, 3, 0, 1] X Y Z) W1 [0] [2] [3] :=
  sigmaSeparated_spec W1_dom rfl W1_order [0] [2] [3] (by decide) (by decide) (by decide) (by decide)

example : sigmaSeparatedE W1 [2, 3, 0, 1] [0] [2] [3] = .ok true ↔ SigmaSep W1 [0] [2] [3] :=
  (C19_sigma_full_holds W1 [2, 3, 0, 1] W1_dom rfl W1_order [0] [2] [3] (by decide) (by decide)
    (by decide) (by decide) (by decide)).1

end C19
