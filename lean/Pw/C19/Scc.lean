import Pw.C19.Spec
open Closure MG

/-! # C19: strongly connected components by mutual reachability -/
namespace C19

/-- the inputs of the property: endpoints are nodes, the node list has no duplicates, no self loops -/
structure Dom (G : MG) : Prop where
  wf : G.WF
  nodup : G.nodes.Nodup
  noloopD : ∀ a, (a, a) ∉ G.dir
  noloopB : ∀ a, (a, a) ∉ G.bi

theorem SC.refl (G : MG) (a : Nat) : SC G a a := ⟨Anc.refl a, Anc.refl a⟩
theorem SC.symm {G : MG} {a b : Nat} (h : SC G a b) : SC G b a := ⟨h.2, h.1⟩
theorem SC.trans {G : MG} {a b c : Nat} (h1 : SC G a b) (h2 : SC G b c) : SC G a c :=
  ⟨h1.1.trans h2.1, h2.2.trans h1.2⟩

theorem Anc.mem_nodes {G : MG} (hwf : G.WF) {a b : Nat} (h : Anc G a b) (ha : a ∈ G.nodes) :
    b ∈ G.nodes :=
  Anc.closed (fun e he _ => (hwf.1 e he).2) h ha

theorem Anc.eq_or_mem_nodes {G : MG} (hwf : G.WF) {a b : Nat} (h : Anc G a b) : a = b ∨ a ∈ G.nodes := by
  cases h with
  | refl => exact Or.inl rfl
  | step e _ => exact Or.inr (hwf.1 _ e).1

theorem reach_iff {G : MG} (hwf : G.WF) {a b : Nat} (ha : a ∈ G.nodes) :
    reach G a b = true ↔ Anc G a b := by
  simp only [reach, decide_eq_true_eq, mem_closure, List.mem_singleton, exists_eq_left]
  exact ⟨fun h => reach_children_anc h.2, fun h => ⟨ha, anc_reach_children hwf h⟩⟩

theorem scB_iff {G : MG} (hwf : G.WF) {a b : Nat} (ha : a ∈ G.nodes) : scB G a b = true ↔ SC G a b := by
  simp only [scB, Bool.and_eq_true, reach_iff hwf ha, SC]
  exact and_congr_right fun h => reach_iff hwf (Anc.mem_nodes hwf h ha)

theorem mem_sc {G : MG} (hwf : G.WF) {a b : Nat} (ha : a ∈ G.nodes) : b ∈ sc G a ↔ SC G a b :=
  List.mem_filter.trans ⟨fun h => (scB_iff hwf ha).mp h.2,
    fun h => ⟨Anc.mem_nodes hwf h.1 ha, (scB_iff hwf ha).mpr h⟩⟩

theorem sc_subset_nodes (G : MG) (a : Nat) : ∀ b ∈ sc G a, b ∈ G.nodes := by
  intro b hb
  exact (List.mem_filter.mp hb).1

theorem sc_eq_of_SC {G : MG} (hwf : G.WF) {a b : Nat} (ha : a ∈ G.nodes) (h : SC G a b) :
    sc G a = sc G b := by
  have hb := Anc.mem_nodes hwf h.1 ha
  apply List.filter_congr
  intro w _
  exact Bool.eq_iff_iff.mpr
    ((scB_iff hwf ha).trans (Iff.trans ⟨h.symm.trans, h.trans⟩ (scB_iff hwf hb).symm))

theorem eq_of_length_le_one {l : List Nat} (h : l.length ≤ 1) {a b : Nat} (ha : a ∈ l) (hb : b ∈ l) :
    a = b := by
  cases l with
  | nil => cases ha
  | cons x t =>
    cases t with
    | nil => rw [List.mem_singleton.mp ha, List.mem_singleton.mp hb]
    | cons y t => exact absurd (Nat.le_of_succ_le_succ h) (Nat.not_succ_le_zero _)

/-- a component that the loop skips by its test `len(comp) == 1` has one member -/
theorem SC.eq_of_trivial {G : MG} (hwf : G.WF) {r j : Nat} (hr : r ∈ G.nodes)
    (ht : (sc G r).length ≤ 1) (h : SC G r j) : r = j :=
  eq_of_length_le_one ht ((mem_sc hwf hr).mpr (SC.refl G r)) ((mem_sc hwf hr).mpr h)

theorem compsAux_spec (G : MG) {c : List Nat} {vs seen : List Nat} (hc : c ∈ compsAux G vs seen) :
    ∃ r ∈ vs, c = sc G r := by
  induction vs generalizing seen with
  | nil => cases hc
  | cons v vs ih =>
    simp only [List.mem_cons, exists_eq_or_imp]
    rw [compsAux] at hc
    split at hc
    · exact Or.inr (ih hc)
    · exact (List.mem_cons.mp hc).imp_right ih

theorem compsAux_cover (G : MG) {vs seen : List Nat} (h : ∀ v ∈ vs, v ∈ sc G v) {w : Nat} (hw : w ∈ vs) :
    w ∈ seen ∨ ∃ c ∈ compsAux G vs seen, w ∈ c := by
  induction vs generalizing seen with
  | nil => cases hw
  | cons v vs ih =>
    obtain ⟨hv, h'⟩ := List.forall_mem_cons.mp h
    rw [compsAux]
    split
    · rename_i hvs
      rcases List.mem_cons.mp hw with rfl | hw
      · exact Or.inl hvs
      · exact ih h' hw
    · simp only [List.mem_cons, exists_eq_or_imp]
      rcases List.mem_cons.mp hw with rfl | hw
      · exact Or.inr (Or.inl hv)
      · rcases ih h' hw with hs | hc
        · exact (List.mem_append.mp hs).symm.imp_right Or.inl
        · exact Or.inr (Or.inr hc)

/-- an order of the components: a list of nodes that mentions every node -/
structure IsOrder (G : MG) (order : List Nat) : Prop where
  sub : ∀ v ∈ order, v ∈ G.nodes
  cover : ∀ v ∈ G.nodes, v ∈ order

theorem mem_comps {G : MG} (hwf : G.WF) {order : List Nat} (ho : IsOrder G order) {c : List Nat} :
    c ∈ comps G order ↔ c ∈ G.nodes.map (sc G) := by
  rw [List.mem_map]
  constructor
  · intro hc
    obtain ⟨r, hr, h⟩ := compsAux_spec G hc
    exact ⟨r, ho.sub r hr, h.symm⟩
  · rintro ⟨v, hv, rfl⟩
    -- the node `v` lies in some listed component `sc G r`, which then is `sc G v`
    obtain ⟨c, hc, hvc⟩ := (compsAux_cover G (seen := [])
      (fun u hu => (mem_sc hwf (ho.sub u hu)).mpr (SC.refl G u)) (ho.cover v hv)).resolve_left
      List.not_mem_nil
    obtain ⟨r, hr, rfl⟩ := compsAux_spec G hc
    rw [← sc_eq_of_SC hwf (ho.sub r hr) ((mem_sc hwf (ho.sub r hr)).mp hvc)]
    exact hc

theorem forall_comps {G : MG} (hwf : G.WF) {order : List Nat} (ho : IsOrder G order)
    {P : List Nat → Prop} : (∀ c ∈ comps G order, P c) ↔ ∀ r ∈ G.nodes, P (sc G r) := by
  simp only [mem_comps hwf ho, List.forall_mem_map]

theorem exists_comps {G : MG} (hwf : G.WF) {order : List Nat} (ho : IsOrder G order)
    {P : List Nat → Prop} : (∃ c ∈ comps G order, P c) ↔ ∃ r ∈ G.nodes, P (sc G r) := by
  simp only [mem_comps hwf ho, List.mem_map]
  constructor
  · rintro ⟨_, ⟨r, hr, rfl⟩, h⟩; exact ⟨r, hr, h⟩
  · rintro ⟨r, hr, h⟩; exact ⟨_, ⟨r, hr, rfl⟩, h⟩

end C19
