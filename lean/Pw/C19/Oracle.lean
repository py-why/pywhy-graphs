import Pw.C19.Full
open Closure MG

/-! # C19: the run-time oracle `acySpecG` is an acyclification; examples; counterexamples for the
unchanged loop -/
namespace C19

theorem dirSpecB_iff {G : MG} (hwf : G.WF) {i j : Nat} (hi : i ∈ G.nodes) (hj : j ∈ G.nodes) :
    dirSpecB G i j = true ↔ DirSpec G i j := by
  simp only [dirSpecB, Bool.and_eq_true, Bool.not_eq_true', ← Bool.not_eq_true, List.any_eq_true,
    decide_eq_true_eq, DirSpec, scB_iff hwf hi, scB_iff hwf hj]
  exact and_congr_right fun _ => exists_congr fun k => and_iff_right_of_imp fun h => (hwf.1 _ h.2).2

theorem biSpecB_iff {G : MG} (hwf : G.WF) {i j : Nat} (hi : i ∈ G.nodes) (hj : j ∈ G.nodes) :
    biSpecB G i j = true ↔ BiSpec G i j := by
  simp only [biSpecB, Bool.and_eq_true, bne_iff_ne, ne_eq, Bool.or_eq_true, List.any_eq_true,
    decide_eq_true_eq, BiSpec, scB_iff hwf hi, scB_iff hwf hj]
  refine and_congr_right fun _ => or_congr_right ?_
  constructor
  · rintro ⟨a, _, b, _, ⟨h1, h2⟩, h3⟩; exact ⟨a, b, h1, h2, h3⟩
  · rintro ⟨a, b, h1, h2, h3⟩
    obtain ⟨ha, hb⟩ := mem_nodes_of_bi hwf h3
    exact ⟨a, ha, b, hb, ⟨h1, h2⟩, h3⟩

theorem mem_allPairs {G : MG} {e : Nat × Nat} : e ∈ allPairs G ↔ e.1 ∈ G.nodes ∧ e.2 ∈ G.nodes :=
  mem_fanOut

theorem mem_filter_allPairs {G : MG} {p : Nat → Nat → Bool} {P : Nat → Nat → Prop}
    (hp : ∀ {i j}, i ∈ G.nodes → j ∈ G.nodes → (p i j = true ↔ P i j))
    (hP : ∀ {i j}, P i j → i ∈ G.nodes ∧ j ∈ G.nodes) (i j : Nat) :
    (i, j) ∈ (allPairs G).filter (fun e => p e.1 e.2) ↔ P i j := by
  rw [List.mem_filter, mem_allPairs]
  exact ⟨fun ⟨hn, h⟩ => (hp hn.1 hn.2).mp h, fun h => ⟨hP h, (hp (hP h).1 (hP h).2).mpr h⟩⟩

/-- the oracle of the harness (`acyspec`) is the declarative characterisation -/
theorem acySpecG_isAcyclification {G : MG} (hwf : G.WF) : IsAcyclification G (acySpecG G) := by
  have hdir : ∀ i j, (i, j) ∈ (acySpecG G).dir ↔ DirSpec G i j :=
    mem_filter_allPairs (dirSpecB_iff hwf) (DirSpec.mem_nodes hwf)
  have hbi : ∀ i j, (i, j) ∈ (acySpecG G).bi ↔ BiSpec G i j :=
    mem_filter_allPairs (biSpecB_iff hwf) (BiSpec.mem_nodes hwf)
  refine ⟨rfl, hdir, fun i j => ?_, rfl, acyclic_of_dirSpec hdir⟩
  rw [hbi, hbi]
  exact ⟨fun h => h.elim id BiSpec.symm, Or.inl⟩

theorem acy_eq_acySpecG {G : MG} {order : List Nat} (hd : Dom G) (ho : IsOrder G order) :
    (acy G order).nodes = (acySpecG G).nodes ∧ (∀ e, e ∈ (acy G order).dir ↔ e ∈ (acySpecG G).dir) ∧
    (∀ i j, ((i, j) ∈ (acy G order).bi ∨ (j, i) ∈ (acy G order).bi) ↔
            ((i, j) ∈ (acySpecG G).bi ∨ (j, i) ∈ (acySpecG G).bi)) :=
  (acy_isAcyclification hd ho).unique (acySpecG_isAcyclification hd.wf)

/-! ## non-vacuity: the hypotheses hold on the two adjacent 2-cycles `0 ⇄ 3 → 1 ⇄ 2` -/

/-- two adjacent 2-cycles (the witness of the first fixed defect) -/
def W1 : MG := { nodes := [0, 1, 2, 3], dir := [(0, 3), (3, 0), (1, 2), (2, 1), (3, 1)] }
/-- two 2-cycles joined by a bidirected edge (the witness of the second fixed defect) -/
def W2 : MG := { nodes := [0, 1, 2, 3], dir := [(0, 2), (2, 0), (1, 3), (3, 1)], bi := [(2, 3)] }

theorem noloop_of_forall {l : List (Nat × Nat)} (h : ∀ e ∈ l, e.1 ≠ e.2) (a : Nat) : (a, a) ∉ l :=
  fun ha => h _ ha rfl

theorem W1_dom : Dom W1 :=
  ⟨⟨by decide, by decide, by decide⟩, by decide, noloop_of_forall (by decide), noloop_of_forall (by decide)⟩
theorem W2_dom : Dom W2 :=
  ⟨⟨by decide, by decide, by decide⟩, by decide, noloop_of_forall (by decide), noloop_of_forall (by decide)⟩
theorem W1_order : IsOrder W1 [2, 3, 0, 1] := ⟨by decide, by decide⟩
theorem W2_order : IsOrder W2 [3, 1, 2, 0] := ⟨by decide, by decide⟩

example : IsAcyclification W1 (acy W1 [2, 3, 0, 1]) := acy_isAcyclification W1_dom W1_order
example : IsAcyclification W2 (acy W2 [3, 1, 2, 0]) := acy_isAcyclification W2_dom W2_order
example : sigmaSeparatedE W1 [2, 3, 0, 1] [0] [2] [] = .ok (sigmaSeparated W1 [2, 3, 0, 1] [0] [2] []) :=
  sigmaSeparatedE_eq W1_dom rfl W1_order _ _ _
example : sigmaSeparated W1 [2, 3, 0, 1] [0] [2] [3] = true ↔ MSep (acy W1 [2, 3, 0, 1]) [0] [2] [3] :=
  sigmaSeparated_iff_MSep_acy W1_dom rfl W1_order _ _ _ (by decide) (by decide) (by decide)
example : sigmaSepDec W1 [0] [2] [3] = true ↔ SigmaSep W1 [0] [2] [3] :=
  sigmaSepDec_iff W1_dom.wf (by decide) (by decide)

theorem W1_dirSpec_3_2 : DirSpec W1 3 2 := by
  refine ⟨fun h => ?_, 1, ⟨Anc.step (by decide) (Anc.refl 1), Anc.step (by decide) (Anc.refl 2)⟩, by decide⟩
  -- nothing leaves `{1, 2}`
  exact absurd (Anc.closed (S := fun v => v = 1 ∨ v = 2) (by decide) h.2 (Or.inr rfl)) (by decide)

/-- **counterexample (first fixed defect).** The unchanged loop body, run over the components of
    `W1` with the downstream component `{1,2}` first (the order networkx yields), does not produce
    the required edge `3 -> 2`; the repaired body does, in either order. -/
theorem C19_counterexample_old_loop_dir :
    DirSpec W1 3 2 ∧ (3, 2) ∉ ([[1, 2], [0, 3]].foldl (procCompOld W1) W1).dir ∧
    (3, 2) ∈ ([[1, 2], [0, 3]].foldl (procComp W1) W1).dir ∧
    (3, 2) ∈ ([[0, 3], [1, 2]].foldl (procComp W1) W1).dir :=
  ⟨W1_dirSpec_3_2, by decide +kernel⟩

theorem W2_biSpec_0_1 : BiSpec W2 0 1 := by
  refine ⟨by decide, Or.inr ⟨2, 3, ⟨Anc.step (by decide) (Anc.refl 2), Anc.step (by decide) (Anc.refl 0)⟩,
    ⟨Anc.step (by decide) (Anc.refl 3), Anc.step (by decide) (Anc.refl 1)⟩, Or.inl (by decide)⟩⟩

/-- **counterexample (second fixed defect).** The unchanged loop body does not produce `0 <-> 1` on
    `W2` in either order of the two components. -/
theorem C19_counterexample_old_loop_bi :
    BiSpec W2 0 1 ∧
    (0, 1) ∉ ([[1, 3], [0, 2]].foldl (procCompOld W2) W2).bi ∧
    (1, 0) ∉ ([[1, 3], [0, 2]].foldl (procCompOld W2) W2).bi ∧
    (0, 1) ∉ ([[0, 2], [1, 3]].foldl (procCompOld W2) W2).bi ∧
    (1, 0) ∉ ([[0, 2], [1, 3]].foldl (procCompOld W2) W2).bi :=
  ⟨W2_biSpec_0_1, by decide +kernel⟩

end C19
