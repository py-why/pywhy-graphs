import Pw.C06.Full
import Pw.C06.DecProofs
import Pw.C07.DecProofs
open Closure

/-! # C06: the all-subsets oracle `inseparable` (run-time check of the adjacency clause) is correct,
and agrees with adjacency in the model's MAG -/
namespace C06
open MG

variable {G : MG} {L S : List Nat}

theorem inseparable_iff (hwf : G.WF) (hun : G.un = []) (hsl : NoSelfLoop G) {a b : Nat}
    (ha : a ∈ G.nodes) (haS : a ∉ S) (hSn : ∀ s ∈ S, s ∈ G.nodes) :
    inseparable G L S a b = true ↔ Inseparable G L S a b := by
  have hO : ∀ v, v ∈ (G.nodes.filter fun v => decide (v ∉ L) && decide (v ∉ S) && v != a && v != b) ↔
      (v ∈ G.nodes ∧ v ∉ L ∧ v ∉ S ∧ v ≠ a ∧ v ≠ b) := fun v => by
    simp only [List.mem_filter, Bool.and_eq_true, decide_eq_true_eq, bne_iff_ne, and_assoc]
  have := not_congr <| C07.exists_subsets_mSeparated hwf (noUndirAtHead_of_un_nil G hun) hsl (b := b) ha
    (fun v hv => ⟨((hO v).mp hv).1, ((hO v).mp hv).2.2.2.1⟩) hSn haS
  simp only [not_exists, not_and, hO] at this
  unfold inseparable Inseparable
  simp only [List.all_eq_true, Bool.not_eq_true', ← Bool.not_eq_true]
  exact this

/-- **adjacency clause with the executable oracle**: in the model's MAG two remaining nodes are
    adjacent iff the all-subsets decider finds no separating set -/
theorem dagToMag_adjacent_iff_inseparableDec (hwf : G.WF) (hun : G.un = []) (hcirc : G.circ = [])
    (no2 : ∀ a b, (a, b) ∈ G.dir → (b, a) ∉ G.dir) (hsl : NoSelfLoop G)
    (hSn : ∀ s ∈ S, s ∈ G.nodes) (hLS : ∀ v, v ∈ L → v ∉ S) {M : MG}
    (hM : dagToMag G L S = .ok M) {a b : Nat} (ha : a ∈ M.nodes) (hb : b ∈ M.nodes) (hab : a ≠ b) :
    C07.Adjacent M a b ↔ inseparable G L S a b = true := by
  have hs := dagToMag_structure (L := L) (S := S) hwf hun hcirc no2 hM
  obtain ⟨haG, _, haS⟩ := (hs.nodes a).mp ha
  rw [dagToMag_adjacent_iff_inseparable hwf hun hcirc no2 hsl hSn hLS hM ha hb hab,
    inseparable_iff hwf hun hsl haG haS hSn]

end C06
