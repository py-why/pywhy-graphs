import Pw.C06.Basic
open Closure

/-! # C06: the depth-first search returns a path iff a (model-level) valid node path exists

`NodeOK` is the model-level notion: consecutive nodes are neighbours and every node that is left passes
the per-triple test of `_shortest_valid_path`.  Soundness and completeness of `dfs` / `search` against
`NodeOK` are pure search-correctness facts; the bridge `NodeOK ↔ InducingPath` is in `Bridge.lean`. -/
namespace C06
open MG

/-- the test applied to `cur` (entered from `prev`) before moving on to `nx` -/
def passes (G : MG) (L S A : List Nat) (prev cur nx : Nat) : Bool :=
  !(isCollider G prev cur nx && !decide (cur ∈ A) && !decide (cur ∈ S)) &&
  !(!isCollider G prev cur nx && !decide (cur ∈ L))

theorem passes_iff {G : MG} {L S A : List Nat} {prev cur nx : Nat} :
    passes G L S A prev cur nx = true ↔
      (if isCollider G prev cur nx = true then (cur ∈ A ∨ cur ∈ S) else cur ∈ L) := by
  unfold passes
  cases isCollider G prev cur nx <;> simp

/-- `cur :: rest` is a valid continuation towards `y` when `cur` was entered from `prev` -/
def NodeOK (G : MG) (y : Nat) (L S A : List Nat) : Nat → Nat → List Nat → Prop
  | _, cur, [] => cur = y
  | prev, cur, nx :: rest =>
    cur ≠ y ∧ nx ∈ nbrs G cur ∧ passes G L S A prev cur nx = true ∧ NodeOK G y L S A cur nx rest

theorem ite_tests {α : Type} {p : Prop} [Decidable p] {c1 c2 : Bool} {r : Option α} :
    (if p then none else if c1 = true then none else if c2 = true then none else r) =
      if ¬ p ∧ (!c1 && !c2) = true then r else none := by
  by_cases hp : p <;> cases c1 <;> cases c2 <;> simp [hp]

/-- the three `continue` tests of the loop body: already on the path, or not `passes` -/
theorem dfs_succ (G : MG) (y : Nat) (L S A : List Nat) (fuel : Nat) (visited : List Nat) (cur prev : Nat) :
    dfs G y L S A (fuel + 1) visited cur prev =
      if cur = y then some [y] else
      (nbrs G cur).findSome? fun nx =>
        if nx ∉ cur :: visited ∧ passes G L S A prev cur nx = true then
          (dfs G y L S A fuel (cur :: visited) nx cur).map (cur :: ·)
        else none := by
  simp only [dfs, passes, ite_tests]
  rfl

/-- a path is duplicate-free and avoids `visited`: the invariant of the search, one node further (the
    enumeration of C06/Dec.lean keeps the same invariant, see DecProofs.lean) -/
theorem nodup_avoid_cons {cur nx : Nat} {rest visited : List Nat} :
    ((cur :: nx :: rest).Nodup ∧ ∀ v ∈ nx :: rest, v ∉ cur :: visited) ↔
      (nx ∉ cur :: visited ∧ (nx :: rest).Nodup ∧ ∀ v ∈ rest, v ∉ nx :: cur :: visited) := by
  constructor
  · rintro ⟨hnd, hav⟩
    have hnd' := (List.nodup_cons.mp hnd).2
    refine ⟨hav nx List.mem_cons_self, hnd', fun v hv hm => ?_⟩
    rcases List.mem_cons.mp hm with rfl | hm
    · exact (List.nodup_cons.mp hnd').1 hv
    · exact hav v (List.mem_cons_of_mem _ hv) hm
  · rintro ⟨hnx, hnd, hav⟩
    refine ⟨List.nodup_cons.mpr ⟨fun hm => ?_, hnd⟩, fun v hv => ?_⟩
    · rcases List.mem_cons.mp hm with rfl | hm
      · exact hnx List.mem_cons_self
      · exact hav cur hm (List.mem_cons_of_mem _ List.mem_cons_self)
    · rcases List.mem_cons.mp hv with rfl | hv
      · exact hnx
      · exact fun hm => hav v hv (List.mem_cons_of_mem _ hm)

theorem dfs_sound (G : MG) (y : Nat) (L S A : List Nat) :
    ∀ (fuel : Nat) (visited : List Nat) (cur prev : Nat) (p : List Nat),
      dfs G y L S A fuel visited cur prev = some p →
      ∃ rest, p = cur :: rest ∧ NodeOK G y L S A prev cur rest ∧ (cur :: rest).Nodup ∧
        ∀ v ∈ rest, v ∉ cur :: visited := by
  intro fuel
  induction fuel with
  | zero => intro _ _ _ _ h; cases h
  | succ fuel ih =>
    intro visited cur prev p h
    rw [dfs_succ] at h
    by_cases hy : cur = y
    · rw [if_pos hy] at h
      cases h
      exact ⟨[], by rw [hy], hy, List.nodup_cons.mpr ⟨List.not_mem_nil, List.nodup_nil⟩,
        fun _ hv => nomatch hv⟩
    · rw [if_neg hy] at h
      obtain ⟨nx, hnx, hres⟩ := List.exists_of_findSome?_eq_some h
      split at hres
      · next hc =>
        obtain ⟨q, hq, rfl⟩ := Option.map_eq_some_iff.mp hres
        obtain ⟨rest, rfl, hok, hnd, hav⟩ := ih (cur :: visited) nx cur q hq
        obtain ⟨hnd', hav'⟩ := nodup_avoid_cons.mpr ⟨hc.1, hnd, hav⟩
        exact ⟨nx :: rest, rfl, ⟨hy, hnx, hc.2, hok⟩, hnd', hav'⟩
      · cases hres

theorem dfs_complete (G : MG) (y : Nat) (L S A : List Nat) :
    ∀ (fuel : Nat) (visited : List Nat) (cur prev : Nat) (rest : List Nat),
      NodeOK G y L S A prev cur rest → (cur :: rest).Nodup → (∀ v ∈ rest, v ∉ cur :: visited) →
      rest.length < fuel → (dfs G y L S A fuel visited cur prev).isSome = true := by
  intro fuel
  induction fuel with
  | zero => intro _ _ _ _ _ _ _ hlen; exact absurd hlen (Nat.not_lt_zero _)
  | succ fuel ih =>
    intro visited cur prev rest hok hnd hav hlen
    rw [dfs_succ]
    cases rest with
    | nil => rw [if_pos (show cur = y from hok)]; rfl
    | cons nx rest =>
      obtain ⟨hy, hadj, hpass, hok⟩ := hok
      obtain ⟨hnx, hnd', hav'⟩ := nodup_avoid_cons.mp ⟨hnd, hav⟩
      rw [if_neg hy, List.findSome?_isSome_iff]
      refine ⟨nx, hadj, ?_⟩
      rw [if_pos ⟨hnx, hpass⟩, Option.isSome_map]
      exact ih (cur :: visited) nx cur rest hok hnd' hav' (Nat.lt_of_succ_lt_succ hlen)

theorem search_sound {G : MG} {x y : Nat} {L S : List Nat} {p : List Nat}
    (h : search G x y L S = some p) :
    ∃ v rest, p = x :: v :: rest ∧ v ∈ nbrs G x ∧ NodeOK G y L S (allAnc G x y S) x v rest ∧
      (x :: v :: rest).Nodup := by
  unfold search at h
  obtain ⟨v, hv, hres⟩ := List.exists_of_findSome?_eq_some h
  split at hres
  · cases hres
  · next hvx =>
    obtain ⟨q, hq, rfl⟩ := Option.map_eq_some_iff.mp hres
    obtain ⟨rest, rfl, hok, hnd, hav⟩ := dfs_sound G y L S _ _ _ _ _ _ hq
    exact ⟨v, rest, rfl, hv, hok, (nodup_avoid_cons.mpr ⟨hvx, hnd, hav⟩).1⟩

/-- the fuel `|V|` suffices for every simple path inside `V` -/
theorem search_complete {G : MG} {x y : Nat} {L S : List Nat} {v : Nat} {rest : List Nat}
    (hadj : v ∈ nbrs G x) (hok : NodeOK G y L S (allAnc G x y S) x v rest)
    (hnd : (x :: v :: rest).Nodup) (hsub : ∀ a ∈ x :: v :: rest, a ∈ G.nodes) :
    (search G x y L S).isSome = true := by
  have hav : ∀ a ∈ v :: rest, a ∉ [x] := fun a ha hm =>
    (List.nodup_cons.mp hnd).1 (by rw [List.eq_of_mem_singleton hm] at ha; exact ha)
  obtain ⟨hvx, hnd', hav'⟩ := nodup_avoid_cons.mp ⟨hnd, hav⟩
  unfold search
  rw [List.findSome?_isSome_iff]
  refine ⟨v, hadj, ?_⟩
  rw [if_neg hvx, Option.isSome_map]
  refine dfs_complete G y L S _ _ _ _ _ rest hok hnd' hav' ?_
  have := hnd.length_le_of_subset fun a ha => hsub a ha
  exact Nat.lt_of_succ_lt (Nat.lt_of_succ_le this)

end C06
