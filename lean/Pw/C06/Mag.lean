import Pw.C06.Proofs
open Closure

/-! # C06: structure theorem for `dag_to_mag`

For every graph with directed (and possibly bidirected) edges only and no 2-cycle – in particular every
DAG – and all `L`, `S`: the model's result has node set `V \ (L ∪ S)`; two remaining nodes are adjacent
iff an inducing path relative to `⟨L,S⟩` joins them; the mark at `b` on the edge `a ~ b` is a tail iff
`b` is a strict ancestor of a member of `S ∪ {a}`.  (That adjacency coincides with inseparability is
`Full.lean`, from T5a; that the result represents the marginal/conditional independence model is
Richardson–Spirtes Thm 4.18, `Pw/T5b`.) -/
namespace C06
open MG

variable {G : MG} {L S : List Nat}

/-- `dedupUnordered` keeps every unordered pair -/
theorem mem_dedup (l : List (Nat × Nat)) : ∀ (acc : List (Nat × Nat)) (p : Nat × Nat),
    (p ∈ dedupUnordered acc l ∨ (p.2, p.1) ∈ dedupUnordered acc l) ↔
      ((p ∈ acc ∨ (p.2, p.1) ∈ acc) ∨ (p ∈ l ∨ (p.2, p.1) ∈ l)) := by
  induction l with
  | nil => intro acc p; simp only [dedupUnordered, List.mem_reverse, List.not_mem_nil, or_false]
  | cons q rest ih =>
    intro acc p
    have hcons : ∀ l : List (Nat × Nat), (p ∈ q :: l ∨ (p.2, p.1) ∈ q :: l) ↔
        ((p = q ∨ (p.2, p.1) = q) ∨ (p ∈ l ∨ (p.2, p.1) ∈ l)) := fun l => by
      rw [List.mem_cons, List.mem_cons, or_or_or_comm]
    unfold dedupUnordered
    split
    · next hq =>
      -- `q` is dropped: what it contributes is already in `acc`
      have hq' : p = q ∨ (p.2, p.1) = q → p ∈ acc ∨ (p.2, p.1) ∈ acc := by
        rintro (rfl | rfl)
        · exact hq
        · exact hq.symm
      rw [ih, hcons]
      exact ⟨Or.imp_right Or.inr,
        fun h => h.elim Or.inl fun h => h.elim (fun e => Or.inl (hq' e)) Or.inr⟩
    · rw [ih, hcons, hcons]
      exact or_assoc.trans or_left_comm

/-- `inducing_path(...)[0]` for arbitrary distinct nodes: the guard plus the specification -/
theorem hasInd_full (hwf : G.WF) (hun : G.un = []) (hcirc : G.circ = [])
    (no2 : ∀ a b, (a, b) ∈ G.dir → (b, a) ∉ G.dir) {a b : Nat}
    (ha : a ∈ G.nodes) (hb : b ∈ G.nodes) (hab : a ≠ b) :
    hasInd G L S a b = true ↔
      (a ∉ L ∧ a ∉ S ∧ b ∉ L ∧ b ∉ S ∧ HasInducingPath G L S a b) := by
  by_cases hg : a ∈ L ∨ b ∈ L ∨ a ∈ S ∨ b ∈ S
  · have : hasInd G L S a b = false := by
      unfold hasInd; rw [inducingPath_guard ha hb hab hg]
    rw [this]
    refine ⟨fun h => (Bool.false_ne_true h).elim, ?_⟩
    rintro ⟨h1, h2, h3, h4, _⟩
    rcases hg with h | h | h | h
    · exact absurd h h1
    · exact absurd h h3
    · exact absurd h h2
    · exact absurd h h4
  · obtain ⟨h1, h2, h3, h4⟩ : a ∉ L ∧ b ∉ L ∧ a ∉ S ∧ b ∉ S := by
      simpa only [not_or] using hg
    rw [hasInd_iff ⟨hwf, hun, hcirc, no2, ha, hb, hab, h1, h2, h3, h4⟩]
    exact ⟨fun h => ⟨h1, h3, h2, h4, h⟩, fun h => h.2.2.2.2⟩

/-- the relation "adjacent in the MAG" collected by the first double loop -/
def AdjSpec (G : MG) (L S : List Nat) (a b : Nat) : Prop :=
  a ∈ G.nodes ∧ b ∈ G.nodes ∧ a ≠ b ∧ (HasInducingPath G L S a b ∨ HasInducingPath G L S b a) ∧
    a ∉ L ∧ a ∉ S ∧ b ∉ L ∧ b ∉ S

theorem AdjSpec.symm {a b : Nat} (h : AdjSpec G L S a b) : AdjSpec G L S b a := by
  obtain ⟨h1, h2, h3, h4, h5, h6, h7, h8⟩ := h
  exact ⟨h2, h1, Ne.symm h3, h4.symm, h7, h8, h5, h6⟩

theorem and_adjSpec {a b : Nat} {P : Prop} :
    (a ∈ G.nodes ∧ b ∈ G.nodes ∧ a ≠ b ∧ (HasInducingPath G L S a b ∨ HasInducingPath G L S b a) ∧
      a ∉ L ∧ a ∉ S ∧ b ∉ L ∧ b ∉ S ∧ P) ↔ (AdjSpec G L S a b ∧ P) := by
  simp only [AdjSpec, and_assoc]

theorem mem_adjPairs (hwf : G.WF) (hun : G.un = []) (hcirc : G.circ = [])
    (no2 : ∀ a b, (a, b) ∈ G.dir → (b, a) ∉ G.dir) (a b : Nat) :
    ((a, b) ∈ adjPairs G L S ∨ (b, a) ∈ adjPairs G L S) ↔ AdjSpec G L S a b := by
  have fwd : ∀ {s d : Nat}, s ∈ G.nodes → d ∈ G.nodes → d ≠ s → hasInd G L S s d = true →
      AdjSpec G L S s d := by
    intro s d hs hd hne hind
    obtain ⟨h1, h2, h3, h4, h5⟩ := (hasInd_full hwf hun hcirc no2 hs hd (Ne.symm hne)).mp hind
    exact ⟨hs, hd, Ne.symm hne, Or.inl h5, h1, h2, h3, h4⟩
  unfold adjPairs
  rw [mem_dedup _ [] (a, b)]
  simp only [List.not_mem_nil, false_or, List.mem_flatMap, List.mem_map, List.mem_filter,
    decide_eq_true_eq, Prod.mk.injEq]
  constructor
  · rintro (⟨s, hs, d, ⟨⟨hd, hne⟩, hind⟩, rfl, rfl⟩ | ⟨s, hs, d, ⟨⟨hd, hne⟩, hind⟩, rfl, rfl⟩)
    · exact fwd hs hd hne hind
    · exact (fwd hs hd hne hind).symm
  · rintro ⟨ha, hb, hab, (h | h), h1, h2, h3, h4⟩
    · exact Or.inl ⟨a, ha, b, ⟨⟨hb, Ne.symm hab⟩,
        (hasInd_full hwf hun hcirc no2 ha hb hab).mpr ⟨h1, h2, h3, h4, h⟩⟩, rfl, rfl⟩
    · exact Or.inr ⟨b, hb, a, ⟨⟨ha, hab⟩,
        (hasInd_full hwf hun hcirc no2 hb ha (Ne.symm hab)).mpr ⟨h3, h4, h1, h2, h⟩⟩, rfl, rfl⟩

/-- `a in ansB` of the code is the specification's "tail at a" -/
theorem mem_ansOf (hwf : G.WF) {a b : Nat} : a ∈ ansOf G S b ↔ TailAt G S b a := by
  unfold ansOf TailAt SAncOfSet
  simp only [List.mem_flatMap, mem_ancStrict hwf, sanc_first_iff_last]

/-- the directed edges that `dag_to_mag` makes of a list of adjacent pairs -/
theorem mem_dirOf (adj : List (Nat × Nat)) (a b : Nat) :
    (a, b) ∈ (adj.filterMap fun p =>
        match kindOf G S p with
        | (true, false) => some (p.1, p.2)
        | (false, true) => some (p.2, p.1)
        | _ => none) ↔
      (((a, b) ∈ adj ∨ (b, a) ∈ adj) ∧ a ∈ ansOf G S b ∧ b ∉ ansOf G S a) := by
  simp only [List.mem_filterMap, Prod.exists]
  constructor
  · rintro ⟨p1, p2, hp, hk⟩
    split at hk
    · next heq =>
      simp only [kindOf, Prod.mk.injEq, decide_eq_true_eq, decide_eq_false_iff_not] at heq
      cases hk
      exact ⟨Or.inl hp, heq.1, heq.2⟩
    · next heq =>
      simp only [kindOf, Prod.mk.injEq, decide_eq_true_eq, decide_eq_false_iff_not] at heq
      cases hk
      exact ⟨Or.inr hp, heq.2, heq.1⟩
    · cases hk
  · rintro ⟨hp | hp, h1, h2⟩
    · exact ⟨a, b, hp, by simp only [kindOf, h1, h2, decide_true, decide_false]⟩
    · exact ⟨b, a, hp, by simp only [kindOf, h1, h2, decide_true, decide_false]⟩

/-- the bidirected (`c = false`) and undirected (`c = true`) edges: both ancestry tests give `c` -/
theorem mem_sameKind (adj : List (Nat × Nat)) (c : Bool) (a b : Nat) :
    ((a, b) ∈ (adj.filter fun p => kindOf G S p == (c, c)).map (fun p => (p.2, p.1)) ∨
      (b, a) ∈ (adj.filter fun p => kindOf G S p == (c, c)).map (fun p => (p.2, p.1))) ↔
      (((a, b) ∈ adj ∨ (b, a) ∈ adj) ∧
        decide (a ∈ ansOf G S b) = c ∧ decide (b ∈ ansOf G S a) = c) := by
  simp only [List.mem_map, List.mem_filter, beq_iff_eq, kindOf, Prod.mk.injEq, Prod.exists]
  constructor
  · rintro (⟨p1, p2, ⟨hp, h1, h2⟩, rfl, rfl⟩ | ⟨p1, p2, ⟨hp, h1, h2⟩, rfl, rfl⟩)
    · exact ⟨Or.inr hp, h2, h1⟩
    · exact ⟨Or.inl hp, h1, h2⟩
  · rintro ⟨hp | hp, h1, h2⟩
    · exact Or.inr ⟨a, b, ⟨hp, h1, h2⟩, rfl, rfl⟩
    · exact Or.inl ⟨b, a, ⟨hp, h2, h1⟩, rfl, rfl⟩

/-- **C06, dag_to_mag, structural clause** (no size bound). -/
theorem dagToMag_structure (hwf : G.WF) (hun : G.un = []) (hcirc : G.circ = [])
    (no2 : ∀ a b, (a, b) ∈ G.dir → (b, a) ∉ G.dir) {M : MG} (h : dagToMag G L S = .ok M) :
    MagStructure G L S M := by
  unfold dagToMag at h
  rw [if_neg (not_foreign hun hcirc)] at h
  injection h with h
  subst h
  have hadj := mem_adjPairs (L := L) (S := S) hwf hun hcirc no2
  refine ⟨?_, ?_, ?_, ?_, rfl⟩
  · intro v
    simp only [List.mem_filter, Bool.and_eq_true, decide_eq_true_eq]
  · intro a b
    refine (mem_dirOf _ a b).trans ?_
    rw [hadj, and_adjSpec, mem_ansOf hwf, mem_ansOf hwf]
  · intro a b
    refine (mem_sameKind _ false a b).trans ?_
    rw [hadj, and_adjSpec, decide_eq_false_iff_not, decide_eq_false_iff_not, mem_ansOf hwf,
      mem_ansOf hwf]
  · intro a b
    refine (mem_sameKind _ true a b).trans ?_
    rw [hadj, and_adjSpec, decide_eq_true_eq, decide_eq_true_eq, mem_ansOf hwf, mem_ansOf hwf]

theorem dagToMag_ok (hun : G.un = []) (hcirc : G.circ = []) : ∃ M, dagToMag G L S = .ok M := by
  unfold dagToMag
  rw [if_neg (not_foreign hun hcirc)]
  exact ⟨_, rfl⟩

/-- non-vacuity: the DAG `0 <- 1 -> 2 <- 3, 2 -> 4` of `exG` satisfies the hypotheses -/
example : ∃ M, dagToMag exG [1] [4] = .ok M ∧ MagStructure exG [1] [4] M := by
  obtain ⟨M, hM⟩ := dagToMag_ok (G := exG) (L := [1]) (S := [4]) rfl rfl
  exact ⟨M, hM, dagToMag_structure exG_dom.wf rfl rfl exG_dom.no2 hM⟩

end C06
