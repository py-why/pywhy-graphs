import Pw.Core.Graph
open Closure

/-! # C06 model: `inducing_path`, `_shortest_valid_path`, `_is_collider`, `dag_to_mag`
(pywhy_graphs/algorithms/generic.py), as on the tree after the `fix:` commits of branch f-a0607:

* `_shortest_valid_path` compares nodes with `==` and un-marks `cur_node` when the loop over its
  neighbours found nothing; so `visited` always is exactly the current path and the recursion is a
  depth-first enumeration of simple paths.  In the model `visited` is passed by value, which is the
  same thing.
* `dag_to_mag` uses `S.union({A})` and adds every node of `V \ (L ∪ S)` to the result.

Python sets have no order; the model iterates lists.  The returned path is a *witness* (validated,
never compared); existence does not depend on the order (theorem `C06.inducingPath_true_iff`). -/
namespace C06
open MG

/-- `MixedEdgeGraph.neighbors`: union of `nx.all_neighbors` over all layers -/
def nbrs (G : MG) (v : Nat) : List Nat := G.parents v ++ G.children v ++ G.spouses v ++ G.unbrs v

/-- `p ∈ _directed_sub_graph_parents(G,c) ∪ _bidirected_sub_graph_neighbors(G,c)` -/
def into (G : MG) (p c : Nat) : Bool := decide (p ∈ G.parents c) || decide (p ∈ G.spouses c)

/-- `_is_collider(G, prev, cur, next)`: decided from the node triple -/
def isCollider (G : MG) (prev cur next : Nat) : Bool := into G prev cur && into G next cur

/-- `nx.ancestors(G.sub_directed_graph(), v)`: strict ancestors -/
def ancStrict (G : MG) (v : Nat) : List Nat := closure G.nodes G.parents (G.parents v)

/-- `all_ancestors` of `inducing_path` -/
def allAnc (G : MG) (x y : Nat) (S : List Nat) : List Nat :=
  ancStrict G x ++ ancStrict G y ++ S.flatMap (ancStrict G)

/-- `_shortest_valid_path(G, x, y, L, S, visited, all_ancestors, cur, prev)`; `none` = `(False, [])`,
    `some p` = `(True, p)`.  `fuel` bounds the recursion depth (the number of nodes suffices). -/
def dfs (G : MG) (y : Nat) (L S A : List Nat) : Nat → List Nat → Nat → Nat → Option (List Nat)
  | 0, _, _, _ => none
  | fuel + 1, visited, cur, prev =>
    let visited := cur :: visited                      -- visited.add(cur_node)
    if cur = y then some [y] else                      -- if cur_node == node_y
    (nbrs G cur).findSome? fun elem =>                 -- for elem in neighbors
      if elem ∈ visited then none                      --   continue
      else if isCollider G prev cur elem && !decide (cur ∈ A) && !decide (cur ∈ S) then none
      else if !isCollider G prev cur elem && !decide (cur ∈ L) then none
      else (dfs G y L S A fuel visited elem cur).map (cur :: ·)

/-- the search started from `x` (loop over `x_neighbors`) -/
def search (G : MG) (x y : Nat) (L S : List Nat) : Option (List Nat) :=
  let A := allAnc G x y S
  (nbrs G x).findSome? fun elem =>
    if elem ∈ [x] then none
    else (dfs G y L S A G.nodes.length [x] elem x).map (x :: ·)

/-- `inducing_path(G, x, y, L, S)`; `error` = `ValueError` -/
def inducingPath (G : MG) (x y : Nat) (L S : List Nat) : Except String (Option (List Nat)) :=
  if x ∉ G.nodes ∨ y ∉ G.nodes then .error "value"
  else if x = y then .error "value"
  else if x ∈ L ∨ y ∈ L ∨ x ∈ S ∨ y ∈ S then .ok none
  else if G.un ≠ [] ∨ G.circ ≠ [] then .error "value"
  else .ok (search G x y L S)

/-- `inducing_path(...)[0] is True` -/
def hasInd (G : MG) (L S : List Nat) (a b : Nat) : Bool :=
  match inducingPath G a b L S with
  | .ok (some _) => true
  | _ => false

/-- ancestors of `S ∪ {A}` as computed in `dag_to_mag` (union of strict ancestor sets) -/
def ansOf (G : MG) (S : List Nat) (a : Nat) : List Nat := (S ++ [a]).flatMap (ancStrict G)

/-- keep the first of `(a,b)` / `(b,a)`:  `{source, dest} not in adj_nodes` -/
def dedupUnordered : List (Nat × Nat) → List (Nat × Nat) → List (Nat × Nat)
  | acc, [] => acc.reverse
  | acc, p :: rest =>
    if p ∈ acc ∨ (p.2, p.1) ∈ acc then dedupUnordered acc rest else dedupUnordered (p :: acc) rest

/-- the adjacent pairs collected by the first double loop of `dag_to_mag` -/
def adjPairs (G : MG) (L S : List Nat) : List (Nat × Nat) :=
  dedupUnordered [] (G.nodes.flatMap fun s =>
    ((G.nodes.filter (· ≠ s)).filter (fun d => hasInd G L S s d)).map (s, ·))

/-- `(A in ansB, B in ansA)` -/
def kindOf (G : MG) (S : List Nat) (p : Nat × Nat) : Bool × Bool :=
  (decide (p.1 ∈ ansOf G S p.2), decide (p.2 ∈ ansOf G S p.1))

/-- `dag_to_mag(G, L, S)` -/
def dagToMag (G : MG) (L S : List Nat) : Except String MG :=
  if G.un ≠ [] ∨ G.circ ≠ [] then .error "value" else
  let adj := adjPairs G L S
  .ok { nodes := G.nodes.filter (fun v => decide (v ∉ L) && decide (v ∉ S)),
        dir := adj.filterMap fun p =>
          match kindOf G S p with
          | (true, false) => some (p.1, p.2)      -- A -> B
          | (false, true) => some (p.2, p.1)      -- A <- B
          | _ => none,
        bi := (adj.filter fun p => kindOf G S p == (false, false)).map fun p => (p.2, p.1),
        un := (adj.filter fun p => kindOf G S p == (true, true)).map fun p => (p.2, p.1) }

end C06
