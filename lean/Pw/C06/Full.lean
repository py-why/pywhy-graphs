import Pw.C06.Mag
import Pw.C07.Spec
import Pw.T5.Main
open Closure

/-! # C06, first clause of `dag_to_mag`

"x and y are adjacent iff no subset of the other remaining nodes d-separates them in D given S":
`dagToMag_structure` (adjacent ⇔ inducing path) composed with T5a `T5.inducing_iff_inseparable`
(inducing path ⇔ inseparable; derived from the moralisation criterion T2). -/
namespace C06
open MG

variable {G : MG} {L S : List Nat} {M : MG}

theorem magStructure_adjacent (hs : MagStructure G L S M) (a b : Nat) :
    C07.Adjacent M a b ↔ AdjSpec G L S a b := by
  unfold C07.Adjacent C07.Dir C07.Bi C07.Un
  constructor
  · rintro (h | h | h | h)
    · exact (and_adjSpec.mp ((hs.dir a b).mp h)).1
    · exact (and_adjSpec.mp ((hs.dir b a).mp h)).1.symm
    · exact (and_adjSpec.mp ((hs.bi a b).mp h)).1
    · exact (and_adjSpec.mp ((hs.un a b).mp h)).1
  · intro h
    by_cases t1 : TailAt G S b a <;> by_cases t2 : TailAt G S a b
    · exact Or.inr (Or.inr (Or.inr ((hs.un a b).mpr (and_adjSpec.mpr ⟨h, t1, t2⟩))))
    · exact Or.inl ((hs.dir a b).mpr (and_adjSpec.mpr ⟨h, t1, t2⟩))
    · exact Or.inr (Or.inl ((hs.dir b a).mpr (and_adjSpec.mpr ⟨h.symm, t2, t1⟩)))
    · exact Or.inr (Or.inr (Or.inl ((hs.bi a b).mpr (and_adjSpec.mpr ⟨h, t1, t2⟩))))

/-- no subset `Z` of the other remaining nodes separates `a` and `b` in `G` given `Z ∪ S` -/
def Inseparable (G : MG) (L S : List Nat) (a b : Nat) : Prop :=
  ∀ Z : List Nat, (∀ z ∈ Z, z ∈ G.nodes ∧ z ∉ L ∧ z ∉ S ∧ z ≠ a ∧ z ≠ b) → ¬ MSep G [a] [b] (Z ++ S)

theorem inseparable_symm {a b : Nat} (h : Inseparable G L S a b) : Inseparable G L S b a := by
  intro Z hZ hsep
  exact h Z (fun z hz => ⟨(hZ z hz).1, (hZ z hz).2.1, (hZ z hz).2.2.1, (hZ z hz).2.2.2.2, (hZ z hz).2.2.2.1⟩)
    hsep.symm

/-- inducing paths are symmetric (via T5a and the symmetry of m-separation) -/
theorem hasInducingPath_symm (hwf : G.WF) (hun : G.un = []) (hsl : NoSelfLoop G)
    (hSn : ∀ s ∈ S, s ∈ G.nodes) (hLS : ∀ v, v ∈ L → v ∉ S) {a b : Nat} (hab : a ≠ b)
    (ha : a ∈ G.nodes) (hb : b ∈ G.nodes) (haS : a ∉ S) (hbS : b ∉ S)
    (h : HasInducingPath G L S a b) : HasInducingPath G L S b a :=
  (T5.inducing_iff_inseparable hwf hun hsl (L := L) (S := S) (Ne.symm hab) hb ha hbS haS hSn hLS).mpr
    (inseparable_symm ((T5.inducing_iff_inseparable hwf hun hsl (L := L) (S := S) hab ha hb haS hbS hSn hLS).mp h))

/-- **C06, dag_to_mag, adjacency clause (unconditional).**  For every graph with directed (and
    bidirected) edges only, without self loops and 2-cycles – in particular every DAG –, disjoint
    `L`, `S ⊆ V`, and remaining nodes `a ≠ b`: `a` and `b` are adjacent in the model's result iff no subset
    of the other remaining nodes m-separates them given `S`. -/
theorem dagToMag_adjacent_iff_inseparable (hwf : G.WF) (hun : G.un = []) (hcirc : G.circ = [])
    (no2 : ∀ a b, (a, b) ∈ G.dir → (b, a) ∉ G.dir) (hsl : NoSelfLoop G)
    (hSn : ∀ s ∈ S, s ∈ G.nodes) (hLS : ∀ v, v ∈ L → v ∉ S)
    (hM : dagToMag G L S = .ok M) {a b : Nat} (ha : a ∈ M.nodes) (hb : b ∈ M.nodes) (hab : a ≠ b) :
    C07.Adjacent M a b ↔ Inseparable G L S a b := by
  have hs := dagToMag_structure (L := L) (S := S) hwf hun hcirc no2 hM
  obtain ⟨haG, haL, haS⟩ := (hs.nodes a).mp ha
  obtain ⟨hbG, hbL, hbS⟩ := (hs.nodes b).mp hb
  have e1 := T5.inducing_iff_inseparable hwf hun hsl (L := L) (S := S) hab haG hbG haS hbS hSn hLS
  rw [magStructure_adjacent hs]
  refine Iff.trans ?_ e1
  constructor
  · rintro ⟨_, _, _, (h | h), _⟩
    · exact h
    · exact hasInducingPath_symm hwf hun hsl hSn hLS (Ne.symm hab) hbG haG hbS haS h
  · intro h
    exact ⟨haG, hbG, hab, Or.inl h, haL, haS, hbL, hbS⟩

/-- the hypothesis `NoSelfLoop` of the theorem above holds for the example DAG -/
example : NoSelfLoop exG := exG_noSelfLoop

end C06
