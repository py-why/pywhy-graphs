import Pw.C06.Spec
import Pw.C06.Model
import Pw.C01.Full
import Pw.C01.Guard
open Closure

/-! # C06: basic lemmas (ancestor sets of the model, neighbours, the per-triple collider test) -/
namespace C06
open MG

theorem anc_last {G : MG} {a c : Nat} (h : Anc G a c) : a = c ∨ ∃ w, Anc G a w ∧ (w, c) ∈ G.dir := by
  induction h with
  | refl => exact Or.inl rfl
  | @step a b c e _ ih =>
    rcases ih with rfl | ⟨w, hw, hwc⟩
    · exact Or.inr ⟨a, Anc.refl a, e⟩
    · exact Or.inr ⟨w, Anc.step e hw, hwc⟩

theorem sanc_first_iff_last {G : MG} {a t : Nat} :
    (∃ c, (a, c) ∈ G.dir ∧ Anc G c t) ↔ (∃ w, (w, t) ∈ G.dir ∧ Anc G a w) := by
  constructor
  · rintro ⟨c, hac, hct⟩
    rcases anc_last hct with rfl | ⟨w, hcw, hwt⟩
    · exact ⟨a, hac, Anc.refl a⟩
    · exact ⟨w, hwt, Anc.step hac hcw⟩
  · rintro ⟨w, hwt, haw⟩
    cases haw with
    | refl => exact ⟨t, hwt, Anc.refl t⟩
    | step e h => exact ⟨_, e, h.tail hwt⟩

/-- `nx.ancestors(directed layer, t)` is the set of strict ancestors of `t` -/
theorem mem_ancStrict {G : MG} (hwf : G.WF) {v t : Nat} :
    v ∈ ancStrict G t ↔ ∃ w, (w, t) ∈ G.dir ∧ Anc G v w := by
  unfold ancStrict
  rw [mem_closure_parents hwf]
  constructor
  · rintro ⟨w, hw, _, ha⟩
    exact ⟨w, mem_parents.mp hw, ha⟩
  · rintro ⟨w, hw, ha⟩
    exact ⟨w, mem_parents.mpr hw, (hwf.1 _ hw).1, ha⟩

theorem mem_allAnc {G : MG} (hwf : G.WF) {x y : Nat} {S : List Nat} {v : Nat} :
    v ∈ allAnc G x y S ↔ ∃ t ∈ x :: y :: S, ∃ w, (w, t) ∈ G.dir ∧ Anc G v w := by
  simp only [allAnc, List.mem_append, List.mem_flatMap, mem_ancStrict hwf, List.mem_cons,
    exists_eq_or_imp, or_assoc]

/-- the model's collider licence `cur ∈ all_ancestors ∨ cur ∈ S` implies the specification's -/
theorem ancOf_of_model {G : MG} (hwf : G.WF) {x y : Nat} {S : List Nat} {v : Nat}
    (h : v ∈ allAnc G x y S ∨ v ∈ S) : AncOf G x y S v := by
  rcases h with h | h
  · obtain ⟨t, ht, w, hwt, hvw⟩ := (mem_allAnc hwf).mp h
    exact ⟨t, ht, hvw.tail hwt⟩
  · exact ⟨v, List.mem_cons_of_mem _ (List.mem_cons_of_mem _ h), Anc.refl v⟩

theorem model_of_ancOf {G : MG} (hwf : G.WF) {x y : Nat} {S : List Nat} {v : Nat}
    (h : AncOf G x y S v) (hx : v ≠ x) (hy : v ≠ y) : v ∈ allAnc G x y S ∨ v ∈ S := by
  obtain ⟨t, ht, ha⟩ := h
  rcases anc_last ha with rfl | ⟨w, hvw, hwt⟩
  · simp only [List.mem_cons] at ht
    rcases ht with rfl | rfl | ht
    · exact absurd rfl hx
    · exact absurd rfl hy
    · exact Or.inr ht
  · exact Or.inl ((mem_allAnc hwf).mpr ⟨t, ht, w, hwt, hvw⟩)

theorem ancOf_step {G : MG} {x y : Nat} {S : List Nat} {a b : Nat} (e : (a, b) ∈ G.dir)
    (h : AncOf G x y S b) : AncOf G x y S a :=
  colliderOpen_up e h

theorem ancOf_x {G : MG} {x y : Nat} {S : List Nat} : AncOf G x y S x :=
  ⟨x, List.mem_cons_self, Anc.refl x⟩
theorem ancOf_y {G : MG} {x y : Nat} {S : List Nat} : AncOf G x y S y :=
  ⟨y, List.mem_cons_of_mem _ List.mem_cons_self, Anc.refl y⟩

/-- the guard `G.un ≠ [] ∨ G.circ ≠ []` of `inducing_path` / `dag_to_mag` / `is_maximal` does not fire -/
theorem not_foreign {G : MG} (hun : G.un = []) (hcirc : G.circ = []) : ¬ (G.un ≠ [] ∨ G.circ ≠ []) :=
  not_or.mpr ⟨not_not_intro hun, not_not_intro hcirc⟩

theorem no2_of_acyclic {G : MG} (h : Acyclic G) : ∀ a b, (a, b) ∈ G.dir → (b, a) ∉ G.dir :=
  fun _ _ => no_two_cycle h

theorem into_iff {G : MG} {p c : Nat} :
    into G p c = true ↔ ((p, c) ∈ G.dir ∨ (p, c) ∈ G.bi ∨ (c, p) ∈ G.bi) := by
  simp only [into, Bool.or_eq_true, decide_eq_true_eq, mem_parents, spouses, mem_sym]
  exact or_congr_right Or.comm

theorem into_of_hasEdge_head {G : MG} {p c : Nat} {mp : Mark} (h : HasEdge G p c mp .head) :
    into G p c = true := by
  rw [into_iff]
  rcases h with ⟨_, _, h⟩ | ⟨_, h2, _⟩ | ⟨_, _, h⟩ | ⟨_, h2, _⟩
  · exact Or.inl h
  · cases h2
  · exact Or.inr h
  · cases h2

theorem mem_nbrs {G : MG} {a b : Nat} :
    b ∈ nbrs G a ↔ ((b, a) ∈ G.dir ∨ (a, b) ∈ G.dir ∨ ((a, b) ∈ G.bi ∨ (b, a) ∈ G.bi) ∨
      ((a, b) ∈ G.un ∨ (b, a) ∈ G.un)) := by
  simp only [nbrs, List.mem_append, mem_parents, mem_children, spouses, unbrs, mem_sym, or_assoc]

theorem mem_nbrs_of_hasEdge {G : MG} {a b : Nat} {ma mb : Mark} (h : HasEdge G a b ma mb) :
    b ∈ nbrs G a := by
  rw [mem_nbrs]
  rcases h with ⟨_, _, h⟩ | ⟨_, _, h⟩ | ⟨_, _, h⟩ | ⟨_, _, h⟩
  · exact Or.inr (Or.inl h)
  · exact Or.inl h
  · exact Or.inr (Or.inr (Or.inl h))
  · exact Or.inr (Or.inr (Or.inr h))

theorem dir_of_tail {G : MG} (hun : G.un = []) {a b : Nat} {mb : Mark} (h : HasEdge G a b .tail mb) :
    (a, b) ∈ G.dir ∧ mb = .head := by
  cases hasEdge_tail_of_un_nil hun h
  exact ⟨h.dir_of_tail_head, rfl⟩

theorem dir_of_tail' {G : MG} (hun : G.un = []) {a b : Nat} {ma : Mark} (h : HasEdge G a b ma .tail) :
    (b, a) ∈ G.dir ∧ ma = .head := dir_of_tail hun h.symm

/-- the canonical choice of one edge on an adjacent pair: the bidirected edge if there is one, else
    the directed edge.  It puts an arrowhead wherever some edge of the pair has one. -/
def canon (G : MG) (a b : Nat) : Mark × Mark :=
  if (a, b) ∈ G.bi ∨ (b, a) ∈ G.bi then (.head, .head)
  else if (a, b) ∈ G.dir then (.tail, .head) else (.head, .tail)

theorem canon_snd_head {G : MG} {a b : Nat} : (canon G a b).2 = .head ↔ into G a b = true := by
  rw [into_iff]
  unfold canon
  have hne : Mark.tail ≠ Mark.head := fun h => nomatch h
  by_cases hb : (a, b) ∈ G.bi ∨ (b, a) ∈ G.bi
  · rw [if_pos hb]; exact iff_of_true rfl (Or.inr hb)
  · rw [if_neg hb]
    by_cases hd : (a, b) ∈ G.dir
    · rw [if_pos hd]; exact iff_of_true rfl (Or.inl hd)
    · rw [if_neg hd]; exact iff_of_false hne (fun h => h.elim hd hb)

theorem canon_spec {G : MG} (hun : G.un = []) (no2 : ∀ a b, (a, b) ∈ G.dir → (b, a) ∉ G.dir)
    {a b : Nat} (hadj : b ∈ nbrs G a) :
    HasEdge G a b (canon G a b).1 (canon G a b).2 ∧ ((canon G a b).1 = .head ↔ into G b a = true) := by
  rw [mem_nbrs, hun] at hadj
  rw [into_iff]
  unfold canon
  by_cases hb : (a, b) ∈ G.bi ∨ (b, a) ∈ G.bi
  · rw [if_pos hb]
    exact ⟨Or.inr (Or.inr (Or.inl ⟨rfl, rfl, hb⟩)), iff_of_true rfl (Or.inr hb.symm)⟩
  · rw [if_neg hb]
    by_cases hd : (a, b) ∈ G.dir
    · rw [if_pos hd]
      exact ⟨Or.inl ⟨rfl, rfl, hd⟩,
        iff_of_false (fun h => nomatch h) (fun h => h.elim (no2 _ _ hd) fun h => hb h.symm)⟩
    · rw [if_neg hd]
      have hba : (b, a) ∈ G.dir := by
        rcases hadj with h | h | h | h | h
        · exact h
        · exact absurd h hd
        · exact absurd h hb
        · exact nomatch h
        · exact nomatch h
      exact ⟨Or.inr (Or.inl ⟨rfl, rfl, hba⟩), iff_of_true rfl (Or.inl hba)⟩

end C06
