import Pw.C06.Search
import Pw.T2.Moral
open Closure

/-! # C06: model-level node paths (`NodeOK`, per-triple collider test) ↔ specification (`InducingPath`,
one edge per hop)

* `spec_of_nodeOK`: choose on every hop the canonical edge (`canon`: the bidirected one if present).  It
  carries an arrowhead wherever any edge of the pair does, so "collider by the node triple" becomes
  "collider on the path".
* `nodeOK_of_spec`: the only case where the triple test looks at the wrong licence is a node that is a
  non-collider on the path (so it is in `L`) while the triple says "collider" (a bow is involved).  Such a
  node has a tail on the path, and following the directed edges along an inducing path one ends in a
  collider or in an endpoint – all ancestors of x, y or S (`rightGood` / the left-to-right invariant). -/
namespace C06
open MG

variable {G : MG} {L S : List Nat} {x y : Nat}

/-- hops along a node list with the canonical edge choice -/
def canonHops (G : MG) : Nat → List Nat → List Hop
  | _, [] => []
  | a, b :: rest => ⟨(canon G a b).1, (canon G a b).2, b⟩ :: canonHops G b rest

theorem canonHops_nodes : ∀ (rest : List Nat) (a : Nat), (canonHops G a rest).map (·.nx) = rest
  | [], _ => rfl
  | b :: rest, _ => congrArg (b :: ·) (canonHops_nodes rest b)

theorem spec_of_nodeOK (hwf : G.WF) (hun : G.un = [])
    (no2 : ∀ a b, (a, b) ∈ G.dir → (b, a) ∉ G.dir) :
    ∀ (rest : List Nat) (prev a : Nat), a ∈ nbrs G prev →
      NodeOK G y L S (allAnc G x y S) prev a rest →
      ValidW G a (canonHops G a rest) ∧ endNode a (canonHops G a rest) = y ∧
      InnerOK G L S x y (some (canon G prev a).2) a (canonHops G a rest) := by
  intro rest
  induction rest with
  | nil => intro prev a _ hok; exact ⟨trivial, hok, trivial⟩
  | cons b rest ih =>
    intro prev a hadj ⟨_, hab, hpass, hok⟩
    obtain ⟨hv, he, hi⟩ := ih a b hab hok
    refine ⟨⟨(canon_spec hun no2 hab).1, hv⟩, he, ?_, hi⟩
    have hcoll : IsCollider (canon G prev a).2 (canon G a b).1 ↔ isCollider G prev a b = true := by
      unfold IsCollider isCollider
      rw [canon_snd_head, (canon_spec hun no2 hab).2, Bool.and_eq_true]
    rw [passes_iff] at hpass
    split at hpass
    · next hc => exact ⟨Or.inr (hcoll.mpr hc), fun _ => ancOf_of_model hwf hpass⟩
    · next hc => exact ⟨Or.inl hpass, fun h => absurd (hcoll.mp h) hc⟩

/-- following tails to the right along an inducing path one stays inside the ancestors of x, y, S -/
theorem rightGood (hun : G.un = []) :
    ∀ (t : List Hop) (h : Hop) (e : Option Mark) (a : Nat),
      ValidW G a (h :: t) → InnerOK G L S x y e a (h :: t) → endNode a (h :: t) = y →
      h.mp = .tail → AncOf G x y S a := by
  intro t
  induction t with
  | nil =>
    intro h e a hv _ hend hm
    have he := hv.1
    rw [hm, show h.nx = y from hend] at he
    exact ancOf_step (dir_of_tail hun he).1 ancOf_y
  | cons h2 t ih =>
    intro h e a hv hi hend hm
    have he := hv.1
    rw [hm] at he
    obtain ⟨hdir, hmn⟩ := dir_of_tail hun he
    have hi' : InnerOK G L S x y (some h.mn) h.nx (h2 :: t) := by
      cases e with
      | none => exact hi
      | some m => exact hi.2
    refine ancOf_step hdir ?_
    cases h2m : h2.mp with
    | tail => exact ih h2 (some h.mn) h.nx hv.2 hi' hend h2m
    | head => exact hi'.1.2 ⟨hmn, h2m⟩

/-- `m` is the entry mark at `a` (coming from `prev`) -/
theorem nodeOK_of_spec (hwf : G.WF) (hun : G.un = []) :
    ∀ (hs : List Hop) (m : Mark) (prev a : Nat),
      ValidW G a hs → InnerOK G L S x y (some m) a hs → endNode a hs = y →
      (nodesOf a hs).Nodup → x ∉ nodesOf a hs →
      (m = .head → into G prev a = true) → (m = .tail → AncOf G x y S a) →
      NodeOK G y L S (allAnc G x y S) prev a (hs.map (·.nx)) := by
  intro hs
  induction hs with
  | nil => intro _ _ a _ _ hend _ _ _ _; exact hend
  | cons h t ih =>
    intro m prev a hv hi hend hnd hx hin hgood
    obtain ⟨he, hv'⟩ := hv
    obtain ⟨hc, hi'⟩ := hi
    obtain ⟨hat, hnd'⟩ := List.nodup_cons.mp hnd
    have hay : a ≠ y := fun h' => hat (by rw [h', ← hend]; exact endNode_mem_nodesOf t h.nx)
    have hax : a ≠ x := fun h' => hx (by rw [h']; exact List.mem_cons_self)
    have hanc : AncOf G x y S a := by
      cases hm : m with
      | tail => exact hgood hm
      | head =>
        cases hp : h.mp with
        | tail => exact rightGood hun t h (some m) a ⟨he, hv'⟩ ⟨hc, hi'⟩ hend hp
        | head => exact hc.2 ⟨hm, hp⟩
    refine ⟨hay, mem_nbrs_of_hasEdge he, ?_, ?_⟩
    · rw [passes_iff]
      split
      · exact model_of_ancOf hwf hanc hax hay
      · next hcm =>
        rcases hc.1 with hl | hcol
        · exact hl
        · refine absurd ?_ hcm
          have he' := he.symm
          rw [hcol.2] at he'
          exact Bool.and_eq_true_iff.mpr ⟨hin hcol.1, into_of_hasEdge_head he'⟩
    · refine ih h.mn a h.nx hv' hi' hend hnd' (fun hc' => hx (List.mem_cons_of_mem _ hc')) ?_ ?_
      · intro hmn; rw [hmn] at he; exact into_of_hasEdge_head he
      · intro hmn; rw [hmn] at he
        exact ancOf_step (dir_of_tail' hun he).1 hanc

end C06
