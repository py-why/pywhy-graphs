import Pw.C06.Bridge
open Closure

/-! # C06: `inducing_path` model = specification (all inputs of the quantifier, no size bound) -/
namespace C06
open MG

variable {G : MG} {L S : List Nat} {x y : Nat}

/-- **soundness of the search**: the returned node list is an inducing path (for the canonical choice
    of one edge per hop) -/
theorem search_sound_spec (dom : Dom G L S x y) {p : List Nat} (h : search G x y L S = some p) :
    NodePathInducing G L S x y p := by
  obtain ⟨v, rest, rfl, hadj, hok, hnd⟩ := search_sound h
  obtain ⟨hv, he, hi⟩ := spec_of_nodeOK dom.wf dom.un dom.no2 rest x v hadj hok
  have hn : nodesOf x (canonHops G x (v :: rest)) = x :: v :: rest :=
    congrArg (x :: ·) (canonHops_nodes (v :: rest) x)
  exact ⟨canonHops G x (v :: rest),
    ⟨⟨(canon_spec dom.un dom.no2 hadj).1, hv⟩, he, by rw [hn]; exact hnd, hi⟩, hn⟩

/-- **completeness of the search** (after the backtracking fix): if an inducing path exists, the
    search returns one -/
theorem search_complete_spec (dom : Dom G L S x y) (h : HasInducingPath G L S x y) :
    (search G x y L S).isSome = true := by
  obtain ⟨hs, hval, hend, hnd, hi⟩ := h
  cases hs with
  | nil => exact absurd hend dom.hxy
  | cons h t =>
    have he := hval.1
    obtain ⟨hxt, hnd'⟩ := List.nodup_cons.mp hnd
    have hok := nodeOK_of_spec (x := x) dom.wf dom.un t h.mn x h.nx hval.2 hi hend hnd' hxt
      (fun hm => by rw [hm] at he; exact into_of_hasEdge_head he)
      (fun hm => by rw [hm] at he; exact ancOf_step (dir_of_tail' dom.un he).1 ancOf_x)
    exact search_complete (mem_nbrs_of_hasEdge he) hok hnd (nodesOf_mem_nodes dom.wf dom.hx hval)

/-- inside the quantifier the guards of `inducing_path` do not fire -/
theorem inducingPath_eq_search (dom : Dom G L S x y) :
    inducingPath G x y L S = .ok (search G x y L S) := by
  unfold inducingPath
  rw [if_neg (not_or.mpr ⟨not_not_intro dom.hx, not_not_intro dom.hy⟩), if_neg dom.hxy,
    if_neg (not_or.mpr ⟨dom.hxL, not_or.mpr ⟨dom.hyL, not_or.mpr ⟨dom.hxS, dom.hyS⟩⟩⟩),
    if_neg (not_foreign dom.un dom.circ)]

/-- **C06, inducing_path, clause "any path it returns is such a path".** -/
theorem inducingPath_sound (dom : Dom G L S x y) {p : List Nat}
    (h : inducingPath G x y L S = .ok (some p)) : NodePathInducing G L S x y p := by
  rw [inducingPath_eq_search dom] at h
  injection h with h
  exact search_sound_spec dom h

/-- **C06, inducing_path, clause "reports True iff a path exists …".** -/
theorem inducingPath_true_iff (dom : Dom G L S x y) :
    (∃ p, inducingPath G x y L S = .ok (some p)) ↔ HasInducingPath G L S x y := by
  rw [inducingPath_eq_search dom]
  constructor
  · rintro ⟨p, hp⟩
    injection hp with hp
    obtain ⟨hs, h, _⟩ := search_sound_spec dom hp
    exact ⟨hs, h⟩
  · intro h
    have := search_complete_spec dom h
    obtain ⟨p, hp⟩ := Option.isSome_iff_exists.mp this
    exact ⟨p, by rw [hp]⟩

theorem hasInd_iff (dom : Dom G L S x y) : hasInd G L S x y = true ↔ HasInducingPath G L S x y := by
  rw [← inducingPath_true_iff dom]
  unfold hasInd
  constructor
  · intro h
    split at h
    · rename_i p hp; exact ⟨p, hp⟩
    · cases h
  · rintro ⟨p, hp⟩
    rw [hp]

/-- the early exit: an endpoint in `L ∪ S` gives `(False, [])` (model fact; outside the quantifier) -/
theorem inducingPath_guard (hx : x ∈ G.nodes) (hy : y ∈ G.nodes) (hxy : x ≠ y)
    (h : x ∈ L ∨ y ∈ L ∨ x ∈ S ∨ y ∈ S) : inducingPath G x y L S = .ok none := by
  unfold inducingPath
  rw [if_neg (not_or.mpr ⟨not_not_intro hx, not_not_intro hy⟩), if_neg hxy, if_pos h]

/-! ## non-vacuity: a concrete input inside the domain with a proper inducing path through a
latent non-collider and a collider that is an ancestor of S -/
def exG : MG := { nodes := [0, 1, 2, 3, 4], dir := [(1, 0), (1, 2), (3, 2), (2, 4)] }

theorem exG_acyclic : Acyclic exG :=
  acyclic_of_rank (fun v => if v = 1 ∨ v = 3 then 0 else if v = 4 then 2 else 1) (by decide)

theorem exG_noSelfLoop : NoSelfLoop exG := noSelfLoop_of_ne (by decide)

theorem exG_dom : Dom exG [1] [4] 0 3 where
  wf := by unfold MG.WF; decide
  un := rfl
  circ := rfl
  no2 := no2_of_acyclic exG_acyclic
  hx := by decide
  hy := by decide
  hxy := by decide
  hxL := by decide
  hyL := by decide
  hxS := by decide
  hyS := by decide

/-- `0 <- 1 -> 2 <- 3`: 1 is a non-collider in L, 2 a collider with the descendant 4 ∈ S -/
theorem exG_path : InducingPath exG [1] [4] 0 3 [⟨.head, .tail, 1⟩, ⟨.tail, .head, 2⟩, ⟨.head, .tail, 3⟩] :=
  ⟨⟨Or.inr (Or.inl ⟨rfl, rfl, by decide⟩), Or.inl ⟨rfl, rfl, by decide⟩,
      Or.inr (Or.inl ⟨rfl, rfl, by decide⟩), trivial⟩,
    rfl, by decide,
    ⟨Or.inl (by decide), fun h => nomatch h.1⟩,
    ⟨Or.inr ⟨rfl, rfl⟩, fun _ => ⟨4, by decide, Anc.step (by decide) (Anc.refl 4)⟩⟩, trivial⟩

/-- non-vacuity of `inducingPath_true_iff` / `inducingPath_sound`: the model does return a path here -/
example : ∃ p, inducingPath exG 0 3 [1] [4] = .ok (some p) :=
  (inducingPath_true_iff exG_dom).mpr ⟨_, exG_path⟩

end C06
