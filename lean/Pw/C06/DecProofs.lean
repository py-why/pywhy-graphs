import Pw.C06.Dec
import Pw.C06.Proofs
open Closure

/-! # C06: the brute-force oracles are correct

* `validNodePath_iff`: the validator used on the implementation's returned path decides
  `NodePathInducing` (the specification, existentially over the choice of one edge per hop).
* `inducingDec_iff`: the brute-force decider over all simple paths × all edge choices decides
  `HasInducingPath`. -/
namespace C06
open MG

variable {G : MG} {L S : List Nat} {x y : Nat}

theorem hasEdgeB_iff {a b : Nat} {ma mb : Mark} : hasEdgeB G a b ma mb = true ↔ HasEdge G a b ma mb := by
  cases ma <;> cases mb <;> simp [hasEdgeB, HasEdge]

theorem mem_allMarks (m : Mark × Mark) : m ∈ allMarks := by
  obtain ⟨a, b⟩ := m
  cases a <;> cases b <;> decide

theorem mem_hopLists : ∀ (rest : List Nat) (a : Nat) (hs : List Hop),
    hs ∈ hopLists G a rest ↔ (ValidW G a hs ∧ hs.map (·.nx) = rest) := by
  intro rest
  induction rest with
  | nil =>
    intro a hs
    rw [hopLists, List.mem_singleton]
    exact ⟨fun h => h ▸ ⟨trivial, rfl⟩, fun h => List.map_eq_nil_iff.mp h.2⟩
  | cons b rest ih =>
    intro a hs
    simp only [hopLists, List.mem_flatMap, List.mem_filter, List.mem_map, ih]
    constructor
    · rintro ⟨m, ⟨_, hm⟩, t, ⟨hv, hn⟩, rfl⟩
      exact ⟨⟨hasEdgeB_iff.mp hm, hv⟩, congrArg (b :: ·) hn⟩
    · rintro ⟨hv, hn⟩
      cases hs with
      | nil => cases hn
      | cons h t =>
        obtain ⟨hb, ht⟩ := List.cons.inj (hn : h.nx :: t.map (·.nx) = b :: rest)
        subst hb
        exact ⟨(h.mp, h.mn), ⟨mem_allMarks _, hasEdgeB_iff.mpr hv.1⟩, t, ⟨hv.2, ht⟩, rfl⟩

theorem isColliderB_iff {a b : Mark} : isColliderB a b = true ↔ IsCollider a b := by
  simp only [isColliderB, IsCollider, Bool.and_eq_true, beq_iff_eq]

theorem condIB_iff (hwf : G.WF) (hZ : ∀ z ∈ x :: y :: S, z ∈ G.nodes) {mi mo : Mark} {v : Nat} :
    condIB L (G.anc (x :: y :: S)) mi mo v = true ↔ condI G L S x y mi mo v := by
  have hanc : v ∈ G.anc (x :: y :: S) ↔ AncOf G x y S v := mem_anc hwf hZ
  unfold condIB condI
  rw [Bool.and_eq_true, Bool.or_eq_true, Bool.or_eq_true, Bool.not_eq_true', decide_eq_true_eq,
    decide_eq_true_eq, hanc, ← isColliderB_iff]
  cases isColliderB mi mo <;> simp

theorem innerOKB_iff (hwf : G.WF) (hZ : ∀ z ∈ x :: y :: S, z ∈ G.nodes) :
    ∀ (hs : List Hop) (e : Option Mark) (a : Nat),
      innerOKB L (G.anc (x :: y :: S)) e a hs = true ↔ InnerOK G L S x y e a hs := by
  intro hs
  induction hs with
  | nil => intro e a; cases e <;> exact ⟨fun _ => trivial, fun _ => rfl⟩
  | cons h t ih =>
    intro e a
    cases e with
    | none => exact ih _ _
    | some m => rw [innerOKB, InnerOK, Bool.and_eq_true, condIB_iff hwf hZ, ih]

theorem any_hopLists_iff (hwf : G.WF) (hZ : ∀ z ∈ x :: y :: S, z ∈ G.nodes) (a : Nat)
    (rest : List Nat) :
    ((hopLists G a rest).any fun hs => innerOKB L (G.anc (x :: y :: S)) none a hs) = true ↔
      ∃ hs, ValidW G a hs ∧ hs.map (·.nx) = rest ∧ InnerOK G L S x y none a hs := by
  simp only [List.any_eq_true, mem_hopLists, innerOKB_iff hwf hZ, and_assoc]

theorem getLast_nodesOf : ∀ (hs : List Hop) (a : Nat), (nodesOf a hs).getLast? = some (endNode a hs)
  | [], _ => rfl
  | h :: t, _ => (List.getLast?_cons_cons).trans (getLast_nodesOf t h.nx)

/-- **the path validator decides the specification** -/
theorem validNodePath_iff (hwf : G.WF) (hZ : ∀ z ∈ x :: y :: S, z ∈ G.nodes) (p : List Nat) :
    validNodePath G L S x y p = true ↔ NodePathInducing G L S x y p := by
  unfold NodePathInducing InducingPath
  cases p with
  | nil =>
    constructor
    · intro h; cases h
    · rintro ⟨hs, _, h⟩; cases h
  | cons a rest =>
    simp only [validNodePath, Bool.and_eq_true, beq_iff_eq, decide_eq_true_eq,
      any_hopLists_iff hwf hZ]
    constructor
    · rintro ⟨⟨⟨rfl, hlast⟩, hnd⟩, hs, hv, hn, hok⟩
      have hp : nodesOf a hs = a :: rest := congrArg (a :: ·) hn
      refine ⟨hs, ⟨hv, ?_, by rw [hp]; exact hnd, hok⟩, hp⟩
      have := getLast_nodesOf hs a
      rw [hp, hlast] at this
      exact (Option.some.inj this).symm
    · rintro ⟨hs, ⟨hv, hend, hnd, hok⟩, hp⟩
      obtain ⟨rfl, hn⟩ := List.cons.inj hp
      exact ⟨⟨⟨rfl, by rw [← hp, getLast_nodesOf, hend]⟩, by rw [← hp]; exact hnd⟩, hs, hv, hn, hok⟩

/-- consecutive nodes are neighbours, the list ends in `y` and `y` occurs only there -/
def ChainTo (G : MG) (y : Nat) : Nat → List Nat → Prop
  | cur, [] => cur = y
  | cur, nx :: rest => cur ≠ y ∧ nx ∈ nbrs G cur ∧ ChainTo G y nx rest

theorem simplePaths_sound (y : Nat) : ∀ (fuel : Nat) (visited : List Nat) (cur : Nat) (p : List Nat),
    p ∈ simplePaths G y fuel visited cur →
      ChainTo G y cur p ∧ (cur :: p).Nodup ∧ ∀ v ∈ p, v ∉ cur :: visited := by
  intro fuel
  induction fuel with
  | zero => intro _ _ _ h; cases h
  | succ fuel ih =>
    intro visited cur p h
    rw [simplePaths] at h
    split at h
    · next hy =>
      rw [List.mem_singleton] at h
      subst h
      exact ⟨hy, List.nodup_cons.mpr ⟨List.not_mem_nil, List.nodup_nil⟩, fun _ hv => nomatch hv⟩
    · next hy =>
      obtain ⟨nx, hnx, hp⟩ := List.mem_flatMap.mp h
      split at hp
      · cases hp
      · next hv =>
        obtain ⟨q, hq, rfl⟩ := List.mem_map.mp hp
        obtain ⟨hc, hnd, hav⟩ := ih (cur :: visited) nx q hq
        exact ⟨⟨hy, List.mem_eraseDups.mp hnx, hc⟩, nodup_avoid_cons.mpr ⟨hv, hnd, hav⟩⟩

theorem simplePaths_complete (y : Nat) : ∀ (fuel : Nat) (visited : List Nat) (cur : Nat) (p : List Nat),
    ChainTo G y cur p → (cur :: p).Nodup → (∀ v ∈ p, v ∉ cur :: visited) → p.length < fuel →
      p ∈ simplePaths G y fuel visited cur := by
  intro fuel
  induction fuel with
  | zero => intro _ _ _ _ _ _ hlen; exact absurd hlen (Nat.not_lt_zero _)
  | succ fuel ih =>
    intro visited cur p hc hnd hav hlen
    rw [simplePaths]
    cases p with
    | nil => rw [if_pos (show cur = y from hc)]; exact List.mem_singleton.mpr rfl
    | cons nx rest =>
      obtain ⟨hy, hadj, hc⟩ := hc
      obtain ⟨hv, hnd', hav'⟩ := nodup_avoid_cons.mp ⟨hnd, hav⟩
      rw [if_neg hy]
      refine List.mem_flatMap.mpr ⟨nx, List.mem_eraseDups.mpr hadj, ?_⟩
      rw [if_neg hv]
      exact List.mem_map.mpr
        ⟨rest, ih (cur :: visited) nx rest hc hnd' hav' (Nat.lt_of_succ_lt_succ hlen), rfl⟩

theorem endNode_of_chain (y : Nat) : ∀ (hs : List Hop) (a : Nat),
    ChainTo G y a (hs.map (·.nx)) → endNode a hs = y
  | [], _, h => h
  | h :: t, _, hc => endNode_of_chain y t h.nx hc.2.2

theorem chain_of_valid (y : Nat) : ∀ (hs : List Hop) (a : Nat), ValidW G a hs → endNode a hs = y →
    (nodesOf a hs).Nodup → ChainTo G y a (hs.map (·.nx)) := by
  intro hs
  induction hs with
  | nil => intro a _ hend _; exact hend
  | cons h t ih =>
    intro a hv hend hnd
    obtain ⟨hat, hnd'⟩ := List.nodup_cons.mp hnd
    exact ⟨fun h' => hat (by rw [h', ← hend]; exact endNode_mem_nodesOf t h.nx),
      mem_nbrs_of_hasEdge hv.1, ih h.nx hv.2 hend hnd'⟩

/-- **the brute-force decider decides the specification** -/
theorem inducingDec_iff (hwf : G.WF) (hZ : ∀ z ∈ x :: y :: S, z ∈ G.nodes) :
    inducingDec G L S x y = true ↔ HasInducingPath G L S x y := by
  unfold inducingDec HasInducingPath InducingPath
  simp only [List.any_eq_true, any_hopLists_iff hwf hZ]
  constructor
  · rintro ⟨p, hp, hs, hv, rfl, hok⟩
    obtain ⟨hc, hnd, _⟩ := simplePaths_sound y _ _ _ _ hp
    exact ⟨hs, hv, endNode_of_chain y hs x hc, hnd, hok⟩
  · rintro ⟨hs, hv, hend, hnd, hok⟩
    refine ⟨hs.map (·.nx), ?_, hs, hv, rfl, hok⟩
    refine simplePaths_complete y _ _ _ _ (chain_of_valid y hs x hv hend hnd) hnd
      (fun v hvm hcm => ?_) ?_
    · rw [List.eq_of_mem_singleton hcm] at hvm
      exact (List.nodup_cons.mp hnd).1 hvm
    · have hsub := nodesOf_mem_nodes hwf (hZ _ List.mem_cons_self) hv
      exact Nat.lt_succ_of_le (Nat.le_of_succ_le (hnd.length_le_of_subset fun a ha => hsub a ha))

end C06
