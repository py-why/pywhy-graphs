import Pw.C16.Base
import Pw.C17.Model
open C16

/-! # C17 specification

"pds(G, x) is exactly the set of nodes v other than x joined to x by a path on which every
consecutive triple (a, b, c) has b a collider or a, b, c pairwise adjacent; with an endpoint y it is
the same set computed over paths that avoid y, without y, and empty when y is not connected to x.
pds_path(G, x, y) is that set intersected with the biconnected component of the adjacency graph
containing the x-y edge, and pds_t / pds_t_path additionally keep only nodes whose absolute lag does
not exceed that of x and y; in particular the sets are never smaller than the definition." -/
namespace C17

/-- the condition on a consecutive triple `(a, b, c)` of a path: `b` a collider or `a, b, c` pairwise
    adjacent (`a–b` and `b–c` are adjacent because they are consecutive) -/
def TripleOK (G : MG) (a b c : Nat) : Prop := Collider G a b c ∨ Adj G a c

instance (G : MG) (a b c : Nat) : Decidable (TripleOK G a b c) := by unfold TripleOK; infer_instance

/-- every consecutive triple of the list satisfies `TripleOK` -/
def TriplesOK (G : MG) : List Nat → Prop
  | a :: b :: c :: l => TripleOK G a b c ∧ TriplesOK G (b :: c :: l)
  | _ => True

instance (G : MG) : ∀ l, Decidable (TriplesOK G l)
  | [] => isTrue trivial
  | [_] => isTrue trivial
  | [_, _] => isTrue trivial
  | a :: b :: c :: l =>
    have := instDecidableTriplesOK G (b :: c :: l)
    by unfold TriplesOK; infer_instance

/-- `a` and `b` are connected in the adjacency graph -/
def Conn (G : MG) (a b : Nat) : Prop := ∃ l, ChainP (Adj G) (a :: l) ∧ lastOf a l = b

/-- the optional endpoint does not occur in the list -/
def Avoids (y : Option Nat) (p : List Nat) : Prop := ∀ y', y = some y' → y' ∉ p

instance (y : Option Nat) (p : List Nat) : Decidable (Avoids y p) := by
  unfold Avoids
  cases y with
  | none => exact isTrue (by intro _ h; cases h)
  | some y' =>
    exact if h : y' ∈ p then isFalse (fun H => H y' rfl h) else isTrue (by intro _ e; cases e; exact h)

/-- `p` is a path of the definition: simple, from `x`, at least one edge, avoiding `y`, all triples ok -/
def GoodPath (G : MG) (x : Nat) (y : Option Nat) (p : List Nat) : Prop :=
  IsPath G p ∧ p.head? = some x ∧ 2 ≤ p.length ∧ Avoids y p ∧ TriplesOK G p

instance (G : MG) (x : Nat) (y : Option Nat) (p : List Nat) : Decidable (GoodPath G x y p) := by
  unfold GoodPath; infer_instance

/-- **the property's PATH definition** of `pds(G, x, y)` -/
def PdsDef (G : MG) (x : Nat) (y : Option Nat) (v : Nat) : Prop :=
  (∀ y', y = some y' → Conn G x y') ∧ ∃ p, GoodPath G x y p ∧ p.getLast? = some v

/-- **oracle**: enumerate every simple path from `x` -/
def pdsDec (G : MG) (x : Nat) (y : Option Nat) : List Nat :=
  let ps := simplePaths G x
  if (match y with
      | none => true
      | some y' => ps.any fun p => decide (p.getLast? = some y')) then
    (ps.filter fun p => decide (GoodPath G x y p)).filterMap (·.getLast?)
  else []

/-- no immediate backtracking: `w_{i+2} ≠ w_i` -/
def NoBacktrack : List Nat → Prop
  | a :: b :: c :: l => c ≠ a ∧ NoBacktrack (b :: c :: l)
  | _ => True

instance : ∀ l, Decidable (NoBacktrack l)
  | [] => isTrue trivial
  | [_] => isTrue trivial
  | [_, _] => isTrue trivial
  | a :: b :: c :: l =>
    have := instDecidableNoBacktrack (b :: c :: l)
    by unfold NoBacktrack; infer_instance

/-- **what the edge-state BFS computes**: ends of *walks* from `x` that never return to `x`, never touch
    `y`, never step straight back, and whose consecutive triples are all ok -/
def PdsWalk (G : MG) (x : Nat) (y : Option Nat) (v : Nat) : Prop :=
  ∃ l, l ≠ [] ∧ ChainP (Adj G) (x :: l) ∧ lastOf x l = v ∧ x ∉ l ∧ Avoids y l ∧
    NoBacktrack (x :: l) ∧ TriplesOK G (x :: l)

/-- `w` lies in the biconnected component of the adjacency graph that contains the edge x–y: it is an
    endpoint, or it lies on a simple path from `x` to `y` with at least two edges (equivalently on a
    simple cycle through the edge) -/
def InBicomp (G : MG) (x y w : Nat) : Prop :=
  Adj G x y ∧ (w = x ∨ w = y ∨ ∃ p, IsPath G p ∧ p.head? = some x ∧ p.getLast? = some y ∧ 3 ≤ p.length ∧ w ∈ p)

/-- the lag filter of `pds_t` / `pds_t_path` -/
def LagOK (L : List Nat) (x y v : Nat) : Prop := lagOf L v ≤ max (lagOf L x) (lagOf L y)

end C17
