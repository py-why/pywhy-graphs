import Pw.C17.Model
import Pw.C17.Spec
open Closure C16

/-! # C17 theorems

* `mem_pdsW_iff_walk` – the intended edge-state search computes exactly the WALK characterisation;
* `pdsDef_subset_pdsW` – it contains the property's PATH definition (the direction FCI needs);
* `mem_pdsDec` – the brute-force oracle of the harness is the PATH definition;
* `mem_pds_iff`, `pds_subset_pdsDef` – the code as it is (literal model) finds exactly the nodes within two
  edges of `x` along a qualifying path, hence never a node outside the definition. -/
namespace C17

def NoLoop (G : MG) : Prop := ∀ v, ¬ Adj G v v

theorem Conn.refl (G : MG) (a : Nat) : Conn G a a := Joined.refl _ a

theorem Conn.snoc {G : MG} {a b c : Nat} (h : Conn G a b) (hbc : Adj G b c) : Conn G a c := Joined.snoc h hbc

theorem Conn.trans {G : MG} {a b c : Nat} (h1 : Conn G a b) (h2 : Conn G b c) : Conn G a c := Joined.trans h1 h2

theorem Conn.symm {G : MG} {a b : Nat} (h : Conn G a b) : Conn G b a :=
  (Joined.reverse h).imp fun _ _ => Adj.symm

theorem Conn.of_adj {G : MG} {a b : Nat} (h : Adj G a b) : Conn G a b := (Conn.refl G a).snoc h

theorem step_nbrs {G : MG} (hw : WF G) {u v : Nat} : Step G.nodes (nbrs G) u v ↔ Adj G u v := by
  rw [Step, mem_nbrs_wf hw]
  exact ⟨fun h => h.1, fun h => ⟨h, (h.mem_nodes hw).2⟩⟩

theorem hasPath_iff {G : MG} (hw : WF G) {a b : Nat} : hasPath G a b = true ↔ a ∈ G.nodes ∧ Conn G a b := by
  rw [hasPath, decide_eq_true_eq, mem_closure_singleton]
  exact and_congr_right fun _ => Joined.congr fun _ _ => step_nbrs hw

/-- the connectivity side condition of `pds(G, x, y)` -/
def YConn (G : MG) (x : Nat) (y : Option Nat) : Prop := ∀ y', y = some y' → Conn G x y'

theorem pdsDef_iff {G : MG} {x : Nat} {y : Option Nat} {v : Nat} :
    PdsDef G x y v ↔ YConn G x y ∧ ∃ p, GoodPath G x y p ∧ p.getLast? = some v := Iff.rfl

theorem reachesY_iff {G : MG} (hw : WF G) {y : Option Nat} {v : Nat} (hv : v ∈ G.nodes) :
    reachesY G y v = true ↔ YConn G v y := by
  unfold reachesY YConn
  cases y with
  | none => simp
  | some y' => simp [hasPath_iff hw, hv]

theorem mem_ite_reachesY {G : MG} (hw : WF G) {y : Option Nat} {v : Nat} (hv : v ∈ G.nodes) {α : Type} {l : List α}
    {a : α} : a ∈ (if !reachesY G y v then [] else l) ↔ YConn G v y ∧ a ∈ l := by
  rw [← reachesY_iff hw hv]
  cases reachesY G y v
  · exact ⟨(fun h => nomatch h), fun h => nomatch h.1⟩
  · exact (and_iff_right rfl).symm

theorem YConn.of_conn {G : MG} {x : Nat} {y : Option Nat} (h : YConn G x y) {v : Nat} (hv : Conn G x v) :
    YConn G v y :=
  fun y' e => hv.symm.trans (h y' e)

/-- states `(prev, this)` the search visits.  `carry` is the flag of `expand`: the intended search moves on to
    `(this, next)`, the code as it is to `(prev, next)`, so that its `prev` never changes. -/
inductive WalkSt (carry : Bool) (G : MG) (x : Nat) (y : Option Nat) : St → Prop
  | init {v : Nat} : Adj G x v → some v ≠ y → WalkSt carry G x y (x, v)
  | step {p t n : Nat} : WalkSt carry G x y (p, t) → Adj G t n → n ≠ p → n ≠ x → some n ≠ y →
      TripleOK G p t n → WalkSt carry G x y (if carry then t else p, n)

section
variable {carry : Bool} {G : MG} {x : Nat} {y : Option Nat}

theorem WalkSt.facts (hw : WF G) (hx : x ∈ G.nodes) {st : St} (h : WalkSt carry G x y st) :
    st.1 ∈ G.nodes ∧ st.2 ∈ G.nodes ∧ Conn G x st.2 := by
  induction h with
  | init ha hy => exact ⟨hx, (ha.mem_nodes hw).2, Conn.of_adj ha⟩
  | step _ ha _ _ hy _ ih =>
    refine ⟨?_, (ha.mem_nodes hw).2, ih.2.2.snoc ha⟩
    cases carry
    · exact ih.1
    · exact ih.2.1

theorem mem_states {a b : Nat} : (a, b) ∈ states G ↔ a ∈ G.nodes ∧ b ∈ G.nodes := by
  simp [states]

theorem mem_initEdges (hw : WF G) (hyc : YConn G x y) {st : St} :
    st ∈ initEdges G x y ↔ ∃ v, Adj G x v ∧ some v ≠ y ∧ st = (x, v) := by
  unfold initEdges
  simp only [List.mem_map, List.mem_filter, mem_nbrs_wf hw, Bool.and_eq_true, Bool.not_eq_eq_eq_not, Bool.not_true,
    beq_eq_false_iff_ne, ne_eq]
  constructor
  · rintro ⟨v, ⟨ha, hy, _⟩, rfl⟩
    exact ⟨v, ha, hy, rfl⟩
  · rintro ⟨v, ha, hy, rfl⟩
    exact ⟨v, ⟨ha, hy, (reachesY_iff hw (ha.mem_nodes hw).2).mpr (hyc.of_conn (Conn.of_adj ha))⟩, rfl⟩

theorem mem_expand (hw : WF G) {p t : Nat} (ht : t ∈ G.nodes) {st : St} :
    st ∈ expand carry G x y (p, t) ↔
      YConn G t y ∧ ∃ n, Adj G t n ∧ n ≠ p ∧ n ≠ x ∧ some n ≠ y ∧ TripleOK G p t n ∧
        st = (if carry then t else p, n) := by
  rw [expand, mem_ite_reachesY hw ht]
  refine and_congr_right fun _ => ?_
  simp only [List.mem_map, List.mem_filter, mem_nbrs_wf hw, candidate, Bool.and_eq_true, Bool.not_eq_eq_eq_not,
    Bool.not_true, Bool.or_eq_false_iff, beq_eq_false_iff_ne, ne_eq, Bool.or_eq_true, decide_eq_true_eq, TripleOK]
  constructor
  · rintro ⟨n, ⟨ha, ⟨⟨h1, h2⟩, h3⟩, h4⟩, rfl⟩
    exact ⟨n, ha, h1, h2, h3, h4, rfl⟩
  · rintro ⟨n, ha, h1, h2, h3, h4, rfl⟩
    exact ⟨n, ⟨ha, ⟨⟨h1, h2⟩, h3⟩, h4⟩, rfl⟩

theorem mem_reach_iff_walkSt (carry : Bool) (hw : WF G) (hx : x ∈ G.nodes) (hyc : YConn G x y) (st : St) :
    st ∈ closure (states G) (expand carry G x y) (initEdges G x y) ↔ WalkSt carry G x y st := by
  rw [mem_closure]
  constructor
  · rintro ⟨w, hwi, -, hr⟩
    induction hr with
    | refl =>
      obtain ⟨v, h2, h3, rfl⟩ := (mem_initEdges hw hyc).mp hwi
      exact WalkSt.init h2 h3
    | @tail b c _ hs ih =>
      obtain ⟨-, n, ha, h1, h2, h3, h4, rfl⟩ := (mem_expand hw (ih.facts hw hx).2.1).mp hs.1
      exact WalkSt.step (p := b.1) (t := b.2) ih ha h1 h2 h3 h4
  · intro h
    induction h with
    | @init v ha hy =>
      exact ⟨(x, v), (mem_initEdges hw hyc).mpr ⟨v, ha, hy, rfl⟩, mem_states.mpr ⟨hx, (ha.mem_nodes hw).2⟩,
        Reach.refl _⟩
    | @step p t n hprev ha h1 h2 h3 h4 ih =>
      obtain ⟨w, hwi, hwU, hr⟩ := ih
      obtain ⟨hp, ht, hc⟩ := hprev.facts hw hx
      refine ⟨w, hwi, hwU, Reach.tail hr ⟨(mem_expand hw ht).mpr ⟨hyc.of_conn hc, n, ha, h1, h2, h3, h4, rfl⟩,
        mem_states.mpr ⟨?_, (ha.mem_nodes hw).2⟩⟩⟩
      cases carry
      · exact hp
      · exact ht

theorem mem_pdsGen_iff (carry : Bool) (hw : WF G) (hx : x ∈ G.nodes) (v : Nat) :
    v ∈ pdsGen carry G x y ↔ YConn G x y ∧ ∃ p, WalkSt carry G x y (p, v) := by
  rw [pdsGen, mem_ite_reachesY hw hx]
  refine and_congr_right fun hyc => ?_
  simp only [List.mem_append, List.mem_map, List.mem_filter, mem_reach_iff_walkSt carry hw hx hyc]
  constructor
  · rintro (⟨st, hst, rfl⟩ | ⟨st, ⟨hst, _⟩, rfl⟩)
    · obtain ⟨v, h2, h3, rfl⟩ := (mem_initEdges hw hyc).mp hst
      exact ⟨x, WalkSt.init h2 h3⟩
    · exact ⟨st.1, hst⟩
  · rintro ⟨p, h⟩
    obtain ⟨-, hv, hc⟩ := h.facts hw hx
    exact Or.inr ⟨(p, v), ⟨h, (reachesY_iff hw hv).mpr (hyc.of_conn hc)⟩, rfl⟩

theorem avoids_nil : Avoids y [] := fun _ _ h => nomatch h

theorem avoids_cons {a : Nat} {l : List Nat} : Avoids y (a :: l) ↔ some a ≠ y ∧ Avoids y l :=
  ⟨fun h => ⟨fun e => h a e.symm List.mem_cons_self, fun y' e hm => h y' e (List.mem_cons_of_mem _ hm)⟩,
    fun h y' e hm => (List.mem_cons.mp hm).elim (fun e' => h.1 (e' ▸ e.symm)) (h.2 y' e)⟩

/-- `l` continues a walk of the search that stands at `t`, having come from `p` -/
def Continues (G : MG) (x : Nat) (y : Option Nat) (p t : Nat) (l : List Nat) : Prop :=
  ChainP (Adj G) (t :: l) ∧ x ∉ l ∧ Avoids y l ∧ NoBacktrack (p :: t :: l) ∧ TriplesOK G (p :: t :: l)

theorem continues_cons {p t n : Nat} {l : List Nat} :
    Continues G x y p t (n :: l) ↔
      (Adj G t n ∧ n ≠ p ∧ n ≠ x ∧ some n ≠ y ∧ TripleOK G p t n) ∧ Continues G x y t n l := by
  unfold Continues
  rw [chainP_cons_cons, List.mem_cons, not_or, avoids_cons, NoBacktrack, TriplesOK]
  constructor
  · rintro ⟨⟨ha, hc⟩, ⟨hx, hxl⟩, ⟨hy, hav⟩, ⟨hb, hnb⟩, ht, htr⟩
    exact ⟨⟨ha, hb, Ne.symm hx, hy, ht⟩, hc, hxl, hav, hnb, htr⟩
  · rintro ⟨⟨ha, hb, hx, hy, ht⟩, hc, hxl, hav, hnb, htr⟩
    exact ⟨⟨ha, hc⟩, ⟨Ne.symm hx, hxl⟩, ⟨hy, hav⟩, ⟨hb, hnb⟩, ht, htr⟩

theorem list_to_walkSt {p t : Nat} (h : WalkSt true G x y (p, t)) {l : List Nat}
    (hl : Continues G x y p t l) : ∃ p', WalkSt true G x y (p', lastOf t l) := by
  induction l generalizing p t with
  | nil => exact ⟨p, h⟩
  | cons n l ih =>
    obtain ⟨⟨ha, hb, hx, hy, ht⟩, hl'⟩ := continues_cons.mp hl
    exact ih (WalkSt.step h ha hb hx hy ht) hl'

theorem reach_head_induction {α : Type} {U : List α} {step : α → List α} {a b : α} (h : Reach U step a b)
    {P : α → Prop} (refl : P b) (head : ∀ a c, Step U step a c → P c → P a) : P a := by
  induction h with
  | refl => exact refl
  | tail _ s ih => exact ih (head _ _ s refl)

/-- the walk is read off a chain of states from its start, so that it grows by `cons` -/
theorem walk_of_reach (hw : WF G) {a b : St}
    (hr : Reach (states G) (expand true G x y) a b) (ha : a.2 ∈ G.nodes) :
    ∃ l, lastOf a.2 l = b.2 ∧ Continues G x y a.1 a.2 l := by
  refine reach_head_induction hr (P := fun a => a.2 ∈ G.nodes → ∃ l, lastOf a.2 l = b.2 ∧ Continues G x y a.1 a.2 l)
    (fun _ => ⟨[], rfl, trivial, List.not_mem_nil, avoids_nil, trivial, trivial⟩) ?_ ha
  intro a c hs ih ht
  obtain ⟨-, n, hadj, h1, h2, h3, h4, rfl⟩ := (mem_expand hw ht).mp hs.1
  obtain ⟨l, hlast, hl⟩ := ih (hadj.mem_nodes hw).2
  exact ⟨n :: l, lastOf_cons.trans hlast, continues_cons.mpr ⟨⟨hadj, h1, h2, h3, h4⟩, hl⟩⟩

end

/-- ★ **walk characterisation**: the intended edge-state search returns exactly the ends of walks from
    `x` that never return to `x`, never touch `y`, never step straight back and whose consecutive
    triples are all collider-or-triangle (and nothing when `y` is not connected to `x`) -/
theorem mem_pdsW_iff_walk {G : MG} (hw : WF G) (hl : NoLoop G) {x : Nat} (hx : x ∈ G.nodes) {y : Option Nat}
    (v : Nat) : v ∈ pdsW G x y ↔ YConn G x y ∧ PdsWalk G x y v := by
  rw [pdsW, mem_pdsGen_iff true hw hx]
  refine and_congr_right fun hyc => ?_
  constructor
  · rintro ⟨p, h⟩
    obtain ⟨w, hwi, hwU, hr⟩ := (mem_closure _ _ _ _).mp ((mem_reach_iff_walkSt true hw hx hyc (p, v)).mpr h)
    obtain ⟨t, ha, hy, rfl⟩ := (mem_initEdges hw hyc).mp hwi
    obtain ⟨l, hlast, hc, hxl, hav, hnb, htr⟩ := walk_of_reach hw hr (mem_states.mp hwU).2
    exact ⟨t :: l, List.cons_ne_nil _ _, ⟨ha, hc⟩, lastOf_cons.trans hlast,
      fun hm => (List.mem_cons.mp hm).elim (fun e => hl x (e ▸ ha)) hxl, avoids_cons.mpr ⟨hy, hav⟩, hnb, htr⟩
  · rintro ⟨l, hne, hc, hlast, hx', hav, hnb, htr⟩
    cases l with
    | nil => exact absurd rfl hne
    | cons t l =>
      exact hlast ▸ list_to_walkSt (WalkSt.init hc.1 (avoids_cons.mp hav).1)
        ⟨hc.2, fun hm => hx' (List.mem_cons_of_mem _ hm), (avoids_cons.mp hav).2, hnb, htr⟩

theorem noBacktrack_of_nodup {l : List Nat} (h : l.Nodup) : NoBacktrack l := by
  induction l with
  | nil => trivial
  | cons a l ih =>
    match l, h, ih with
    | [], _, _ => trivial
    | [_], _, _ => trivial
    | _ :: c :: _, h, ih =>
      exact ⟨fun e => (List.nodup_cons.mp h).1 (e ▸ List.mem_cons_of_mem _ List.mem_cons_self),
        ih (List.nodup_cons.mp h).2⟩

theorem PdsDef.walk {G : MG} {x : Nat} {y : Option Nat} {v : Nat} (h : PdsDef G x y v) : PdsWalk G x y v := by
  obtain ⟨-, p, ⟨⟨-, hnd, hch⟩, hh, hlen, hav, htr⟩, hlast⟩ := h
  obtain ⟨l, rfl⟩ := List.head?_eq_some_iff.mp hh
  refine ⟨l, ?_, hch, Option.some.inj ((getLast?_cons_eq_lastOf x l).symm.trans hlast),
    (List.nodup_cons.mp hnd).1, (avoids_cons.mp hav).2, noBacktrack_of_nodup hnd, htr⟩
  rintro rfl; exact Nat.not_succ_le_self 1 hlen

theorem PdsWalk.ne {G : MG} {x : Nat} {y : Option Nat} {v : Nat} (h : PdsWalk G x y v) : v ≠ x ∧ some v ≠ y := by
  obtain ⟨l, hne, -, hlast, hxl, hav, -⟩ := h
  have hm : v ∈ l := hlast ▸ lastOf_mem_tail hne
  exact ⟨fun e => hxl (e ▸ hm), fun e => hav v e.symm hm⟩

/-- ★ **safety direction**: every node of the property's PATH definition is returned by the intended
    search (`pdsW ⊇ definition`) -/
theorem pdsDef_subset_pdsW {G : MG} (hw : WF G) (hl : NoLoop G) {x : Nat} (hx : x ∈ G.nodes) {y : Option Nat}
    {v : Nat} (h : PdsDef G x y v) : v ∈ pdsW G x y :=
  (mem_pdsW_iff_walk hw hl hx v).mpr ⟨(pdsDef_iff.mp h).1, h.walk⟩

theorem any_last_iff_conn {G : MG} (hw : WF G) {x : Nat} (hx : x ∈ G.nodes) (y' : Nat) :
    ((simplePaths G x).any fun p => decide (p.getLast? = some y')) = true ↔ Conn G x y' := by
  rw [Conn, ← Joined, joined_iff_pathTo (fun _ _ h => (h.mem_nodes hw).2) hx]
  simp only [List.any_eq_true, decide_eq_true_eq, mem_simplePaths hx]
  constructor
  · rintro ⟨p, ⟨hp, hh⟩, hl⟩; exact ⟨p, hp.1, hp.2.1, hp.2.2, hh, hl⟩
  · rintro ⟨p, hn, hnd, hc, hh, hl⟩; exact ⟨p, ⟨⟨hn, hnd, hc⟩, hh⟩, hl⟩

/-- ★ the brute-force oracle of the harness *is* the property's path definition -/
theorem mem_pdsDec {G : MG} (hw : WF G) {x : Nat} (hx : x ∈ G.nodes) {y : Option Nat} (v : Nat) :
    v ∈ pdsDec G x y ↔ PdsDef G x y v := by
  have key : v ∈ ((simplePaths G x).filter fun p => decide (GoodPath G x y p)).filterMap (·.getLast?) ↔
      ∃ p, GoodPath G x y p ∧ p.getLast? = some v := by
    simp only [List.mem_filterMap, List.mem_filter, decide_eq_true_eq, mem_simplePaths hx]
    constructor
    · rintro ⟨p, ⟨_, hg⟩, hl⟩; exact ⟨p, hg, hl⟩
    · rintro ⟨p, hg, hl⟩; exact ⟨p, ⟨⟨hg.1, hg.2.1⟩, hg⟩, hl⟩
  unfold pdsDec
  dsimp only
  rw [List.mem_ite_nil_right, key, pdsDef_iff]
  refine and_congr_left' ?_
  cases y with
  | none => exact ⟨fun _ _ e => (nomatch e), fun _ => rfl⟩
  | some y' => exact (any_last_iff_conn hw hx y').trans ⟨fun h _ e => Option.some.inj e ▸ h, fun h => h y' rfl⟩

/-- what a literal state looks like: a neighbour of `x`, or a second node behind a collider at a
    neighbour of `x` -/
def Near (G : MG) (x : Nat) (y : Option Nat) (v : Nat) : Prop :=
  some v ≠ y ∧ (Adj G x v ∨ (v ≠ x ∧ ∃ u ∈ G.nodes, Adj G x u ∧ some u ≠ y ∧ Adj G u v ∧ Collider G x u v))

theorem Collider.adj_left {G : MG} {a b c : Nat} (h : Collider G a b c) : Adj G a b := by
  rcases h.1 with h | h | h
  · exact .inl h
  · exact .inr (.inr (.inl h))
  · exact .inr (.inr (.inr (.inl h)))

/-- the states of the literal search keep `prev = x`, so every triple it tests starts at `x` -/
theorem walkSt_false_iff {G : MG} (hw : WF G) {x : Nat} {y : Option Nat} {st : St} :
    WalkSt false G x y st ↔ st.1 = x ∧ Near G x y st.2 := by
  constructor
  · intro h
    induction h with
    | init ha hy => exact ⟨rfl, hy, Or.inl ha⟩
    | @step p t n _ ha _ h2 h3 h4 ih =>
      obtain ⟨rfl, hty, _⟩ := ih
      refine ⟨rfl, h3, ?_⟩
      rcases h4 with hcol | hadj
      · exact Or.inr ⟨h2, t, (ha.mem_nodes hw).1, hcol.adj_left, hty, ha, hcol⟩
      · exact Or.inl hadj
  · obtain ⟨p, v⟩ := st
    rintro ⟨rfl, hvy, ha | ⟨hvx, u, -, hxu, huy, huv, hcol⟩⟩
    · exact WalkSt.init ha hvy
    · exact WalkSt.step (WalkSt.init hxu huy) huv hvx hvx hvy (Or.inl hcol)

/-- ★ **what `pds` computes on the current tree, exactly**: the neighbours of `x` (other than `y`) and
    the nodes `v ∉ {x, y}` behind a collider `x *-> u <-* v` at such a neighbour `u` – nothing further away,
    because the queued edge keeps `prev_node = x` (known finding `C17-pds-queues-prev-next`) -/
theorem mem_pds_iff {G : MG} (hw : WF G) {x : Nat} (hx : x ∈ G.nodes) {y : Option Nat} (v : Nat) :
    v ∈ pds G x y ↔ YConn G x y ∧ Near G x y v := by
  rw [pds, mem_pdsGen_iff false hw hx]
  exact and_congr_right fun _ =>
    ⟨fun h => h.elim fun _ h => ((walkSt_false_iff hw).mp h).2, fun h => ⟨x, (walkSt_false_iff hw).mpr ⟨rfl, h⟩⟩⟩

theorem mem_pds_imp {G : MG} (hw : WF G) {x : Nat} (hx : x ∈ G.nodes) {y : Option Nat} {v : Nat}
    (h : v ∈ pds G x y) : YConn G x y ∧ Near G x y v :=
  (mem_pds_iff hw hx v).mp h

/-- ★ the code as it is never returns a node outside the path definition (`pds ⊆ definition`); by
    `pds_counterexample_too_small` the inclusion can be strict – the unsafe direction -/
theorem pds_subset_pdsDef {G : MG} (hw : WF G) (hl : NoLoop G) {x : Nat} (hx : x ∈ G.nodes) {y : Option Nat}
    (hxy : some x ≠ y) {v : Nat} (h : v ∈ pds G x y) : PdsDef G x y v := by
  obtain ⟨hyc, hvy, hnear⟩ := mem_pds_imp hw hx h
  have ne_of_adj : ∀ {a b}, Adj G a b → a ≠ b := fun ha e => hl _ (e ▸ ha)
  refine pdsDef_iff.mpr ⟨hyc, ?_⟩
  rcases hnear with ha | ⟨hvx, u, hu, hxu, huy, huv, hcol⟩
  · refine ⟨[x, v], ⟨⟨?_, ?_, ha, trivial⟩, rfl, Nat.le_refl 2, ?_, trivial⟩, rfl⟩
    · simp only [List.forall_mem_cons, List.not_mem_nil, false_imp_iff, implies_true, and_true]
      exact ⟨hx, (ha.mem_nodes hw).2⟩
    · simp only [List.nodup_cons, List.mem_singleton, List.not_mem_nil, not_false_eq_true, List.nodup_nil, and_true]
      exact ne_of_adj ha
    · exact avoids_cons.mpr ⟨hxy, avoids_cons.mpr ⟨hvy, avoids_nil⟩⟩
  · refine ⟨[x, u, v], ⟨⟨?_, ?_, hxu, huv, trivial⟩, rfl, Nat.le_add_left 2 1, ?_, Or.inl hcol, trivial⟩, rfl⟩
    · simp only [List.forall_mem_cons, List.not_mem_nil, false_imp_iff, implies_true, and_true]
      exact ⟨hx, hu, (huv.mem_nodes hw).2⟩
    · simp only [List.nodup_cons, List.mem_cons, List.not_mem_nil, not_false_eq_true, List.nodup_nil, and_true,
        not_or]
      exact ⟨⟨ne_of_adj hxu, Ne.symm hvx⟩, ne_of_adj huv⟩
    · exact avoids_cons.mpr ⟨hxy, avoids_cons.mpr ⟨huy, avoids_cons.mpr ⟨hvy, avoids_nil⟩⟩⟩

end C17
