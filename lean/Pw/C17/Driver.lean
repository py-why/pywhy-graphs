import Pw.Core.Proto
import Pw.C17.Model
import Pw.C17.Spec
open Proto

namespace C17

/-- `pdsmulti <graph> [L=lag0,lag1,…] mode=model|walk|spec Q=x:y;x:n;…` (`n` = no endpoint).
    Answer per query, joined by `/`: `pds` for `x:n`, else `pds#pds_path#pds_t#pds_t_path`.
    `mode=model`: the literal model of the code; `mode=walk`: the intended search `pdsW`;
    `mode=spec`: the simple-path oracle `pdsDec`. -/
def hMulti : Handler := fun a =>
  let G := a.graph
  let L := a.nats "L"
  let mode := a.get "mode"
  let f := fun x y => if mode == "spec" then pdsDec G x y else if mode == "walk" then pdsW G x y else pds G x y
  let qs := ((a.get "Q").splitOn ";").filter (· ≠ "")
  "/".intercalate <| qs.map fun q =>
    match q.splitOn ":" with
    | [x, y] =>
      let x := x.toNat?.getD 0
      match y.toNat? with
      | none => fmtSet (f x none)
      | some y =>
        let base := f x (some y)
        let inB := fun v => decide (v ∈ bicomp G x y)
        let lagok := fun v => decide (lagOf L v ≤ max (lagOf L x) (lagOf L y))
        fmtSet base ++ "#" ++ fmtSet (base.filter inB) ++ "#" ++ fmtSet (base.filter lagok) ++ "#" ++
          fmtSet ((base.filter inB).filter lagok)
    | _ => "bad-query"

/-- `pdsgoodpath <graph> x= y=<k>|n P=…` → is the node list `x :: P` a path of `GoodPath` -/
def hValid : Handler := fun a =>
  let G := a.graph
  let x := a.nat "x"
  let y := a.nat? "y"
  fmtBool (decide (GoodPath G x y (x :: a.nats "P")))

def handlers : List (String × Handler) := [("pdsmulti", hMulti), ("pdsgoodpath", hValid)]
end C17
