import Pw.C17.Proofs
open Closure C16

/-! # C17: component / lag restrictions as intersections, counterexample theorems of the two known
findings, non-vacuity examples -/
namespace C17

def NoLoopD (G : MG) : Prop :=
  (∀ e ∈ G.dir, e.1 ≠ e.2) ∧ (∀ e ∈ G.bi, e.1 ≠ e.2) ∧ (∀ e ∈ G.un, e.1 ≠ e.2) ∧ (∀ e ∈ G.circ, e.1 ≠ e.2)

instance (G : MG) : Decidable (NoLoopD G) := by unfold NoLoopD; infer_instance

theorem noLoop_of_D {G : MG} (h : NoLoopD G) : NoLoop G := by
  obtain ⟨hd, hb, hu, hc⟩ := h
  intro v ha
  rcases ha with h | h | h | h | h | h | h | h
  · exact hd _ h rfl
  · exact hd _ h rfl
  · exact hb _ h rfl
  · exact hb _ h rfl
  · exact hu _ h rfl
  · exact hu _ h rfl
  · exact hc _ h rfl
  · exact hc _ h rfl

/-- ★ the component model is the declarative "on a common simple cycle with the edge x–y" -/
theorem mem_bicomp {G : MG} {x y : Nat} (hx : x ∈ G.nodes) (w : Nat) : w ∈ bicomp G x y ↔ InBicomp G x y w := by
  rw [bicomp, InBicomp, List.mem_ite_nil_left, Decidable.not_not]
  refine and_congr_right fun _ => ?_
  simp only [List.mem_cons, List.mem_flatten, List.mem_filter, Bool.and_eq_true, decide_eq_true_eq, mem_simplePaths hx]
  exact or_congr_right (or_congr_right (exists_congr fun p => by rw [and_assoc, and_assoc, and_assoc]))

/-- ★ `pds_path(G, x, y) = pds(G, x, y) ∩ component(x–y)` -/
theorem mem_pdsPath {G : MG} {x y : Nat} (hx : x ∈ G.nodes) (v : Nat) :
    v ∈ pdsPath G x y ↔ v ∈ pds G x (some y) ∧ InBicomp G x y v := by
  unfold pdsPath
  rw [List.mem_filter, decide_eq_true_eq, mem_bicomp hx]

/-- ★ `pds_t(G, x, y) = pds(G, x, y) ∩ {v | |lag v| ≤ max(|lag x|, |lag y|)}` -/
theorem mem_pdsT {G : MG} {L : List Nat} {x y : Nat} (v : Nat) :
    v ∈ pdsT G L x y ↔ v ∈ pds G x (some y) ∧ LagOK L x y v := by
  unfold pdsT LagOK
  rw [List.mem_filter, decide_eq_true_eq]

/-- ★ `pds_t_path` = all three restrictions -/
theorem mem_pdsTPath {G : MG} {L : List Nat} {x y : Nat} (hx : x ∈ G.nodes) (v : Nat) :
    v ∈ pdsTPath G L x y ↔ v ∈ pds G x (some y) ∧ InBicomp G x y v ∧ LagOK L x y v := by
  unfold pdsTPath LagOK
  rw [List.mem_filter, decide_eq_true_eq, mem_pdsPath hx, and_assoc]

theorem pdsPath_subset_pdsDef {G : MG} (hw : WF G) (hl : NoLoop G) {x y : Nat} (hx : x ∈ G.nodes) (hxy : x ≠ y)
    {v : Nat} (h : v ∈ pdsPath G x y) : PdsDef G x (some y) v ∧ InBicomp G x y v :=
  ⟨pds_subset_pdsDef hw hl hx (by simpa using hxy) ((mem_pdsPath hx v).mp h).1, ((mem_pdsPath hx v).mp h).2⟩

/-- `0 -> 1 <-> 2 <- 3` -/
def chainG : MG := { nodes := [0, 1, 2, 3], dir := [(0, 1), (3, 2)], bi := [(1, 2)] }

example : WF chainG ∧ NoLoopD chainG ∧ 0 ∈ chainG.nodes := by decide +kernel

/-- node 3 belongs to the definition of `pds(chainG, 0)`: on the path 0,1,2,3 both inner nodes are colliders -/
theorem chainG_def : PdsDef chainG 0 none 3 :=
  ⟨(by intro _ e; cases e), [0, 1, 2, 3], by decide +kernel, rfl⟩

/-- **counterexample** (known finding `C17-pds-queues-prev-next`): the literal model of the code – which the
    implementation equals on every run – does not contain the definition: `3 ∉ pds(chainG, 0)` -/
theorem pds_counterexample_too_small : ¬ (∀ v, PdsDef chainG 0 none v → v ∈ pds chainG 0 none) := by
  intro h
  have h3 := (mem_pds_imp (G := chainG) (by decide +kernel) (by decide) (h 3 chainG_def)).2
  revert h3
  unfold Near
  decide +kernel

/-- `3 -> 0`, `2 -> 4`, `0 <-> 4`, `1 <-> 3`, `1 o-o 4`, `3 o-o 4` -/
def walkG : MG := { nodes := [0, 1, 2, 3, 4], dir := [(3, 0), (2, 4)], bi := [(0, 4), (1, 3)],
                    circ := [(1, 4), (4, 1), (3, 4), (4, 3)] }

theorem walkG_noLoop : NoLoop walkG := noLoop_of_D (by decide +kernel)

/-- the intended search finds node 2 from node 1 along the WALK 1,4,3,0,4,2 (node 4 is entered twice) -/
theorem walkG_walk : 2 ∈ pdsW walkG 1 none :=
  (mem_pdsW_iff_walk (G := walkG) (by decide +kernel) walkG_noLoop (by decide) 2).mpr
    ⟨(by intro _ e; cases e), [4, 3, 0, 4, 2], by decide, by decide +kernel, rfl, by decide, by decide, by decide,
      by decide +kernel⟩

/-- no PATH of the definition reaches node 2 (brute force over all simple paths, kernel-checked) -/
theorem walkG_no_path : ¬ PdsDef walkG 1 none 2 := by
  rw [← mem_pdsDec (G := walkG) (by decide +kernel) (by decide)]
  decide +kernel

/-- **counterexample** (known finding `C17-walk-search-superset-of-path-definition`): the intended walk-based
    search does not equal the PATH definition; it returns a strict superset – the safe side for FCI
    (`pdsDef_subset_pdsW`) -/
theorem pdsW_counterexample_walk_not_path : ¬ (∀ v, v ∈ pdsW walkG 1 none → PdsDef walkG 1 none v) :=
  fun h => walkG_no_path (h 2 walkG_walk)

/-- `pdsDef_subset_pdsW` used on a concrete graph: hypotheses satisfiable, conclusion non-trivial -/
example : 3 ∈ pdsW chainG 0 none :=
  pdsDef_subset_pdsW (G := chainG) (by decide +kernel) (noLoop_of_D (by decide +kernel)) (by decide) chainG_def

/-- endpoint variant: with `y = 2` the chain is cut, node 3 is not in the definition -/
example : ¬ PdsDef chainG 0 (some 2) 3 := by
  rw [← mem_pdsDec (G := chainG) (by decide +kernel) (by decide)]
  decide +kernel

end C17
