import Pw.C17.Proofs
open Closure C16

/-! # C17: the deque / `seen_edges` loop of `pds`, literally, and its refinement to the worklist closure

`bfsRun` is the `while len(q) != 0` loop with marking **on push** (`if next_edge in seen_edges: continue;
seen_edges.add(next_edge); q.append(next_edge)`), one iteration per unit of fuel.  Every queued edge is
popped before the loop ends, so the set of popped edges is the final `seen_edges`.
`mem_bfsRun`: with enough fuel the final `seen_edges` is exactly the set reachable from the initial
edges – the same set as `Closure.closure` (`bfsRun_eq_closure`), which the model `pdsGen` uses. -/
namespace C17
variable {α : Type} [DecidableEq α]

/-- the `for next_node …` loop: append the unseen successors to the queue, marking them -/
def pushNew : List α → List α → List α → List α × List α
  | [], q, seen => (q, seen)
  | n :: ns, q, seen => if n ∈ seen then pushNew ns q seen else pushNew ns (q ++ [n]) (n :: seen)

/-- the `while` loop; returns the final `seen` -/
def bfsRun (step : α → List α) : Nat → List α → List α → List α
  | 0, _, seen => seen
  | _ + 1, [], seen => seen
  | fuel + 1, x :: q, seen => bfsRun step fuel (pushNew (step x) q seen).1 (pushNew (step x) q seen).2

theorem mem_pushNew_seen {ns q seen : List α} (a : α) :
    a ∈ (pushNew ns q seen).2 ↔ a ∈ seen ∨ a ∈ ns := by
  induction ns generalizing q seen with
  | nil => exact (or_iff_left List.not_mem_nil).symm
  | cons n ns ih =>
    rw [pushNew]
    by_cases h : n ∈ seen
    · rw [if_pos h, ih, List.mem_cons]
      exact ⟨Or.imp_right Or.inr, fun h' => h'.elim Or.inl fun h' => h'.elim (fun e => Or.inl (e ▸ h)) Or.inr⟩
    · rw [if_neg h, ih, List.mem_cons, List.mem_cons, or_assoc, or_left_comm]

theorem mem_pushNew_queue {ns q seen : List α} (a : α) :
    a ∈ (pushNew ns q seen).1 ↔ a ∈ q ∨ (a ∈ ns ∧ a ∉ seen) := by
  induction ns generalizing q seen with
  | nil => exact (or_iff_left fun h => List.not_mem_nil h.1).symm
  | cons n ns ih =>
    rw [pushNew]
    by_cases h : n ∈ seen
    · rw [if_pos h, ih, List.mem_cons]
      exact or_congr_right ⟨And.imp_left Or.inr, fun h' => ⟨h'.1.resolve_left fun e => h'.2 (e ▸ h), h'.2⟩⟩
    · rw [if_neg h, ih, List.mem_append, List.mem_singleton, List.mem_cons, List.mem_cons, not_or, or_assoc]
      refine or_congr_right ⟨?_, ?_⟩
      · rintro (rfl | ⟨h1, h2, h3⟩)
        · exact ⟨Or.inl rfl, h⟩
        · exact ⟨Or.inr h1, h3⟩
      · rintro ⟨rfl | h1, h2⟩
        · exact Or.inl rfl
        · exact (Decidable.em (a = n)).imp id fun e => ⟨h1, e, h2⟩

/-- iterations still needed: queue length + number of unseen members of the universe -/
def work (U q seen : List α) : Nat := q.length + U.countP fun u => decide (u ∉ seen)

theorem work_cons (U : List α) (x : α) (q seen : List α) : work U (x :: q) seen = work U q seen + 1 :=
  Nat.succ_add _ _

theorem work_le (U q seen : List α) : work U q seen ≤ q.length + U.length :=
  Nat.add_le_add_left List.countP_le_length _

theorem work_pushNew (U ns q seen : List α) (hns : ∀ n ∈ ns, n ∈ U) :
    work U (pushNew ns q seen).1 (pushNew ns q seen).2 ≤ work U q seen := by
  induction ns generalizing q seen with
  | nil => exact Nat.le_refl _
  | cons n ns ih =>
    have hns' : ∀ m ∈ ns, m ∈ U := fun m hm => hns m (List.mem_cons_of_mem _ hm)
    rw [pushNew]
    by_cases h : n ∈ seen
    · rw [if_pos h]; exact ih q seen hns'
    · -- marking `n` lengthens the queue by one and takes one from the unseen members of `U`
      rw [if_neg h]
      refine Nat.le_trans (ih (q ++ [n]) (n :: seen) hns') ?_
      have hlt := countP_lt' (fun u => decide (u ∉ n :: seen)) (fun u => decide (u ∉ seen))
        (fun a ha => decide_eq_true fun hm => of_decide_eq_true ha (List.mem_cons_of_mem _ hm)) U n
        (hns n List.mem_cons_self) (decide_eq_true h)
        (fun ha => of_decide_eq_true ha List.mem_cons_self)
      unfold work
      rw [List.length_append, List.length_singleton, Nat.add_assoc, Nat.add_comm 1]
      exact Nat.add_le_add_left hlt _

/-- invariant of a search that marks on push; `pend` are the marked nodes whose successors are still to be
    looked at -/
structure Inv (U : List α) (step : α → List α) (init pend seen : List α) : Prop where
  init_seen : ∀ a ∈ init, a ∈ seen
  pend_seen : ∀ a ∈ pend, a ∈ seen
  seen_U : ∀ a ∈ seen, a ∈ U
  sound : ∀ a ∈ seen, ∃ w ∈ init, Reach U step w a
  closed : ∀ a ∈ seen, a ∉ pend → ∀ b ∈ step a, b ∈ seen

section
variable {U : List α} {step : α → List α} {init : List α}

omit [DecidableEq α] in
theorem Inv.start (hinit : ∀ a ∈ init, a ∈ U) : Inv U step init init init :=
  ⟨fun _ h => h, fun _ h => h, hinit, fun a ha => ⟨a, ha, Reach.refl a⟩, fun _ ha hn => absurd ha hn⟩

/-- one iteration: `v` is taken from the pending nodes, its unseen successors become pending and seen.  Only
    membership matters, so the deque of `pds` and the two level lists of `C16.levelStep` are both instances. -/
theorem Inv.pop (hstep : ∀ a ∈ U, ∀ b ∈ step a, b ∈ U) {v : α} {pend seen pend' seen' : List α}
    (h : Inv U step init (v :: pend) seen)
    (hp : ∀ a, a ∈ pend' ↔ a ∈ pend ∨ a ∈ step v ∧ a ∉ seen) (hs : ∀ a, a ∈ seen' ↔ a ∈ seen ∨ a ∈ step v) :
    Inv U step init pend' seen' := by
  have hvs : v ∈ seen := h.pend_seen v List.mem_cons_self
  have hsv := hstep v (h.seen_U v hvs)
  refine ⟨fun a ha => (hs a).mpr (Or.inl (h.init_seen a ha)), ?_, ?_, ?_, ?_⟩
  · intro a ha
    rcases (hp a).mp ha with h' | h'
    · exact (hs a).mpr (Or.inl (h.pend_seen a (List.mem_cons_of_mem _ h')))
    · exact (hs a).mpr (Or.inr h'.1)
  · intro a ha
    rcases (hs a).mp ha with h' | h'
    · exact h.seen_U a h'
    · exact hsv a h'
  · intro a ha
    rcases (hs a).mp ha with h' | h'
    · exact h.sound a h'
    · obtain ⟨w, hw, hr⟩ := h.sound v hvs
      exact ⟨w, hw, Reach.tail hr ⟨h', hsv a h'⟩⟩
  · intro a ha hn b hb
    by_cases hav : a = v
    · exact (hs b).mpr (Or.inr (hav ▸ hb))
    · by_cases hsa : a ∈ seen
      · refine (hs b).mpr (Or.inl (h.closed a hsa ?_ b hb))
        intro hm
        rcases List.mem_cons.mp hm with e | hm
        · exact hav e
        · exact hn ((hp a).mpr (Or.inl hm))
      · -- `a` has just been marked, so it is pending
        exact absurd ((hp a).mpr (Or.inr ⟨((hs a).mp ha).resolve_left hsa, hsa⟩)) hn

omit [DecidableEq α] in
theorem Inv.mem_iff {seen : List α} (h : Inv U step init [] seen) (r : α) :
    r ∈ seen ↔ ∃ w ∈ init, w ∈ U ∧ Reach U step w r := by
  constructor
  · intro hr
    obtain ⟨w, hw, hreach⟩ := h.sound r hr
    exact ⟨w, hw, h.seen_U w (h.init_seen w hw), hreach⟩
  · rintro ⟨w, hw, -, hreach⟩
    induction hreach with
    | refl => exact h.init_seen w hw
    | tail _ hs ih => exact h.closed _ ih List.not_mem_nil _ hs.1

theorem bfsRun_inv (hstep : ∀ a ∈ U, ∀ b ∈ step a, b ∈ U) (fuel : Nat) (q seen : List α)
    (hw : work U q seen ≤ fuel) (h : Inv U step init q seen) :
    Inv U step init [] (bfsRun step fuel q seen) := by
  induction fuel generalizing q seen with
  | zero =>
    have hq : q = [] := List.eq_nil_of_length_eq_zero (Nat.eq_zero_of_le_zero (Nat.le_trans (Nat.le_add_right _ _) hw))
    subst hq; exact h
  | succ fuel ih =>
    cases q with
    | nil => exact h
    | cons x q =>
      rw [bfsRun]
      refine ih _ _ ?_ (h.pop hstep mem_pushNew_queue mem_pushNew_seen)
      refine Nat.le_trans
        (work_pushNew U (step x) q seen (hstep x (h.seen_U x (h.pend_seen x List.mem_cons_self)))) ?_
      rw [work_cons] at hw
      exact Nat.le_of_succ_le_succ hw

end

/-- ★ with `|init| + |U|` iterations the loop has emptied the queue and its `seen` set is the set of
    states reachable from the initial ones -/
theorem mem_bfsRun (U : List α) (step : α → List α) (init : List α) (hinit : ∀ a ∈ init, a ∈ U)
    (hstep : ∀ a ∈ U, ∀ b ∈ step a, b ∈ U) (fuel : Nat) (hfuel : init.length + U.length ≤ fuel) (r : α) :
    r ∈ bfsRun step fuel init init ↔ ∃ w ∈ init, w ∈ U ∧ Reach U step w r :=
  (bfsRun_inv hstep fuel init init (Nat.le_trans (work_le U init init) hfuel) (Inv.start hinit)).mem_iff r

theorem bfsRun_eq_closure (U : List α) (step : α → List α) (init : List α) (hinit : ∀ a ∈ init, a ∈ U)
    (hstep : ∀ a ∈ U, ∀ b ∈ step a, b ∈ U) (r : α) :
    r ∈ bfsRun step (init.length + U.length) init init ↔ r ∈ closure U step init := by
  rw [mem_bfsRun U step init hinit hstep _ (Nat.le_refl _), mem_closure]

/-- `pds(graph, node_x, node_y)` with the deque / `seen_edges` loop written out (fuel = number of initial
    edges + number of ordered node pairs, which `mem_bfsRun` shows is enough) -/
def pdsLoop (carry : Bool) (G : MG) (x : Nat) (y : Option Nat) : List Nat :=
  if !reachesY G y x then []
  else
    let seen := bfsRun (expand carry G x y) ((initEdges G x y).length + (states G).length)
      (initEdges G x y) (initEdges G x y)
    (initEdges G x y).map (·.2) ++ (seen.filter fun st => reachesY G y st.2).map (·.2)

theorem initEdges_states {G : MG} {x : Nat} (hx : x ∈ G.nodes) (y : Option Nat) :
    ∀ st ∈ initEdges G x y, st ∈ states G := by
  intro st hst
  obtain ⟨v, hv, rfl⟩ := List.mem_map.mp hst
  exact mem_states.mpr ⟨hx, (mem_nbrs.mp (List.mem_filter.mp hv).1).1⟩

theorem expand_states (carry : Bool) (G : MG) (x : Nat) (y : Option Nat) :
    ∀ a ∈ states G, ∀ b ∈ expand carry G x y a, b ∈ states G := by
  intro a ha b hb
  obtain ⟨p, t⟩ := a
  obtain ⟨hp, ht⟩ := mem_states.mp ha
  rw [expand, List.mem_ite_nil_left] at hb
  obtain ⟨n, hn, rfl⟩ := List.mem_map.mp hb.2
  have hn' := (mem_nbrs.mp (List.mem_filter.mp hn).1).1
  cases carry
  · exact mem_states.mpr ⟨hp, hn'⟩
  · exact mem_states.mpr ⟨ht, hn'⟩

/-- ★ the model used everywhere (`pdsGen`, a worklist closure) returns the same set as the literal
    deque / `seen_edges` loop – for the code as it is (`carry = false`) and for the intended search -/
theorem mem_pdsLoop (carry : Bool) {G : MG} {x : Nat} (hx : x ∈ G.nodes) (y : Option Nat) (v : Nat) :
    v ∈ pdsLoop carry G x y ↔ v ∈ pdsGen carry G x y := by
  unfold pdsLoop pdsGen
  by_cases hr : (!reachesY G y x) = true
  · rw [if_pos hr, if_pos hr]
  · rw [if_neg hr, if_neg hr]
    simp only [List.mem_append, List.mem_map, List.mem_filter,
      bfsRun_eq_closure (states G) (expand carry G x y) (initEdges G x y) (initEdges_states hx y)
        (expand_states carry G x y)]

end C17
