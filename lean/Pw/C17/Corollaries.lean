import Pw.C17.Findings
open Closure C16

/-! # C17: corollaries that spell out the remaining clauses of the property -/
namespace C17

theorem PdsDef.ne {G : MG} {x : Nat} {y : Option Nat} {v : Nat} (h : PdsDef G x y v) : v ≠ x ∧ some v ≠ y :=
  h.walk.ne

/-- ★ the intended search returns neither `x` nor `y` -/
theorem pdsW_ne {G : MG} (hw : WF G) (hl : NoLoop G) {x : Nat} (hx : x ∈ G.nodes) {y : Option Nat} {v : Nat}
    (h : v ∈ pdsW G x y) : v ≠ x ∧ some v ≠ y :=
  ((mem_pdsW_iff_walk hw hl hx v).mp h).2.ne

/-- ★ "empty when y is not connected to x", for the intended search -/
theorem pdsW_empty_of_not_conn {G : MG} (hw : WF G) (hl : NoLoop G) {x y : Nat} (hx : x ∈ G.nodes)
    (hc : ¬ Conn G x y) (v : Nat) : v ∉ pdsW G x (some y) :=
  fun h => hc (((mem_pdsW_iff_walk hw hl hx v).mp h).1 y rfl)

/-- the same for the code as it is -/
theorem pds_empty_of_not_conn {G : MG} (hw : WF G) {x y : Nat} (hx : x ∈ G.nodes) (hc : ¬ Conn G x y) (v : Nat) :
    v ∉ pds G x (some y) :=
  fun h => hc ((mem_pds_imp hw hx h).1 y rfl)

/-- the same for the definition -/
theorem pdsDef_empty_of_not_conn {G : MG} {x y : Nat} (hc : ¬ Conn G x y) (v : Nat) : ¬ PdsDef G x (some y) v :=
  fun h => hc ((pdsDef_iff.mp h).1 y rfl)

theorem pds_subset_pdsW {G : MG} (hw : WF G) (hl : NoLoop G) {x : Nat} (hx : x ∈ G.nodes) {y : Option Nat}
    (hxy : some x ≠ y) {v : Nat} (h : v ∈ pds G x y) : v ∈ pdsW G x y :=
  pdsDef_subset_pdsW hw hl hx (pds_subset_pdsDef hw hl hx hxy h)

/-- ★ `pds_path` is empty when `x` and `y` are not adjacent (no component contains the edge) -/
theorem pdsPath_empty_of_not_adj {G : MG} {x y : Nat} (hx : x ∈ G.nodes) (ha : ¬ Adj G x y) (v : Nat) :
    v ∉ pdsPath G x y :=
  fun h => ha ((mem_pdsPath hx v).mp h).2.1

/-- the sandwich the harness re-checks on every case: literal model ⊆ definition ⊆ intended search -/
theorem sandwich {G : MG} (hw : WF G) (hl : NoLoop G) {x : Nat} (hx : x ∈ G.nodes) {y : Option Nat}
    (hxy : some x ≠ y) (v : Nat) :
    (v ∈ pds G x y → v ∈ pdsDec G x y) ∧ (v ∈ pdsDec G x y → v ∈ pdsW G x y) := by
  rw [mem_pdsDec hw hx]
  exact ⟨pds_subset_pdsDef hw hl hx hxy, pdsDef_subset_pdsW hw hl hx⟩

end C17
