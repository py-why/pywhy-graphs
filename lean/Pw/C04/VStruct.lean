import Pw.C04.Cond

/-! # C04: v-structure edges are labelled `compelled`

Consequences obtained without `T3`: the CPDAG of the model keeps every v-structure of D as directed edges,
and equal CPDAGs imply Markov equivalence (both directions: `T3.c04_markov`).

Proof: an invariant of the `while` loop – (I1) the edges into one target are either all unknown or
all labelled (an iteration only touches the edges into its target `y` and leaves none of them
unknown); (I2) labelled v-structure edges are compelled.  When `(x, y)` is selected, either all edges
into `y` become compelled, or every parent of `y` is `x` or a parent of `x`; then `a -> x <- b` is a
v-structure at the earlier node `x`, already labelled (sortedness of the edge order) hence compelled
(I2), and the `w`-loop labels `a -> y`, `b -> y` compelled. -/
namespace C04
open C05 (Adj VStruct)

theorem pairwise_getLast {α : Type} {R : α → α → Prop} : ∀ (l : List α) (z : α), l.Pairwise R →
    l.getLast? = some z → ∀ e ∈ l, e = z ∨ R e z := by
  intro l z hp hl e he
  obtain ⟨ys, rfl⟩ := List.getLast?_eq_some_iff.mp hl
  rcases List.mem_append.mp he with h | h
  · exact Or.inr ((List.pairwise_append.mp hp).2.2 e h z (List.mem_singleton_self z))
  · exact Or.inl (List.mem_singleton.mp h)

structure LInv (G : MG) (lab : Edge → Label) : Prop where
  allOrNone : ∀ e ∈ G.dir, lab e = .unknown → ∀ e' ∈ G.dir, e'.2 = e.2 → lab e' = .unknown
  vs : ∀ a y b, VStruct G a y b → lab (a, y) ≠ .unknown → lab (a, y) = .compelled

theorem linv_step {G : MG} {topo : List Nat} {ord : List Edge} (ht : IsTopo G topo)
    (hperm : ∀ e, e ∈ ord ↔ e ∈ G.dir) (hsorted : ord.Pairwise (Before topo))
    {lab lab' : Edge → Label} (hinv : LInv G lab) (h : labelStep G ord lab = some lab') : LInv G lab' := by
  obtain ⟨x, y, hlast, hS1, hS2, hout⟩ := labelStep_char h
  have hsel := List.mem_of_getLast? hlast
  simp only [List.mem_filter, beq_iff_eq] at hsel
  obtain ⟨hxyo, hxyu⟩ := hsel
  have hxyE : (x, y) ∈ G.dir := (hperm _).mp hxyo
  have hpos : pos topo x < pos topo y := ht.forward x y hxyE
  have hyall : ∀ e' ∈ G.dir, e'.2 = y → lab e' = .unknown := hinv.allOrNone (x, y) hxyE hxyu
  -- all edges into x are labelled before the step (sortedness)
  have hxknown : ∀ w, (w, x) ∈ G.dir → lab (w, x) ≠ .unknown := by
    intro w hwx hunk
    have hmem : (w, x) ∈ ord.filter fun e => lab e == .unknown := by
      simp only [List.mem_filter, beq_iff_eq]; exact ⟨(hperm _).mpr hwx, hunk⟩
    rcases pairwise_getLast _ _ (hsorted.filter _) hlast _ hmem with heq | hb
    · simp only [Prod.mk.injEq] at heq
      obtain ⟨_, rfl⟩ := heq
      omega
    · have := hb.1
      simp only at this
      omega
  refine ⟨?_, ?_⟩
  · intro e he hunk e' he' heq
    have hne : e.2 ≠ y := fun hy => hS2 e hy hunk
    rw [hS1 e' (by rw [heq]; exact hne)]
    rw [hS1 e hne] at hunk
    exact hinv.allOrNone e he hunk e' he' heq
  · intro a t b hv hk
    by_cases hty : t = y
    · subst hty
      rcases hout with hall | ⟨hw, hz⟩
      · exact hall (a, t) rfl (hyall _ hv.1 rfl)
      · -- a parent of `t` in a v-structure at `t` is not `x`: the other parent would be `x` too, or adjacent to it
        have hne : ∀ {a b : Nat}, VStruct G a t b → a ≠ x := by
          rintro a b hv rfl
          rcases hz b hv.2.1 with rfl | h'
          · exact hv.2.2.1 rfl
          · exact hv.2.2.2 (Or.inr (Or.inl h'))
        have hax := (hz a hv.1).resolve_left (hne hv)
        have hbx := (hz b hv.2.1).resolve_left (hne (vstruct_symm hv))
        exact hw a hax (hinv.vs a x b ⟨hax, hbx, hv.2.2.1, hv.2.2.2⟩ (hxknown a hax))
    · have hne : (a, t).2 ≠ y := hty
      rw [hS1 (a, t) hne] at hk ⊢
      exact hinv.vs a t b hv hk

/-- the part of `T3` that the loop invariant alone gives: with a topological order, both edges of every
    v-structure of the DAG are labelled compelled -/
theorem vstruct_labelled_compelled (G : MG) (topo : List Nat) (ht : IsTopo G topo) {a y b : Nat}
    (hv : VStruct G a y b) : labels G topo (a, y) = .compelled := by
  have hinv : LInv G (labels G topo) :=
    labelLoop_invariant
      (fun _ _ => linv_step ht (fun e => (orderEdges_perm topo G.dir).mem_iff) (orderEdges_sorted topo G.dir)) _ _
      ⟨fun _ _ _ _ _ _ => rfl, fun _ _ _ _ h => absurd rfl h⟩
  exact hinv.vs a y b hv (labels_known G topo _ hv.1)

theorem dagToCpdag_keeps_vstructs (G : MG) (topo : List Nat) (ht : IsTopo G topo) {a y b : Nat}
    (hv : VStruct G a y b) : (a, y) ∈ (dagToCpdag G topo).dir ∧ (b, y) ∈ (dagToCpdag G topo).dir :=
  ⟨mem_dagToCpdag_dir.mpr ⟨hv.1, vstruct_labelled_compelled G topo ht hv⟩,
    mem_dagToCpdag_dir.mpr ⟨hv.2.1, vstruct_labelled_compelled G topo ht (vstruct_symm hv)⟩⟩

/-- **one direction of the property's last sentence** (the converse is in `T3.c04_markov`):
    DAGs whose CPDAGs (computed by the model, any topological orders) are equal are Markov equivalent -/
theorem sameCpdag_imp_markovEquiv_partial (G1 G2 : MG) (t1 t2 : List Nat)
    (hu1 : G1.un = []) (hu2 : G2.un = []) (ht1 : IsTopo G1 t1) (ht2 : IsTopo G2 t2)
    (hs : SameGraph (dagToCpdag G1 t1) (dagToCpdag G2 t2)) : MarkovEquiv G1 G2 := by
  obtain ⟨hn1, _, _, hd1, _, _, hsk1⟩ := dagToCpdag_struct G1 t1 hu1
  obtain ⟨hn2, _, _, hd2, _, _, hsk2⟩ := dagToCpdag_struct G2 t2 hu2
  have hskel : ∀ a b, Adj G2 a b ↔ Adj G1 a b := fun a b =>
    ((hsk2 a b).symm.trans (adj_of_sameGraph hs a b).symm).trans (hsk1 a b)
  refine ⟨?_, hskel, ?_⟩
  · intro v
    have := hs.1 v
    rw [hn1, hn2] at this
    exact this.symm
  · intro a c b
    constructor
    · intro hv
      obtain ⟨h1, h2⟩ := dagToCpdag_keeps_vstructs G2 t2 ht2 hv
      exact ⟨hd1 _ ((hs.2.1 _).mpr h1), hd1 _ ((hs.2.1 _).mpr h2), hv.2.2.1,
        fun h => hv.2.2.2 ((hskel a b).mpr h)⟩
    · intro hv
      obtain ⟨h1, h2⟩ := dagToCpdag_keeps_vstructs G1 t1 ht1 hv
      exact ⟨hd2 _ ((hs.2.1 _).mp h1), hd2 _ ((hs.2.1 _).mp h2), hv.2.2.1,
        fun h => hv.2.2.2 ((hskel a b).mp h)⟩

/-- non-vacuity: the suite's example has the v-structure 2 -> 4 <- 3, so its edges are labelled compelled
    by the theorem (not by evaluation) -/
example : labels ex1 [1, 2, 3, 4, 5] (2, 4) = .compelled ∧ labels ex1 [1, 2, 3, 4, 5] (3, 4) = .compelled :=
  have hv : C05.VStruct ex1 2 4 3 := ⟨by decide, by decide, by decide, by unfold C05.Adj; decide⟩
  ⟨vstruct_labelled_compelled ex1 _ ex1_topo hv, vstruct_labelled_compelled ex1 _ ex1_topo (vstruct_symm hv)⟩

end C04
