import Pw.C04.Model

/-! # C04: `order_edges` produces Chickering's total order (Algorithm 4, read from the end)

The list returned by the model is a permutation of the edges in which targets never increase in topological
position and, among edges into the same target, the sources increase: `label_edges`, which always takes the *last*
unknown edge, therefore visits the lowest target first and, for one target, the highest source first. -/
namespace C04

theorem argmax_none {α : Type} (key : α → Nat) (l : List α) (h : argmax key l = none) : l = [] := by
  cases l with
  | nil => rfl
  | cons b l =>
    rw [argmax] at h
    cases hm : argmax key l with
    | none => rw [hm] at h; cases h
    | some c => rw [hm] at h; dsimp only at h; split at h <;> cases h

theorem argmax_spec {α : Type} (key : α → Nat) (l : List α) (a : α) (h : argmax key l = some a) :
    a ∈ l ∧ ∀ b ∈ l, key b ≤ key a := by
  induction l generalizing a with
  | nil => cases h
  | cons c l ih =>
    rw [List.forall_mem_cons]
    rw [argmax] at h
    cases hm : argmax key l with
    | none =>
      rw [hm] at h; cases h
      rw [argmax_none key l hm]
      exact ⟨List.mem_cons_self, Nat.le_refl _, fun _ hb => nomatch hb⟩
    | some d =>
      obtain ⟨hd, hge⟩ := ih d hm
      rw [hm] at h
      dsimp only at h
      by_cases hle : key c ≤ key d
      · rw [if_pos hle] at h; cases h
        exact ⟨List.mem_cons_of_mem _ hd, hle, hge⟩
      · rw [if_neg hle] at h; cases h
        exact ⟨List.mem_cons_self, Nat.le_refl _, fun b hb => Nat.le_trans (hge b hb) (Nat.le_of_not_le hle)⟩

theorem argmin_none {α : Type} (key : α → Nat) (l : List α) (h : argmin key l = none) : l = [] := by
  cases l with
  | nil => rfl
  | cons b l =>
    rw [argmin] at h
    cases hm : argmin key l with
    | none => rw [hm] at h; cases h
    | some c => rw [hm] at h; dsimp only at h; split at h <;> cases h

theorem argmin_spec {α : Type} (key : α → Nat) (l : List α) (a : α) (h : argmin key l = some a) :
    a ∈ l ∧ ∀ b ∈ l, key a ≤ key b := by
  induction l generalizing a with
  | nil => cases h
  | cons c l ih =>
    rw [List.forall_mem_cons]
    rw [argmin] at h
    cases hm : argmin key l with
    | none =>
      rw [hm] at h; cases h
      rw [argmin_none key l hm]
      exact ⟨List.mem_cons_self, Nat.le_refl _, fun _ hb => nomatch hb⟩
    | some d =>
      obtain ⟨hd, hle⟩ := ih d hm
      rw [hm] at h
      dsimp only at h
      by_cases hlt : key d < key c
      · rw [if_pos hlt] at h; cases h
        exact ⟨List.mem_cons_of_mem _ hd, Nat.le_of_lt hlt, hle⟩
      · rw [if_neg hlt] at h; cases h
        exact ⟨List.mem_cons_self, Nat.le_refl _, fun b hb => Nat.le_trans (Nat.le_of_not_lt hlt) (hle b hb)⟩

/-- `e` comes before `e'` in the edge order -/
def Before (topo : List Nat) (e e' : Edge) : Prop :=
  pos topo e'.2 ≤ pos topo e.2 ∧ (e'.2 = e.2 → pos topo e.1 ≤ pos topo e'.1)

/-- the edge an iteration of `order_edges` picks is an unordered edge that comes before all the others -/
theorem orderStep_spec {topo : List Nat} {un : List Edge} {e : Edge} (h : orderStep topo un = some e) :
    e ∈ un ∧ ∀ e' ∈ un, Before topo e e' := by
  unfold orderStep at h
  split at h
  · cases h
  · rename_i ey hey
    split at h
    · cases h
    · rename_i x hx
      cases h
      obtain ⟨hmem, hmin⟩ := argmin_spec _ _ _ hx
      simp only [List.mem_map, List.mem_filter, beq_iff_eq] at hmem
      obtain ⟨⟨a, b⟩, ⟨hab, hb⟩, rfl⟩ := hmem
      refine ⟨hb ▸ hab, fun e' he' => ⟨(argmax_spec _ _ _ hey).2 e' he', fun heq => hmin _ ?_⟩⟩
      simp only [List.mem_map, List.mem_filter, beq_iff_eq]
      exact ⟨e', ⟨he', heq⟩, rfl⟩

theorem orderStep_none {topo : List Nat} {un : List Edge} (h : orderStep topo un = none) : un = [] := by
  unfold orderStep at h
  split at h
  · rename_i hm; exact argmax_none _ _ hm
  · rename_i ey hey
    split at h
    · rename_i hx
      have hmem := (argmax_spec _ _ _ hey).1
      have := argmin_none _ _ hx
      simp only [List.map_eq_nil_iff, List.filter_eq_nil_iff, beq_iff_eq] at this
      exact absurd rfl (this ey hmem)
    · cases h

theorem orderLoop_spec (topo : List Nat) : ∀ (fuel : Nat) (un : List Edge), un.length ≤ fuel →
    (orderLoop topo fuel un).Perm un ∧ (orderLoop topo fuel un).Pairwise (Before topo) := by
  intro fuel
  induction fuel with
  | zero =>
    intro un h
    rw [List.length_eq_zero_iff.mp (Nat.le_zero.mp h)]
    exact ⟨List.Perm.refl _, List.Pairwise.nil⟩
  | succ n ih =>
    intro un h
    rw [orderLoop]
    cases hs : orderStep topo un with
    | none => rw [orderStep_none hs]; exact ⟨List.Perm.refl _, List.Pairwise.nil⟩
    | some e =>
      obtain ⟨hmem, hfirst⟩ := orderStep_spec hs
      have hlen := List.length_erase_of_mem hmem
      obtain ⟨hperm, hsorted⟩ := ih (un.erase e) (by omega)
      refine ⟨(List.Perm.cons e hperm).trans (List.perm_cons_erase hmem).symm, List.Pairwise.cons ?_ hsorted⟩
      intro e' he'
      exact hfirst e' (List.mem_of_mem_erase (hperm.mem_iff.mp he'))

theorem orderEdges_perm (topo : List Nat) (E : List Edge) : (orderEdges topo E).Perm E :=
  (orderLoop_spec topo E.length E (Nat.le_refl _)).1

/-- **order_edges = Chickering's Algorithm 4**: the returned list is sorted by (target descending,
    source ascending) in the topological positions -/
theorem orderEdges_sorted (topo : List Nat) (E : List Edge) : (orderEdges topo E).Pairwise (Before topo) :=
  (orderLoop_spec topo E.length E (Nat.le_refl _)).2

end C04
