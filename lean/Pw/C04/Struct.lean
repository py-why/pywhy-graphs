import Pw.C04.Order
import Pw.C04.Spec
import Pw.C05.Orient

/-! # C04: what one iteration of `label_edges` does, that no edge stays `unknown`, and the structure of the result of
`dag_to_cpdag`, for every list `topo` (not only topological orders) -/
namespace C04
open C05 (Adj VStruct)

/-- the `for node in w_nodes` loop only relabels edges into `y`, and only to `compelled`: all of them if it
    breaks, those from the `w_nodes` otherwise -/
theorem wLoop_char (E : List Edge) (y : Nat) (ws : List Nat) (lab lab1 : Edge → Label) (flag : Bool)
    (h : wLoop E y ws lab = (lab1, flag)) :
    (∀ e : Edge, lab1 e = lab e ∨ (e.2 = y ∧ lab1 e = .compelled)) ∧
    (flag = true → ∀ e : Edge, e.2 = y → lab1 e = .compelled) ∧
    (flag = false → ∀ w ∈ ws, lab1 (w, y) = .compelled) := by
  induction ws generalizing lab with
  | nil =>
    cases h
    exact ⟨fun _ => Or.inl rfl, fun h => (by cases h), fun _ w hw => (by cases hw)⟩
  | cons w ws ih =>
    by_cases hc : E.contains (w, y) = true
    · rw [wLoop, if_pos hc] at h
      obtain ⟨ha, hb, hc⟩ := ih _ h
      have hself : ∀ e, e = (w, y) ∨ setEdge (w, y) .compelled lab e = lab e := by
        intro e; unfold setEdge; split
        · exact Or.inl ‹_›
        · exact Or.inr rfl
      have hwy : lab1 (w, y) = .compelled := by
        rcases ha (w, y) with h | h
        · exact h.trans (if_pos rfl)
        · exact h.2
      refine ⟨fun e => ?_, hb, fun hf w' hw' => ?_⟩
      · rcases hself e with rfl | he
        · exact Or.inr ⟨rfl, hwy⟩
        · exact he ▸ ha e
      · rcases List.mem_cons.mp hw' with rfl | hw'
        · exact hwy
        · exact hc hf w' hw'
    · rw [wLoop, if_neg hc] at h
      cases h
      refine ⟨fun e => ?_, fun _ e he => if_pos he, fun hf => by cases hf⟩
      by_cases he : e.2 = y
      · exact Or.inr ⟨he, if_pos he⟩
      · exact Or.inl (if_neg he)

/-- one iteration of `label_edges` selecting `(x, y)`: only edges into `y` change, none of them stays unknown, and
    either all of them become compelled or every parent of `y` is `x` or a parent of `x` -/
theorem labelStep_char {G : MG} {ord : List Edge} {lab lab' : Edge → Label}
    (h : labelStep G ord lab = some lab') :
    ∃ x y, (ord.filter fun e => lab e == .unknown).getLast? = some (x, y) ∧
      (∀ e : Edge, e.2 ≠ y → lab' e = lab e) ∧
      (∀ e : Edge, e.2 = y → lab' e ≠ .unknown) ∧
      ((∀ e : Edge, e.2 = y → lab e = .unknown → lab' e = .compelled) ∨
       ((∀ w, (w, x) ∈ G.dir → lab (w, x) = .compelled → lab' (w, y) = .compelled) ∧
        (∀ z, (z, y) ∈ G.dir → z = x ∨ (z, x) ∈ G.dir))) := by
  unfold labelStep at h
  split at h
  · cases h
  · rename_i x y hlast
    refine ⟨x, y, hlast, ?_⟩
    dsimp only at h
    split at h
    · rename_i lab1 heq
      cases h
      obtain ⟨ha, h4, _⟩ := wLoop_char _ _ _ _ _ _ heq
      refine ⟨fun e he => (ha e).resolve_right fun h => he h.1, ?_, Or.inl fun e he _ => h4 rfl e he⟩
      intro e he; rw [h4 rfl e he]; intro h'; cases h'
    · rename_i lab1 heq
      obtain ⟨ha, _, h5⟩ := wLoop_char _ _ _ _ _ _ heq
      -- `lab'` is `lab1` except on the unknown edges into `y`, which all get the same label
      have hl := fun e => (congrFun (Option.some.inj h) e).symm
      have keep : ∀ e : Edge, ¬ (e.2 = y ∧ lab1 e = .unknown) → lab' e = lab1 e :=
        fun e hn => (hl e).trans (if_neg hn)
      refine ⟨fun e he => ?_, fun e he => ?_, ?_⟩
      · rw [keep e fun h => he h.1]
        exact (ha e).resolve_right fun h => he h.1
      · by_cases hu : lab1 e = .unknown
        · rw [hl e, if_pos ⟨he, hu⟩]
          split <;> (intro h'; cases h')
        · rw [keep e fun h => hu h.2]; exact hu
      · by_cases hz : ((G.parents y).any fun z => z != x && !G.dir.contains (z, x)) = true
        · left
          intro e he hunk
          rcases ha e with h | h
          · rw [hl e, if_pos ⟨he, h.trans hunk⟩, if_pos hz]
          · rw [keep e fun h' => by rw [h.2] at h'; cases h'.2]; exact h.2
        · right
          refine ⟨fun w hwx hc => ?_, fun z hzy => ?_⟩
          · have hmem : w ∈ (G.parents x).filter fun w => lab (w, x) == .compelled := by
              simp only [List.mem_filter, MG.mem_parents, beq_iff_eq]; exact ⟨hwx, hc⟩
            have := h5 rfl w hmem
            rw [keep _ fun h' => by rw [this] at h'; cases h'.2]; exact this
          · simp only [List.any_eq_true, MG.mem_parents, Bool.and_eq_true, bne_iff_ne, Bool.not_eq_true',
              not_exists, not_and] at hz
            by_cases hzx : z = x
            · exact Or.inl hzx
            · exact Or.inr (List.contains_iff_mem.mp (Bool.of_not_eq_false (hz z hzy hzx)))

theorem labelStep_some {G : MG} {ord : List Edge} {lab lab' : Edge → Label}
    (h : labelStep G ord lab = some lab') :
    ∃ e, e ∈ ord ∧ lab e = .unknown ∧ lab' e ≠ .unknown ∧ ∀ e', lab e' ≠ .unknown → lab' e' ≠ .unknown := by
  obtain ⟨x, y, hlast, hother, hy, _⟩ := labelStep_char h
  have hsel := List.mem_of_getLast? hlast
  simp only [List.mem_filter, beq_iff_eq] at hsel
  refine ⟨(x, y), hsel.1, hsel.2, hy _ rfl, fun e' he' => ?_⟩
  by_cases hey : e'.2 = y
  · exact hy e' hey
  · rw [hother e' hey]; exact he'

theorem labelStep_none {G : MG} {ord : List Edge} {lab : Edge → Label}
    (h : labelStep G ord lab = none) : ∀ e ∈ ord, lab e ≠ .unknown := by
  unfold labelStep at h
  split at h
  · rename_i hlast
    have := List.getLast?_eq_none_iff.mp hlast
    intro e he hunk
    have := List.filter_eq_nil_iff.mp this e he
    simp [hunk] at this
  · dsimp only at h
    split at h <;> cases h

/-- what every iteration of `label_edges` preserves holds of the result of the loop -/
theorem labelLoop_invariant {G : MG} {ord : List Edge} {I : (Edge → Label) → Prop}
    (step : ∀ lab lab', I lab → labelStep G ord lab = some lab' → I lab') :
    ∀ (fuel : Nat) (lab : Edge → Label), I lab → I (labelLoop G ord fuel lab) := by
  intro fuel
  induction fuel with
  | zero => intro lab h; exact h
  | succ n ih =>
    intro lab h
    rw [labelLoop]
    cases hs : labelStep G ord lab with
    | none => exact h
    | some lab' => exact ih lab' (step lab lab' h hs)

def unknownCount (E : List Edge) (lab : Edge → Label) : Nat := E.countP fun e => lab e == .unknown

theorem labelLoop_known (G : MG) (ord : List Edge) (hord : ∀ e, e ∈ ord ↔ e ∈ G.dir) :
    ∀ (fuel : Nat) (lab : Edge → Label), unknownCount G.dir lab ≤ fuel →
      ∀ e ∈ G.dir, labelLoop G ord fuel lab e ≠ .unknown := by
  intro fuel
  induction fuel with
  | zero =>
    intro lab h e he
    rw [labelLoop]
    have := List.countP_eq_zero.mp (Nat.le_zero.mp h) e he
    simpa using this
  | succ n ih =>
    intro lab h e he
    rw [labelLoop]
    cases hs : labelStep G ord lab with
    | none => exact labelStep_none hs e ((hord e).mpr he)
    | some lab' =>
      obtain ⟨e0, he0, hunk, hk, hpres⟩ := labelStep_some hs
      apply ih lab' ?_ e he
      have : unknownCount G.dir lab' < unknownCount G.dir lab := by
        apply Closure.countP_lt' _ _ ?_ G.dir e0 ((hord e0).mp he0)
        · simp [hunk]
        · simpa using hk
        · intro a ha
          simp only [beq_iff_eq] at ha ⊢
          apply Classical.byContradiction
          intro hn
          exact hpres a hn ha
      omega

/-- `label_edges` leaves no edge `unknown`: every iteration labels an unknown edge, so the fuel `|E|` of
    `labelLoop` is enough -/
theorem labels_known (G : MG) (topo : List Nat) : ∀ e ∈ G.dir, labels G topo e ≠ .unknown := by
  apply labelLoop_known G _ (fun e => (orderEdges_perm topo G.dir).mem_iff)
  unfold unknownCount
  exact List.countP_le_length

/-- when the fuel `|E|` is used up the `while` condition is false: the bound cuts no run short -/
theorem labelStep_after_loop (G : MG) (topo : List Nat) :
    labelStep G (orderEdges topo G.dir) (labels G topo) = none := by
  cases h : labelStep G (orderEdges topo G.dir) (labels G topo) with
  | none => rfl
  | some lab' =>
    obtain ⟨e, he, hunk, _⟩ := labelStep_some h
    exact absurd hunk (labels_known G topo e ((orderEdges_perm topo G.dir).mem_iff.mp he))

theorem mem_dagToCpdag_dir {G : MG} {topo : List Nat} {e : Edge} :
    e ∈ (dagToCpdag G topo).dir ↔ e ∈ G.dir ∧ labels G topo e = .compelled := by
  simp [dagToCpdag]

theorem mem_dagToCpdag_un {G : MG} {topo : List Nat} {e : Edge} :
    e ∈ (dagToCpdag G topo).un ↔ e ∈ G.dir ∧ labels G topo e = .reversible := by
  simp [dagToCpdag]

/-- no edge is left `unknown`, so the undirected edges are the edges not labelled `compelled` -/
theorem dagToCpdag_eq (G : MG) (topo : List Nat) :
    dagToCpdag G topo =
      { nodes := G.nodes, dir := G.dir.filter fun e => labels G topo e == .compelled,
        un := G.dir.filter fun e => !(labels G topo e == .compelled) } := by
  simp only [dagToCpdag, MG.mk.injEq, true_and, and_true]
  refine List.filter_congr fun e he => ?_
  have := labels_known G topo e he
  cases h : labels G topo e <;> simp_all

/-- **C04, structural part** (unconditional; `topo` arbitrary): the result has D's nodes; its directed
    and undirected edges are edges of D; every edge of D occurs exactly once, either directed (in D's
    orientation) or undirected; hence the skeleton is D's. -/
theorem dagToCpdag_struct (G : MG) (topo : List Nat) (hplain : G.un = []) :
    (dagToCpdag G topo).nodes = G.nodes ∧
    (dagToCpdag G topo).bi = [] ∧ (dagToCpdag G topo).circ = [] ∧
    (∀ e, e ∈ (dagToCpdag G topo).dir → e ∈ G.dir) ∧
    (∀ e, e ∈ (dagToCpdag G topo).un → e ∈ G.dir) ∧
    (∀ e ∈ G.dir, (e ∈ (dagToCpdag G topo).dir ∧ e ∉ (dagToCpdag G topo).un) ∨
                  (e ∉ (dagToCpdag G topo).dir ∧ e ∈ (dagToCpdag G topo).un)) ∧
    (∀ a b, Adj (dagToCpdag G topo) a b ↔ Adj G a b) := by
  refine ⟨rfl, rfl, rfl, fun e h => (mem_dagToCpdag_dir.mp h).1, fun e h => (mem_dagToCpdag_un.mp h).1,
    fun e he => ?_, ?_⟩
  · have := labels_known G topo e he
    rw [mem_dagToCpdag_dir, mem_dagToCpdag_un]
    cases h : labels G topo e <;> simp_all
  · rw [dagToCpdag_eq]
    exact C05.adj_filter_split hplain _

end C04
