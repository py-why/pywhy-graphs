import Pw.C04.Cond
import Pw.C05.Decider

/-! # C04: the enumerating deciders used as run-time oracles (`essentialDec`, `meqDec`) are the specification -/
namespace C04
open C05 (Adj VStruct orientations orientLike subset_vstructs_iff subsetB_iff adjB'_iff map_orientLike_mem
  sym_orientation mem_append_map_orientLike adj_plain adj_of_edges wf_of_plain)

theorem sameVB_iff {D D' : MG} : sameVB D D' = true ↔ ∀ a c b, VStruct D a c b ↔ VStruct D' a c b := by
  simp only [sameVB, Bool.and_eq_true, subset_vstructs_iff]
  exact ⟨fun h a c b => ⟨h.1 a c b, h.2 a c b⟩,
    fun h => ⟨fun a c b => (h a c b).mp, fun a c b => (h a c b).mpr⟩⟩

theorem wf_orientation {D : MG} (hwf : D.WF) {o : List (Nat × Nat)} (hor : o ∈ orientations D.dir) :
    ({ nodes := D.nodes, dir := o } : MG).WF := by
  refine wf_of_plain ?_ rfl rfl
  rintro ⟨a, b⟩ he
  rcases (sym_orientation hor a b).mp (Or.inl he) with h | h
  · exact hwf.1 _ h
  · exact (hwf.1 _ h).symm

/-- the members of `classOf D` are (as edge sets) the DAGs Markov equivalent to D, so an edge is compelled iff
    all of them contain it -/
theorem compelled_iff_class (D : MG) (hd : IsDag D) (hwf : D.WF) (a b : Nat) :
    Compelled D a b ↔ ∀ o ∈ classOf D, (a, b) ∈ o := by
  have hDu := hd.plain.1
  simp only [classOf, List.mem_filter, Bool.and_eq_true, Bool.not_eq_true', sameVB_iff]
  constructor
  · rintro hc o ⟨hor, hcyc, hsv⟩
    refine hc { nodes := D.nodes, dir := o }
      ⟨⟨rfl, rfl, rfl⟩, (MG.hasCycle_false_iff _ (wf_orientation hwf hor)).mp hcyc⟩
      ⟨fun _ => Iff.rfl, fun x y => ?_, fun a c b => (hsv a c b).symm⟩
    rw [adj_plain hDu, adj_plain (D := { nodes := D.nodes, dir := o }) rfl]
    exact sym_orientation hor x y
  · intro hall D' hd' hm
    have hD'u := hd'.plain.1
    -- the orientation of D's edges that D' uses
    have hor := map_orientLike_mem D'.dir D.dir
    have hset : ∀ e, e ∈ D.dir.map (orientLike D'.dir) ↔ e ∈ D'.dir :=
      mem_append_map_orientLike (base := []) (fun _ _ => MG.no_two_cycle hd'.acyclic) (fun _ he => by cases he)
        fun x y => by rw [← adj_plain hD'u, hm.skel, adj_plain hDu]; simp
    refine (hset (a, b)).mp (hall _ ⟨hor, ?_, fun x c y => ?_⟩)
    · rw [MG.hasCycle_false_iff _ (wf_orientation hwf hor)]
      exact MG.Acyclic.mono (D := D') (G := { nodes := D.nodes, dir := _ }) (fun e => (hset e).mp) hd'.acyclic
    · rw [← hm.vstructs x c y]
      exact (C05.vstruct_congr (D := D') (D' := { nodes := D.nodes, dir := _ }) hD'u rfl hset x c y).symm

/-- **the run-time oracle is the specification**: for every DAG, `essentialDec D` is the essential graph -/
theorem essentialDec_spec (D : MG) (hd : IsDag D) (hwf : D.WF) : Essential D (essentialDec D) :=
  essential_of_labelling D hd (fun e => (classOf D).all (·.contains e)) fun a b _ => by
    rw [compelled_iff_class D hd hwf a b]
    simp [List.all_eq_true]

/-- the Markov-equivalence check used for the round trips decides `MarkovEquiv` on plain digraphs -/
theorem meqDec_iff (D D' : MG) (hu : D.un = []) (hu' : D'.un = []) : meqDec D D' = true ↔ MarkovEquiv D D' := by
  simp only [meqDec, Bool.and_eq_true, subsetB_iff, List.all_eq_true, adjB'_iff, sameVB_iff]
  constructor
  · rintro ⟨⟨⟨⟨hn1, hn2⟩, hs1⟩, hs2⟩, hv⟩
    exact ⟨fun v => ⟨hn2 v, hn1 v⟩,
      fun a b => ⟨adj_of_edges hs2 (by simp [hu']), adj_of_edges hs1 (by simp [hu])⟩,
      fun a c b => (hv a c b).symm⟩
  · intro hm
    refine ⟨⟨⟨⟨fun v hv => (hm.nodes v).mpr hv, fun v hv => (hm.nodes v).mp hv⟩, ?_⟩, ?_⟩, fun a c b => (hm.vstructs a c b).symm⟩
    · intro e he; exact (hm.skel _ _).mpr ((adj_plain hu _ _).mpr (Or.inl he))
    · intro e he; exact (hm.skel _ _).mp ((adj_plain hu' _ _).mpr (Or.inl he))

theorem model_eq_essentialDec_of_T3 (h : T3) (G : MG) (topo : List Nat) (hd : IsDag G) (hw : G.WF)
    (hn : G.dir.Nodup) (ht : IsTopo G topo) : SameGraph (dagToCpdag G topo) (essentialDec G) :=
  essential_unique hd (C04_full_of_T3 h G topo hd hw hn ht) (essentialDec_spec G hd hw)

end C04
