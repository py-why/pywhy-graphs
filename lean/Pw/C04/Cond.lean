import Pw.C04.Struct
import Pw.C05.Sound

/-! # C04: the essential graph at the level of the specification, and the model given `T3`

Two DAGs have the same essential graph iff they are Markov equivalent, so the "Hence" sentence of the property
follows from its first sentence; the first sentence for `dagToCpdag` is Chickering's theorem, stated here as the
proposition `T3` and proved as `T3.c04_T3` (Pw/T3/LabelSound.lean).  The theorems `…_of_T3` below take it as an
argument; Pw/T3/C04.lean and Pw/T3/Corollaries.lean supply it. -/
namespace C04
open C05 (Adj VStruct)

theorem MarkovEquiv.refl (D : MG) : MarkovEquiv D D := ⟨fun _ => Iff.rfl, fun _ _ => Iff.rfl, fun _ _ _ => Iff.rfl⟩

theorem MarkovEquiv.symm {D D' : MG} (h : MarkovEquiv D D') : MarkovEquiv D' D :=
  ⟨fun v => (h.nodes v).symm, fun a b => (h.skel a b).symm, fun a c b => (h.vstructs a c b).symm⟩

theorem MarkovEquiv.trans {D D' D'' : MG} (h : MarkovEquiv D D') (h' : MarkovEquiv D' D'') : MarkovEquiv D D'' :=
  ⟨fun v => (h'.nodes v).trans (h.nodes v), fun a b => (h'.skel a b).trans (h.skel a b),
   fun a c b => (h'.vstructs a c b).trans (h.vstructs a c b)⟩

theorem compelled_congr {D1 D2 : MG} (h : MarkovEquiv D1 D2) (a b : Nat) :
    Compelled D1 a b ↔ Compelled D2 a b :=
  ⟨fun hc D' hd hm => hc D' hd (h.trans hm), fun hc D' hd hm => hc D' hd (h.symm.trans hm)⟩

theorem compelled_mem {D : MG} (hd : IsDag D) {a b : Nat} (h : Compelled D a b) : (a, b) ∈ D.dir :=
  h D hd (MarkovEquiv.refl D)

theorem vstruct_compelled {D : MG} {a c b : Nat} (h : VStruct D a c b) : Compelled D a c :=
  fun _ _ hm => ((hm.vstructs a c b).mpr h).1

theorem vstruct_symm {D : MG} {a c b : Nat} (h : VStruct D a c b) : VStruct D b c a :=
  ⟨h.2.1, h.1, Ne.symm h.2.2.1, fun hadj => h.2.2.2 (C05.Adj.symm hadj)⟩

theorem adj_of_sameGraph {C C' : MG} (h : SameGraph C C') (a b : Nat) : Adj C a b ↔ Adj C' a b :=
  or_congr (h.2.1 _) (or_congr (h.2.1 _) (h.2.2 a b))

/-- **"Hence two DAGs receive equal CPDAGs iff they are Markov equivalent"** – at the level of the
    specification (any graphs `C1`, `C2` that are the essential graphs of the DAGs `D1`, `D2`). -/
theorem sameGraph_iff_markovEquiv {D1 D2 C1 C2 : MG} (h1 : IsDag D1) (h2 : IsDag D2)
    (e1 : Essential D1 C1) (e2 : Essential D2 C2) : SameGraph C1 C2 ↔ MarkovEquiv D1 D2 := by
  constructor
  · intro hs
    have hskel : ∀ a b, Adj D2 a b ↔ Adj D1 a b := fun a b =>
      ((e2.skel a b).symm.trans (adj_of_sameGraph hs a b).symm).trans (e1.skel a b)
    have key : ∀ {Da Db Ca Cb : MG}, IsDag Db → Essential Da Ca → Essential Db Cb →
        (∀ e, e ∈ Ca.dir → e ∈ Cb.dir) → (∀ a b, Adj Db a b → Adj Da a b) →
        ∀ a c b, VStruct Da a c b → VStruct Db a c b := by
      intro Da Db Ca Cb hb ea eb hsub hadj a c b hv
      have hac : (a, c) ∈ Db.dir :=
        compelled_mem hb ((eb.directed a c).mp (hsub _ ((ea.directed a c).mpr (vstruct_compelled hv))))
      have hbc : (b, c) ∈ Db.dir :=
        compelled_mem hb ((eb.directed b c).mp (hsub _ ((ea.directed b c).mpr (vstruct_compelled (vstruct_symm hv)))))
      exact ⟨hac, hbc, hv.2.2.1, fun h => hv.2.2.2 (hadj a b h)⟩
    refine ⟨fun v => ((e2.nodes v).symm.trans (hs.1 v).symm).trans (e1.nodes v), hskel, ?_⟩
    intro a c b
    exact ⟨key h1 e2 e1 (fun e h => (hs.2.1 e).mpr h) (fun a b h => (hskel a b).mpr h) a c b,
           key h2 e1 e2 (fun e h => (hs.2.1 e).mp h) (fun a b h => (hskel a b).mp h) a c b⟩
  · intro hm
    refine ⟨fun v => ((e1.nodes v).trans (hm.nodes v).symm).trans (e2.nodes v).symm, ?_, ?_⟩
    · rintro ⟨a, b⟩
      exact ((e1.directed a b).trans (compelled_congr hm a b)).trans (e2.directed a b).symm
    · intro a b
      rw [e1.undirected a b, e2.undirected a b, compelled_congr hm a b, compelled_congr hm b a, hm.skel a b]

theorem essential_unique {D C C' : MG} (hd : IsDag D) (e : Essential D C) (e' : Essential D C') : SameGraph C C' :=
  (sameGraph_iff_markovEquiv hd hd e e').mpr (MarkovEquiv.refl D)

structure IsTopo (G : MG) (topo : List Nat) : Prop where
  nodup : topo.Nodup
  nodes : ∀ v, v ∈ topo ↔ v ∈ G.nodes
  forward : ∀ a b, (a, b) ∈ G.dir → pos topo a < pos topo b

/-- **T3** (Chickering 2002, correctness of Order-Edges / Label-Edges; proved as `T3.c04_T3`): on a
    DAG, with a topological order, an edge is labelled `compelled` exactly if it is compelled. -/
def T3 : Prop :=
  ∀ (G : MG) (topo : List Nat), IsDag G → G.WF → G.dir.Nodup → IsTopo G topo →
    ∀ a b, (a, b) ∈ G.dir → (labels G topo (a, b) = .compelled ↔ Compelled G a b)

/-- the full statement of the property's first sentence for the model -/
def C04_full : Prop :=
  ∀ (G : MG) (topo : List Nat), IsDag G → G.WF → G.dir.Nodup → IsTopo G topo →
    Essential G (dagToCpdag G topo)

/-- any labelling of D's edges that is `true` exactly on the compelled ones yields the essential graph -/
theorem essential_of_labelling (D : MG) (hd : IsDag D) (p : Nat × Nat → Bool)
    (hp : ∀ a b, (a, b) ∈ D.dir → (p (a, b) = true ↔ Compelled D a b)) :
    Essential D { nodes := D.nodes, dir := D.dir.filter p, un := D.dir.filter fun e => !p e } := by
  have hDu := hd.plain.1
  refine ⟨fun _ => Iff.rfl, ⟨rfl, rfl⟩, C05.adj_filter_split hDu p, ?_, ?_⟩
  · intro a b
    simp only [List.mem_filter]
    constructor
    · rintro ⟨hE, hl⟩; exact (hp a b hE).mp hl
    · intro hc
      have hE := compelled_mem hd hc
      exact ⟨hE, (hp a b hE).mpr hc⟩
  · intro a b
    have hp' : ∀ a b, (a, b) ∈ D.dir → (p (a, b) = false ↔ ¬ Compelled D a b) :=
      fun a b hE => by rw [← hp a b hE, Bool.not_eq_true]
    have rev : ∀ {a b}, (a, b) ∈ D.dir → ¬ Compelled D b a :=
      fun hE hc => MG.no_two_cycle hd.acyclic hE (compelled_mem hd hc)
    simp only [List.mem_filter, Bool.not_eq_true']
    constructor
    · rintro (⟨hE, hl⟩ | ⟨hE, hl⟩)
      · exact ⟨(C05.adj_plain hDu a b).mpr (Or.inl hE), (hp' a b hE).mp hl, rev hE⟩
      · exact ⟨(C05.adj_plain hDu a b).mpr (Or.inr hE), rev hE, (hp' b a hE).mp hl⟩
    · rintro ⟨hadj, hn1, hn2⟩
      rcases (C05.adj_plain hDu a b).mp hadj with hE | hE
      · exact Or.inl ⟨hE, (hp' a b hE).mpr hn1⟩
      · exact Or.inr ⟨hE, (hp' b a hE).mpr hn2⟩

/-- C04's first sentence from `T3`; `T3.c04_full` is the statement without the argument. -/
theorem C04_full_of_T3 (h : T3) : C04_full := by
  intro G topo hd hwf hnd ht
  rw [dagToCpdag_eq]
  exact essential_of_labelling G hd _ fun a b hE => by
    rw [beq_iff_eq]; exact h G topo hd hwf hnd ht a b hE

/-- **C04, second sentence, conditional on T3**: two DAGs receive equal CPDAGs (whatever topological
    orders are used) iff they are Markov equivalent. -/
theorem C04_markov_of_T3 (h : T3) (G1 G2 : MG) (t1 t2 : List Nat)
    (hd1 : IsDag G1) (hw1 : G1.WF) (hn1 : G1.dir.Nodup) (ht1 : IsTopo G1 t1)
    (hd2 : IsDag G2) (hw2 : G2.WF) (hn2 : G2.dir.Nodup) (ht2 : IsTopo G2 t2) :
    SameGraph (dagToCpdag G1 t1) (dagToCpdag G2 t2) ↔ MarkovEquiv G1 G2 :=
  sameGraph_iff_markovEquiv hd1 hd2 (C04_full_of_T3 h G1 t1 hd1 hw1 hn1 ht1) (C04_full_of_T3 h G2 t2 hd2 hw2 hn2 ht2)

theorem C04_order_irrelevant_of_T3 (h : T3) (G : MG) (t1 t2 : List Nat)
    (hd : IsDag G) (hw : G.WF) (hn : G.dir.Nodup) (ht1 : IsTopo G t1) (ht2 : IsTopo G t2) :
    SameGraph (dagToCpdag G t1) (dagToCpdag G t2) :=
  (C04_markov_of_T3 h G G t1 t2 hd hw hn ht1 hd hw hn ht2).mpr (MarkovEquiv.refl G)

/-- the suite's example `1->2->4->5, 1->3->4` -/
def ex1 : MG := { nodes := [1, 2, 3, 4, 5], dir := [(1, 2), (1, 3), (2, 4), (3, 4), (4, 5)] }

/-- test (one instance of T3's conclusion, kernel-checked): v-structure 2->4<-3 and 4->5 compelled,
    1-2, 1-3 reversible -/
example : dagToCpdag ex1 [1, 2, 3, 4, 5] =
    { nodes := [1, 2, 3, 4, 5], dir := [(2, 4), (3, 4), (4, 5)], un := [(1, 2), (1, 3)] } := by
  decide +kernel

/-- test: the other topological order gives the same graph -/
example : dagToCpdag ex1 [1, 3, 2, 4, 5] = dagToCpdag ex1 [1, 2, 3, 4, 5] := by decide +kernel

/-- test: isolated node kept, single edge reversible -/
example : dagToCpdag { nodes := [9, 1, 2], dir := [(1, 2)] } [9, 1, 2] =
    { nodes := [9, 1, 2], dir := [], un := [(1, 2)] } := by decide +kernel

theorem ex1_isDag : IsDag ex1 :=
  ⟨⟨rfl, rfl, rfl⟩, C05.acyclic_of_rank (fun v => 10 - v) fun a b h =>
    (by decide : ∀ e ∈ ex1.dir, 10 - e.2 < 10 - e.1) (a, b) h⟩

theorem ex1_topo : IsTopo ex1 [1, 2, 3, 4, 5] :=
  ⟨by decide, fun v => Iff.rfl, fun a b h =>
    (by decide : ∀ e ∈ ex1.dir, pos [1, 2, 3, 4, 5] e.1 < pos [1, 2, 3, 4, 5] e.2) (a, b) h⟩

/-- non-vacuity of the hypotheses of `C04_full_of_T3` / `C04_markov_of_T3` on a non-trivial DAG -/
example : IsDag ex1 ∧ ex1.WF ∧ ex1.dir.Nodup ∧ IsTopo ex1 [1, 2, 3, 4, 5] :=
  ⟨ex1_isDag, ⟨by decide, by decide, by decide⟩, by decide, ex1_topo⟩

/-- non-vacuity of `sameGraph_iff_markovEquiv`: 0->1 and 1->0 are Markov equivalent DAGs -/
example : MarkovEquiv { nodes := [0, 1], dir := [(0, 1)] } { nodes := [0, 1], dir := [(1, 0)] } := by
  refine ⟨fun _ => Iff.rfl, ?_, ?_⟩
  · intro a b; simp [Adj]; constructor <;> (intro h; rcases h with h | h <;> simp [h])
  · intro a c b
    simp only [VStruct, List.mem_singleton, Prod.mk.injEq]
    constructor
    · rintro ⟨⟨rfl, rfl⟩, ⟨rfl, _⟩, h, _⟩; exact absurd rfl h
    · rintro ⟨⟨rfl, rfl⟩, ⟨rfl, _⟩, h, _⟩; exact absurd rfl h

end C04
