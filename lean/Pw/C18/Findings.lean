import Pw.C18.UncovComplete

/-! # C18: known findings as kernel-checked counterexamples, and non-vacuity examples -/
namespace C18

/-- `e = .ok v` as a `Bool` (there is no `DecidableEq (Except _ _)` instance) -/
def isOk {α : Type} [BEq α] (e : Except String α) (v : α) : Bool :=
  match e with
  | .ok r => r == v
  | .error _ => false

theorem eq_of_isOk {α : Type} [BEq α] [LawfulBEq α] {e : Except String α} {v : α} (h : isOk e v = true) :
    e = .ok v := by
  cases e with
  | error _ => cases h
  | ok r => simp [isOk] at h; rw [h]

/-! ## known finding C18-updp-global-explored -/

/-- `0 -> 1 -> 3 -> 4`, `0 -> 2 -> 3`, `1 <-> 4`: the triple (1,3,4) is shielded, (2,3,4) is not. -/
def Gcross : MG := { nodes := [0, 1, 2, 3, 4], dir := [(0, 1), (0, 2), (1, 3), (2, 3), (3, 4)], bi := [(1, 4)] }
def qcross : Query := { u := 0, c := 4 }

/-- **Completeness of the global-explored BFS is false**: on `Gcross` (inside the property's domain)
    the list `[0, 2, 3, 4]` is an uncovered pd path from 0 to 4, but the search (ascending
    neighbour order) enters node 3 from node 1 first, marks it explored and returns not-found. -/
theorem uncovPdPath_incomplete :
    simpleB Gcross = true ∧ UncovPd Gcross qcross [0, 2, 3, 4] ∧
      isOk (uncovPdPath Gcross (nbDefault Gcross) qcross) ([], false) = true :=
  ⟨simpleB_of_nodes (by decide +kernel) (by decide +kernel), by decide +kernel, by decide +kernel⟩

theorem uncovPdPath_complete_false :
    ¬ (∀ (G : MG) (q : Query), Simple G → (∃ p, UncovPd G q p) →
        ∃ p, uncovPdPath G (nbDefault G) q = .ok (p, true)) := by
  intro h
  obtain ⟨p, hp⟩ := h Gcross qcross (simple_of_simpleB uncovPdPath_incomplete.1) ⟨_, uncovPdPath_incomplete.2.1⟩
  rw [eq_of_isOk uncovPdPath_incomplete.2.2] at hp
  cases hp

/-! ## known finding C18-disc-a-possible-parent -/

/-- `0 -> 1 <-> 2`, `1 o-> 3`, `2 -> 3` -/
def Gposs : MG := { nodes := [0, 1, 2, 3], dir := [(0, 1), (1, 3), (2, 3)], bi := [(1, 2)], circ := [(3, 1)] }

/-- **`discriminating_path` accepts `a o-> c`**: the model returns `[0, 1, 2, 3]` for (u,a,c) = (2,1,3)
    although node 1 is not a parent of 3 (circle mark at 1), so no discriminating path exists. -/
theorem discPath_accepts_possible_parent :
    simpleB Gposs = true ∧
      isOk (discPath Gposs (nbDefault Gposs) (bnbDefault Gposs) 2 1 3) (true, [0, 1, 2, 3], [0, 1, 2, 3]) = true ∧
      ¬ DiscPath Gposs 2 1 3 [0, 1, 2, 3] ∧ DiscPathWeak Gposs 2 1 3 [0, 1, 2, 3] ∧
      discExists Gposs 2 1 3 = false :=
  ⟨simpleB_of_nodes (by decide +kernel) (by decide +kernel), by decide +kernel, by decide +kernel,
   by decide +kernel, by decide +kernel⟩

/-! ## non-vacuity of the soundness theorems -/

/-- Colombo et al. Fig. 4 (test_discriminating_path_longer): xl <-> xk <-> xj <- xb, all -> xp -/
def Gfig4 : MG := { nodes := [0, 1, 2, 3, 4], dir := [(1, 4), (2, 4), (3, 4), (3, 2)], bi := [(0, 1), (1, 2)] }

theorem Gfig4_wfg : WFG Gfig4 := wfg_of_wfgB (by decide +kernel)
theorem Gfig4_simple : Simple Gfig4 := simple_of_all Gfig4_wfg (by decide +kernel)
theorem Gfig4_disc : DiscPath Gfig4 3 2 4 [0, 1, 2, 3, 4] := by decide +kernel

example : Simple Gfig4 ∧ hC Gfig4 4 2 = false ∧
    discPath Gfig4 (nbDefault Gfig4) (bnbDefault Gfig4) 3 2 4 = .ok (true, [0, 1, 2, 3, 4], [0, 1, 2, 3, 4]) ∧
    DiscPath Gfig4 3 2 4 [0, 1, 2, 3, 4] :=
  ⟨Gfig4_simple, rfl, eq_of_isOk (by decide +kernel), Gfig4_disc⟩

/-- A o-o u o-o B o-> C with first_node A (test_uncovered_pd_path_circle_path_only) -/
def Gcirc : MG := { nodes := [0, 1, 2, 3], dir := [(2, 3)], circ := [(0, 1), (1, 0), (1, 2), (2, 1), (3, 2)] }

theorem Gcirc_wfg : WFG Gcirc := wfg_of_wfgB (by decide +kernel)
theorem Gcirc_simple : Simple Gcirc := simple_of_all Gcirc_wfg (by decide +kernel)
theorem Gcirc_uncov : UncovPd Gcirc { u := 1, c := 3, first := some 0 } [0, 1, 2, 3] := by decide +kernel

example : Simple Gcirc ∧
    uncovPdPath Gcirc (nbDefault Gcirc) { u := 1, c := 3, first := some 0 } = .ok ([0, 1, 2, 3], true) ∧
    UncovPd Gcirc { u := 1, c := 3, first := some 0 } [0, 1, 2, 3] ∧
    uncovPdPath Gcirc (nbDefault Gcirc) { u := 1, c := 3, first := some 0, fc := true } = .ok ([], false) ∧
    uncovExists Gcirc { u := 1, c := 3, first := some 0, fc := true } = false :=
  ⟨Gcirc_simple, eq_of_isOk (by decide +kernel), Gcirc_uncov, eq_of_isOk (by decide +kernel), by decide +kernel⟩

example : WFG Gcross ∧ uncovExists Gcross qcross = true := ⟨wfg_of_wfgB (by decide +kernel), by decide +kernel⟩

/-! ## non-vacuity of the completeness theorems -/

/-- the hypotheses of `uncovPdPath_complete_partial` are satisfiable (and its conclusion is checked
    by evaluation): the circle path `Gcirc` is triangle-free -/
example : Simple Gcirc ∧ WFG Gcirc ∧ TriangleFree Gcirc ∧
    uncovGuard Gcirc { u := 1, c := 3, first := some 0 } = false ∧ Gcirc.nodes.length < 1000 ∧
    (∃ p, UncovPd Gcirc { u := 1, c := 3, first := some 0 } p) :=
  ⟨Gcirc_simple, Gcirc_wfg, triangleFree_of_all Gcirc_wfg (by decide +kernel), rfl, by decide, ⟨_, Gcirc_uncov⟩⟩

/-- the hypotheses of `discPath_complete` / `discPath_found_iff` are satisfiable -/
example : Simple Gfig4 ∧ WFG Gfig4 ∧ hC Gfig4 4 2 = false ∧ Gfig4.nodes.length < 1000 ∧
    (∃ p, DiscPath Gfig4 3 2 4 p) :=
  ⟨Gfig4_simple, Gfig4_wfg, rfl, by decide, ⟨_, Gfig4_disc⟩⟩

end C18
