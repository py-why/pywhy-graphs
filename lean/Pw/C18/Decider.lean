import Pw.C18.DiscSound

/-! # C18: the brute-force deciders decide the specification

`uncovExists G q = true ↔ ∃ p, UncovPd G q p` and `discExists G u a c = true ↔ ∃ p, DiscPath G u a c p`
on every graph whose edges join nodes of the graph.  These are the oracles the harness compares the
implementation's `found` with.  The domain predicates `Simple` and `WFG` get `Bool` tests (`simpleB`, `wfgB`)
and the default neighbour orders are shown faithful. -/
namespace C18

/-- the endpoints of every edge, circle marks included, are nodes (`MG.WF` covers `dir`, `bi`, `un` only) -/
def WFG (G : MG) : Prop := ∀ a b, adj G a b = true → a ∈ G.nodes ∧ b ∈ G.nodes

theorem chainB_mono {r s : Nat → Nat → Bool} (h : ∀ a b, r a b = true → s a b = true) :
    ∀ l, chainB r l = true → chainB s l = true
  | [] => fun _ => rfl
  | [_] => fun _ => rfl
  | a :: b :: t => by
    intro hl
    simp only [chainB, Bool.and_eq_true] at hl ⊢
    exact ⟨h a b hl.1, chainB_mono h (b :: t) hl.2⟩

theorem chainB_tail_mem {G : MG} (hW : WFG G) : ∀ l, chainB (adj G) l = true → ∀ y ∈ l.tail, y ∈ G.nodes
  | [] => by simp
  | [_] => by simp
  | a :: b :: t => by
    intro hl y hy
    simp only [chainB, Bool.and_eq_true] at hl
    simp only [List.tail_cons, List.mem_cons] at hy
    rcases hy with rfl | hy
    · exact (hW a y hl.1).2
    · exact chainB_tail_mem hW (b :: t) hl.2 y (by simpa using hy)

theorem chainB_tail {r : Nat → Nat → Bool} : ∀ l, chainB r l = true → chainB r l.tail = true
  | [] => fun _ => rfl
  | [_] => fun _ => rfl
  | _ :: b :: t => by intro hl; simp only [chainB, Bool.and_eq_true] at hl; exact hl.2

theorem pathsFrom_complete (G : MG) : ∀ (fuel : Nat) (avoid : List Nat) (x : Nat) (l : List Nat),
    l.head? = some x → chainB (adj G) l = true → l.Nodup → (∀ y ∈ l.tail, y ∈ G.nodes) →
    (∀ y ∈ l, y ∉ avoid) → l.length ≤ fuel + 1 → l ∈ pathsFrom G fuel avoid x := by
  intro fuel
  induction fuel with
  | zero =>
    intro avoid x l hh _ _ _ _ hlen
    cases l with
    | nil => cases hh
    | cons a t =>
      simp at hh; subst hh
      cases t with
      | nil => simp [pathsFrom]
      | cons b t' => simp at hlen
  | succ n ih =>
    intro avoid x l hh hch hn hnodes hav hlen
    cases l with
    | nil => cases hh
    | cons a t =>
      simp at hh; subst hh
      cases t with
      | nil => simp [pathsFrom]
      | cons y t' =>
        simp only [pathsFrom, List.mem_cons, List.mem_flatMap, List.mem_filter, List.mem_map]
        right
        simp only [chainB, Bool.and_eq_true] at hch
        have hn' := List.nodup_cons.mp hn
        refine ⟨y, ⟨hnodes y (by simp), ?_⟩, y :: t', ?_, rfl⟩
        · simp only [Bool.and_eq_true, hch.1, true_and, Bool.not_eq_true', decide_eq_false_iff_not, not_or]
          exact ⟨fun e => hn'.1 (by simp [e]), hav y (by simp)⟩
        · apply ih (a :: avoid) y (y :: t') rfl hch.2 hn'.2
          · intro z hz; exact hnodes z (by simp at hz ⊢; exact Or.inr hz)
          · intro z hz hza
            simp only [List.mem_cons] at hza
            rcases hza with rfl | hza
            · exact hn'.1 hz
            · exact hav z (by simp at hz ⊢; exact Or.inr hz) hza
          · simp at hlen ⊢; omega

theorem pathsFrom_all {G : MG} (hW : WFG G) (x : Nat) (l : List Nat) (hh : l.head? = some x)
    (hch : chainB (adj G) l = true) (hn : l.Nodup) : l ∈ pathsFrom G G.nodes.length [] x := by
  have htail := chainB_tail_mem hW l hch
  refine pathsFrom_complete G _ [] x l hh hch hn htail (by simp) ?_
  have : l.tail.length ≤ G.nodes.length :=
    (hn.sublist (List.tail_sublist l)).length_le_of_subset htail
  cases l with
  | nil => simp
  | cons a t => simp at this ⊢; exact this

/-- **the oracle for `uncovered_pd_path` decides the specification** -/
theorem uncovExists_iff {G : MG} (hW : WFG G) (q : Query) :
    uncovExists G q = true ↔ ∃ p, UncovPd G q p := by
  unfold uncovExists
  rw [List.any_eq_true]
  constructor
  · rintro ⟨core, _, h⟩
    exact ⟨_, of_decide_eq_true h⟩
  · rintro ⟨p, hp⟩
    obtain ⟨⟨core, rfl, hhead, hn, hch, -⟩, -⟩ := uncovPd_iff.mp hp
    exact ⟨core, pathsFrom_all hW q.u _ hhead (chainB_mono (fun a b => pdEdge_adj) _ hch)
      (hn.sublist (List.sublist_append_right _ _)), decide_eq_true hp⟩

theorem chainB_reverse {r : Nat → Nat → Bool} (hr : ∀ a b, r a b = r b a) :
    ∀ l, chainB r l.reverse = chainB r l
  | [] => rfl
  | [_] => rfl
  | a :: b :: t => by
    have ih := chainB_reverse hr (b :: t)
    rw [List.reverse_cons, chainB_append_singleton, ih, List.getLast?_reverse]
    simp only [List.head?_cons, chainB]
    rw [hr b a, Bool.and_comm]

/-- **the oracle for `discriminating_path` decides the specification** -/
theorem discExists_iff {G : MG} (hW : WFG G) (u a c : Nat) :
    discExists G u a c = true ↔ ∃ p, DiscPath G u a c p := by
  unfold discExists
  rw [List.any_eq_true]
  constructor
  · rintro ⟨l, _, h⟩
    exact ⟨_, of_decide_eq_true h⟩
  · rintro ⟨p, hp⟩
    have hp' := hp
    obtain ⟨_, hn, hlast, _, _, hch, _⟩ := hp'
    refine ⟨p.reverse, ?_, ?_⟩
    · refine pathsFrom_all hW c _ (by rw [List.head?_reverse]; exact hlast) ?_ ((List.reverse_perm p).nodup_iff.mpr hn)
      rw [chainB_reverse (adj_comm G)]; exact hch
    · rw [List.reverse_reverse]; exact decide_eq_true hp

/-! ## the domain predicates as `Bool` tests over the nodes that occur in the graph -/

def verts (G : MG) : List Nat :=
  G.nodes ++ G.dir.map (·.1) ++ G.dir.map (·.2) ++ G.bi.map (·.1) ++ G.bi.map (·.2) ++
    G.un.map (·.1) ++ G.un.map (·.2) ++ G.circ.map (·.1) ++ G.circ.map (·.2)

theorem adj_verts {G : MG} {a b : Nat} (h : adj G a b = true) : a ∈ verts G ∧ b ∈ verts G := by
  have key : ∀ l ∈ [G.dir, G.bi, G.un, G.circ], ∀ x y, (x, y) ∈ l → x ∈ verts G ∧ y ∈ verts G := by
    intro l hl x y hxy
    have h1 : x ∈ l.map (·.1) := List.mem_map_of_mem hxy
    have h2 : y ∈ l.map (·.2) := List.mem_map_of_mem hxy
    simp only [List.mem_cons, List.mem_nil_iff, or_false] at hl
    simp only [verts, List.mem_append]
    rcases hl with rfl | rfl | rfl | rfl <;> simp only [h1, h2, true_or, or_true, and_self]
  simp only [adj_iff, hD, hB, hU, hC, Bool.or_eq_true, decide_eq_true_eq] at h
  rcases h with h | h | (h | h) | (h | h) | h | h
  · exact key _ (.head _) _ _ h
  · exact (key _ (.head _) _ _ h).symm
  · exact key _ (.tail _ (.head _)) _ _ h
  · exact (key _ (.tail _ (.head _)) _ _ h).symm
  · exact key _ (.tail _ (.tail _ (.head _))) _ _ h
  · exact (key _ (.tail _ (.tail _ (.head _))) _ _ h).symm
  · exact key _ (.tail _ (.tail _ (.tail _ (.head _)))) _ _ h
  · exact (key _ (.tail _ (.tail _ (.tail _ (.head _)))) _ _ h).symm

def simpleB (G : MG) : Bool := (verts G).all fun a => (verts G).all fun b => simpleAt G a b

theorem simple_of_all {G : MG} {vs : List Nat} (hvs : ∀ a b, adj G a b = true → a ∈ vs ∧ b ∈ vs)
    (h : ∀ a ∈ vs, ∀ b ∈ vs, simpleAt G a b = true) : Simple G := by
  rw [simple_iff]
  intro a b
  have haa : adj G a a = false := by
    cases haa : adj G a a with
    | false => rfl
    | true => have := h a (hvs a a haa).1 a (hvs a a haa).1; simp [simpleAt, haa] at this
  cases hab : adj G a b with
  | true => exact h a (hvs a b hab).1 b (hvs a b hab).2
  | false =>
    -- no edge between `a` and `b`: every membership test is false
    simp only [adj, Bool.or_eq_false_iff] at hab
    simp [simpleAt, hab, haa]

theorem simple_of_simpleB {G : MG} (h : simpleB G = true) : Simple G :=
  simple_of_all (fun _ _ => adj_verts) (by simpa [simpleB] using h)

def wfgB (G : MG) : Bool := (verts G).all fun a => decide (a ∈ G.nodes)

theorem simpleB_of_nodes {G : MG} (hw : wfgB G = true)
    (h : ∀ a ∈ G.nodes, ∀ b ∈ G.nodes, simpleAt G a b = true) : simpleB G = true := by
  simp only [wfgB, List.all_eq_true, decide_eq_true_eq] at hw
  simp only [simpleB, List.all_eq_true]
  exact fun a ha b hb => h a (hw a ha) b (hw b hb)

theorem wfg_of_wfgB {G : MG} (h : wfgB G = true) : WFG G := by
  intro a b hadj
  obtain ⟨ha, hb⟩ := adj_verts hadj
  simp only [wfgB, List.all_eq_true, decide_eq_true_eq] at h
  exact ⟨h a ha, h b hb⟩

theorem nbDefault_faithful {G : MG} (hW : WFG G) (x y : Nat) : y ∈ nbDefault G x ↔ adj G x y = true := by
  unfold nbDefault
  rw [List.mem_filter]
  exact ⟨fun h => h.2, fun h => ⟨(hW x y h).2, h⟩⟩

theorem bnbDefault_faithful (G : MG) (x y : Nat) : y ∈ bnbDefault G x ↔ hB G x y = true := by
  unfold bnbDefault hB
  rw [MG.mem_sym]
  simp

end C18
