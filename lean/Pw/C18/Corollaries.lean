import Pw.C18.Findings

/-! # C18: corollaries — soundness without the "non-empty list" side condition on graphs below the
pop limit, absence of `KeyError`, independence of the iteration order, found ⇔ exists with the default
orders on triangle-free skeletons -/
namespace C18

/-- **Soundness of `uncovered_pd_path`, graphs below the pop limit**: with a faithful neighbour order
    on a graph with fewer than `maxLen` (=1000) nodes, `found = True` always comes with an uncovered pd
    path for the query (no side condition on the returned list). -/
theorem uncovPdPath_sound_nolimit (G : MG) (hS : Simple G) (hW : WFG G) (nb : Nat → List Nat)
    (hnb : ∀ x y, y ∈ nb x ↔ adj G x y = true) (q : Query) (hfu : q.first ≠ some q.u) (maxLen : Nat)
    (hlen : G.nodes.length < maxLen) (p : List Nat) (h : uncovPdPath G nb q maxLen = .ok (p, true)) :
    UncovPd G q p := by
  rcases uncovPdPath_cases hS nb hfu maxLen with ⟨_, h'⟩ | ⟨hg, h' | ⟨p', hp', h'⟩ | ⟨_, hl⟩⟩
  · rw [h] at h'; cases h'
  · rw [h] at h'; cases h'
  · rw [h] at h'; cases h'; exact hp'
  · rw [loop_no_limit _ true (fun x y h => (hW x y ((hnb x y).mp h)).2) rfl (uncovGuard_u_mem hg) (by simp [uncovInit])
      (by simp [uncovInit]) hlen] at hl
    cases hl

/-- the model of `uncovered_pd_path` raises nothing but the documented `RuntimeError` of the argument
    guards: the back-pointer reconstruction never fails (`KeyError`) -/
theorem uncovPdPath_error (G : MG) (hS : Simple G) (nb : Nat → List Nat) (q : Query)
    (hfu : q.first ≠ some q.u) (maxLen : Nat) (e : String)
    (h : uncovPdPath G nb q maxLen = .error e) : e = "RuntimeError" ∧ uncovGuard G q = true := by
  rcases uncovPdPath_cases hS nb hfu maxLen with ⟨hg, h'⟩ | ⟨_, h' | ⟨_, _, h'⟩ | ⟨h', _⟩⟩ <;>
    rw [h] at h' <;> cases h'
  exact ⟨rfl, hg⟩

/-- **the answer of `discriminating_path` does not depend on iteration orders** (outside the known
    finding): any two faithful orders of the neighbour sets / the bidirected layer give the same
    `found`. -/
theorem discPath_order_independent (G : MG) (hS : Simple G) (hW : WFG G)
    (nb bnb nb' bnb' : Nat → List Nat)
    (hnb : ∀ x y, y ∈ nb x ↔ adj G x y = true) (hbnb : ∀ x y, y ∈ bnb x ↔ hB G x y = true)
    (hnb' : ∀ x y, y ∈ nb' x ↔ adj G x y = true) (hbnb' : ∀ x y, y ∈ bnb' x ↔ hB G x y = true)
    (u a c maxLen : Nat) (hlen : G.nodes.length < maxLen) (hcirc : hC G c a = false) :
    (∃ p ex, p ≠ [] ∧ discPath G nb bnb u a c maxLen = .ok (true, p, ex)) ↔
    (∃ p ex, p ≠ [] ∧ discPath G nb' bnb' u a c maxLen = .ok (true, p, ex)) := by
  rw [discPath_found_iff G hS hW nb bnb hnb hbnb u a c maxLen hlen hcirc,
      discPath_found_iff G hS hW nb' bnb' hnb' hbnb' u a c maxLen hlen hcirc]

/-- **Soundness of `discriminating_path`, graphs below the pop limit** (no side condition on the
    returned list): `found = True` with `a -> c` (no circle at a) always comes with a discriminating
    path. -/
theorem discPath_sound_nolimit (G : MG) (hS : Simple G) (hW : WFG G) (nb bnb : Nat → List Nat)
    (hnb : ∀ x y, y ∈ nb x ↔ adj G x y = true) (hbnb : ∀ x y, y ∈ bnb x ↔ hB G x y = true)
    (u a c maxLen : Nat) (hlen : G.nodes.length < maxLen) (p ex : List Nat)
    (h : discPath G nb bnb u a c maxLen = .ok (true, p, ex)) (hcirc : hC G c a = false) :
    DiscPath G u a c p := by
  rcases discPath_cases hS nb bnb u a c maxLen with ⟨_, h'⟩ | ⟨_, _, _, _, hw, h'⟩ | ⟨he, _, hl⟩
  · rw [h] at h'; cases h'
  · rw [h] at h'; cases h'; exact hw.strong hS hcirc
  · obtain ⟨_, hac, _⟩ := discEntry_iff.mp he
    rw [loop_no_limit _ false (discIter_nodes hW hnb hbnb) rfl (hW a c (adj_iff.mpr (Or.inl hac))).1
      (by simp [discInit]) (by simp [discInit]) hlen] at hl
    cases hl

/-- with `first_node = u` every candidate is shielded by `u` itself or not adjacent: nothing is found -/
theorem uncovPdPath_first_eq_u (G : MG) (nb : Nat → List Nat) (q : Query)
    (hfu : q.first = some q.u) (maxLen : Nat) (p : List Nat) :
    uncovPdPath G nb q maxLen ≠ .ok (p, true) := by
  intro h
  cases hg : uncovGuard G q with
  | true => simp [uncovPdPath, hg] at h
  | false =>
  have hsn : q.second = none := (uncovGuard_not_both hg).resolve_left (by simp [hfu])
  rw [uncovPdPath_eq_loop hg (by simp [secondBad, hsn]) (by simp [hsn])] at h
  have hloop : (loop nb (uncovCls G q) true maxLen (uncovInit q)).found = false := by
    rw [uncovInit_first hfu hsn]
    cases maxLen with
    | zero => rfl
    | succ n =>
      -- the one pop skips every candidate and leaves the queue empty
      rw [loop_succ_cons (this := q.u) (q := []) rfl, inner_all_skip]
      · cases n with
        | zero => rfl
        | succ m => rfl
      · intro next _
        by_cases hex : next ∈ [q.u, q.u]
        · exact Or.inl hex
        · refine Or.inr (Decidable.byContradiction fun hc => ?_)
          obtain ⟨_, h2, h3⟩ := uncovCls_spec.1.mp hc
          have := pdCode_adj h3
          rw [h2 q.u List.lookup_cons_self] at this
          cases this
  rw [uncovFinish_not_found hloop] at h
  cases h

/-- **Soundness of `uncovered_pd_path`, every query** (also `first_node = u`) -/
theorem uncovPdPath_sound_all (G : MG) (hS : Simple G) (nb : Nat → List Nat) (q : Query) (maxLen : Nat)
    (p : List Nat) (h : uncovPdPath G nb q maxLen = .ok (p, true)) (hp : p ≠ []) : UncovPd G q p := by
  by_cases hfu : q.first = some q.u
  · exact absurd h (uncovPdPath_first_eq_u G nb q hfu maxLen p)
  · exact uncovPdPath_sound G hS nb q hfu maxLen p h hp

/-- `uncovered_pd_path` with the default (ascending) orders: found ⇒ valid path; on triangle-free
    skeletons found ⇔ a path exists (corollary of the two theorems) -/
theorem uncovPdPath_found_iff_partial (G : MG) (hS : Simple G) (hW : WFG G) (hT : TriangleFree G)
    (q : Query) (hfu : q.first ≠ some q.u) (hg : uncovGuard G q = false) (hlen : G.nodes.length < 1000) :
    (∃ p, p ≠ [] ∧ uncovPdPath G (nbDefault G) q = .ok (p, true)) ↔ ∃ p, UncovPd G q p := by
  constructor
  · rintro ⟨p, hp, h⟩
    exact ⟨p, uncovPdPath_sound G hS _ q hfu 1000 p h hp⟩
  · intro hex
    obtain ⟨p, h, hv⟩ := uncovPdPath_complete_partial G hS hW hT _ (nbDefault_faithful hW) q hfu hg 1000 hlen hex
    refine ⟨p, ?_, h⟩
    intro e; subst e
    obtain ⟨_, _, _, h2, _⟩ := hv
    simp at h2

end C18
