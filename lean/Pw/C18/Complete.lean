import Pw.C18.Decider

/-! # C18: completeness side of the shared BFS skeleton

While nothing has been found, the search maintains: every explored node is an initial one, queued, or
*done* (popped and its `for` loop ran to the end); for every done node `x` every candidate in its
iteration list is explored or is classified `skip` from `x`.  When the loop ends with an empty queue
this closedness is what the completeness proofs of the two searches use.  In `InvC`, `init` are the
nodes explored from the start that are never processed, `initQ` is the initial queue, `D` the done nodes;
`pushP` says that every queued or done node is in the initial queue or was entered by a `push` from an
explored node.  `loop_no_limit`: the 1000-pop limit cannot be hit on graphs with fewer than 1000 nodes. -/
namespace C18

/-- what a run only adds to: explored nodes, their back-pointers, `found` -/
structure St.Le (s s' : St) : Prop where
  explored : ∀ x ∈ s.explored, x ∈ s'.explored
  lookup : ∀ x ∈ s.explored, s'.desc.lookup x = s.desc.lookup x
  found : s.found = true → s'.found = true

theorem St.Le.refl (s : St) : s.Le s := ⟨fun _ h => h, fun _ _ => rfl, id⟩

theorem St.Le.trans {s s' s'' : St} (h : s.Le s') (h' : s'.Le s'') : s.Le s'' :=
  ⟨fun x hx => h'.explored x (h.explored x hx),
   fun x hx => (h'.lookup x (h.explored x hx)).trans (h.lookup x hx), fun hf => h'.found (h.found hf)⟩

section
variable {cls : Option Nat → Nat → Nat → Cls} {iter : Nat → List Nat}

theorem inner_le (this : Nat) (prev : Option Nat) : ∀ (l : List Nat) (s : St),
    s.Le (inner cls this prev l s) := by
  intro l
  induction l with
  | nil => exact St.Le.refl
  | cons next rest ih =>
    intro s
    by_cases hex : next ∈ s.explored
    · rw [inner_cons_explored hex]; exact ih s
    · have hlk : ∀ x ∈ s.explored, List.lookup x ((next, this) :: s.desc) = s.desc.lookup x :=
        fun x hx => lookup_cons_ne fun e => hex (e ▸ hx)
      cases hc : cls prev this next with
      | skip => rw [inner_cons_skip hex hc]; exact ih s
      | fin => rw [inner_cons_fin hex hc]; exact ⟨fun x hx => List.mem_cons_of_mem _ hx, hlk, fun _ => rfl⟩
      | push =>
        rw [inner_cons_push hex hc]
        have hstep : s.Le { s with explored := next :: s.explored, desc := (next, this) :: s.desc,
                                   queue := s.queue ++ [next] } :=
          ⟨fun x hx => List.mem_cons_of_mem _ hx, hlk, id⟩
        exact hstep.trans (ih _)

theorem loop_le (cont : Bool) : ∀ (fuel : Nat) (s : St), s.Le (loop iter cls cont fuel s) := by
  intro fuel
  induction fuel with
  | zero => intro s; rw [loop_zero]; split <;> exact ⟨fun _ h => h, fun _ _ => rfl, id⟩
  | succ n ih =>
    intro s
    cases hq : s.queue with
    | nil => rw [loop_succ_nil hq]; exact St.Le.refl s
    | cons this q =>
      have h1 := inner_le (cls := cls) this (s.desc.lookup this) (iter this) { s with queue := q }
      -- `{ s with queue := q }` and `s` have the same `explored`, `desc`, `found`
      have h1 : s.Le _ := ⟨h1.explored, h1.lookup, h1.found⟩
      rw [loop_succ_cons hq]
      split
      · exact h1
      · exact h1.trans (ih _)

theorem inner_limit (this : Nat) (prev : Option Nat) : ∀ (l : List Nat) (s : St),
    (inner cls this prev l s).limit = s.limit := by
  intro l
  induction l with
  | nil => intro s; rfl
  | cons next rest ih =>
    intro s
    by_cases hex : next ∈ s.explored
    · rw [inner_cons_explored hex]; exact ih s
    · cases hc : cls prev this next with
      | skip => rw [inner_cons_skip hex hc]; exact ih s
      | fin => rw [inner_cons_fin hex hc]
      | push => rw [inner_cons_push hex hc]; exact ih _

end

section
variable (cls : Option Nat → Nat → Nat → Cls) (iter : Nat → List Nat) (init initQ : List Nat)

structure InvC (D : List Nat) (s : St) : Prop where
  prov : ∀ x ∈ s.explored, x ∈ init ∨ x ∈ s.queue ∨ x ∈ D
  closed : ∀ x ∈ D, ∀ next ∈ iter x, next ∈ s.explored ∨ cls (s.desc.lookup x) x next = .skip
  pushP : ∀ x, x ∈ s.queue ∨ x ∈ D →
    x ∈ initQ ∨ ∃ y ∈ s.explored, s.desc.lookup x = some y ∧ cls (s.desc.lookup y) y x = .push
  sub : ∀ x, x ∈ s.queue ∨ x ∈ D → x ∈ s.explored

/-- invariant while the `for` loop of `this` is running; `pre` = candidates already handled -/
structure InvCur (this : Nat) (pre : List Nat) (D : List Nat) (s : St) : Prop where
  prov : ∀ x ∈ s.explored, x ∈ init ∨ x ∈ s.queue ∨ x ∈ D ∨ x = this
  closed : ∀ x ∈ D, ∀ next ∈ iter x, next ∈ s.explored ∨ cls (s.desc.lookup x) x next = .skip
  pushP : ∀ x, x ∈ s.queue ∨ x ∈ D ∨ x = this →
    x ∈ initQ ∨ ∃ y ∈ s.explored, s.desc.lookup x = some y ∧ cls (s.desc.lookup y) y x = .push
  sub : ∀ x, x ∈ s.queue ∨ x ∈ D ∨ x = this → x ∈ s.explored
  cur : ∀ next ∈ pre, next ∈ s.explored ∨ cls (s.desc.lookup this) this next = .skip

variable {cls iter init initQ}

theorem inner_invC (this : Nat) : ∀ (rest pre : List Nat) (D : List Nat) (s : St),
    iter this = pre ++ rest → InvCur cls iter init initQ this pre D s →
      let s' := inner cls this (s.desc.lookup this) rest s
      s'.found = true ∨ InvC cls iter init initQ (this :: D) s' := by
  intro rest
  induction rest with
  | nil =>
    intro pre D s hit hi
    right
    simp only [inner]
    have hpre : iter this = pre := by simpa using hit
    refine ⟨?_, ?_, fun x hx => hi.pushP x ?_, fun x hx => hi.sub x ?_⟩
    · intro x hx
      rcases hi.prov x hx with h | h | h | h <;> simp [h]
    · intro x hx next hn
      rcases List.mem_cons.mp hx with rfl | hx
      · exact hi.cur next (hpre ▸ hn)
      · exact hi.closed x hx next hn
    · simpa [or_comm] using hx
    · simpa [or_comm] using hx
  | cons next rest ih =>
    intro pre D s hit hi
    have hit' : iter this = (pre ++ [next]) ++ rest := by simp [hit]
    simp only
    have hcur : next ∈ s.explored ∨ cls (s.desc.lookup this) this next = .skip →
        InvCur cls iter init initQ this (pre ++ [next]) D s := fun h =>
      ⟨hi.prov, hi.closed, hi.pushP, hi.sub, fun n hn => (List.mem_append.mp hn).elim (hi.cur n)
        fun hn => by obtain rfl := List.mem_singleton.mp hn; exact h⟩
    by_cases hex : next ∈ s.explored
    · rw [inner_cons_explored hex]
      exact ih (pre ++ [next]) D s hit' (hcur (Or.inl hex))
    · cases hc : cls (s.desc.lookup this) this next with
      | skip => rw [inner_cons_skip hex hc]; exact ih (pre ++ [next]) D s hit' (hcur (Or.inr hc))
      | fin => rw [inner_cons_fin hex hc]; left; rfl
      | push =>
        rw [inner_cons_push hex hc]
        have hthis : this ∈ s.explored := hi.sub this (Or.inr (Or.inr rfl))
        have hlk : ∀ x, x ∈ s.explored → List.lookup x ((next, this) :: s.desc) = s.desc.lookup x :=
          fun x hx => lookup_cons_ne (fun e => hex (e ▸ hx))
        -- the classification from an explored node is not affected by the new back-pointer
        have hcls : ∀ x ∈ s.explored, ∀ n r, cls (s.desc.lookup x) x n = r →
            cls (List.lookup x ((next, this) :: s.desc)) x n = r := fun x hx n r h => by rw [hlk x hx]; exact h
        let s' : St := { s with explored := next :: s.explored, desc := (next, this) :: s.desc,
                                queue := s.queue ++ [next] }
        have hi' : InvCur cls iter init initQ this (pre ++ [next]) D s' := by
          refine ⟨?_, ?_, ?_, ?_, ?_⟩
          · intro x hx
            rcases List.mem_cons.mp hx with rfl | hx
            · simp [s']
            · rcases hi.prov x hx with h | h | h | h <;> simp [s', h]
          · intro x hx n hn
            exact (hi.closed x hx n hn).imp (List.mem_cons_of_mem _) (hcls x (hi.sub x (.inr (.inl hx))) n _)
          · intro x hx
            by_cases hxn : x = next
            · subst hxn
              exact .inr ⟨this, List.mem_cons_of_mem _ hthis, List.lookup_cons_self, hcls this hthis x _ hc⟩
            · have hx' : x ∈ s.queue ∨ x ∈ D ∨ x = this := by simpa [s', hxn] using hx
              refine (hi.pushP x hx').imp_right fun ⟨y, hy, hxy, hcy⟩ => ?_
              exact ⟨y, List.mem_cons_of_mem _ hy, (hlk x (hi.sub x hx')).trans hxy, hcls y hy x _ hcy⟩
          · intro x hx
            by_cases hxn : x = next
            · simp [s', hxn]
            · refine List.mem_cons_of_mem _ (hi.sub x ?_)
              simpa [s', hxn] using hx
          · intro n hn
            rcases List.mem_append.mp hn with hn | hn
            · exact (hi.cur n hn).imp (List.mem_cons_of_mem _) (hcls this hthis n _)
            · obtain rfl := List.mem_singleton.mp hn; left; simp [s']
        have hres := ih (pre ++ [next]) D s' hit' hi'
        simp only [s'] at hres
        rw [hlk this hthis] at hres
        exact hres

theorem loop_invC (cont : Bool) : ∀ (fuel : Nat) (s : St) (D : List Nat),
    InvC cls iter init initQ D s →
      (loop iter cls cont fuel s).found = true ∨ ∃ D', InvC cls iter init initQ D' (loop iter cls cont fuel s) := by
  intro fuel
  induction fuel with
  | zero =>
    intro s D hi
    right
    rw [loop_zero]
    split
    · exact ⟨D, hi⟩
    · exact ⟨D, ⟨hi.prov, hi.closed, hi.pushP, hi.sub⟩⟩
  | succ n ih =>
    intro s D hi
    cases hq : s.queue with
    | nil => rw [loop_succ_nil hq]; exact Or.inr ⟨D, hi⟩
    | cons this q =>
      rw [loop_succ_cons hq]
      have hcur : InvCur cls iter init initQ this [] D { s with queue := q } := by
        refine ⟨?_, hi.closed, fun x hx => hi.pushP x ?_, fun x hx => hi.sub x ?_, by simp⟩
        · intro x hx
          rcases hi.prov x hx with h | h | h
          · exact Or.inl h
          · rw [hq] at h
            rcases List.mem_cons.mp h with rfl | h <;> simp [h]
          · simp [h]
        · rw [hq]; simpa [or_comm, or_left_comm, or_assoc] using hx
        · rw [hq]; simpa [or_comm, or_left_comm, or_assoc] using hx
      have h1 := inner_invC this (iter this) [] D { s with queue := q } (by simp) hcur
      simp only at h1
      split
      · rename_i hstop
        left
        simp only [Bool.and_eq_true] at hstop
        exact hstop.1
      · rcases h1 with h1 | h1
        · exact Or.inl ((loop_le cont n _).found h1)
        · exact ih _ _ h1

theorem loop_end (cont : Bool) : ∀ (fuel : Nat) (s : St),
    let s' := loop iter cls cont fuel s
    s'.limit = true ∨ s'.queue = [] ∨ (cont = false ∧ s'.found = true) := by
  intro fuel
  induction fuel with
  | zero =>
    intro s
    simp only
    rw [loop_zero]
    split
    · rename_i h; right; left; simpa using h
    · left; rfl
  | succ n ih =>
    intro s
    simp only
    cases hq : s.queue with
    | nil => rw [loop_succ_nil hq]; right; left; exact hq
    | cons this q =>
      rw [loop_succ_cons hq]
      split
      · rename_i hstop
        simp only [Bool.and_eq_true, Bool.not_eq_true'] at hstop
        exact Or.inr (Or.inr ⟨hstop.2, hstop.1⟩)
      · exact ih _

theorem InvC.done {D : List Nat} {s : St} (hi : InvC cls iter init initQ D s) (hq : s.queue = [])
    {x : Nat} (hx : x ∈ s.explored) (hni : x ∉ init) : x ∈ D := by
  rcases hi.prov x hx with h | h | h
  · exact absurd h hni
  · rw [hq] at h; cases h
  · exact h

theorem InvC.step {D : List Nat} {s : St} (hi : InvC cls iter init initQ D s) (hq : s.queue = [])
    {x next : Nat} (hx : x ∈ D) (hn : next ∈ iter x) (hc : cls (s.desc.lookup x) x next ≠ .skip)
    (hni : next ∉ init) : next ∈ D :=
  (hi.closed x hx next hn).elim (hi.done hq · hni) (absurd · hc)

end

section
variable (cls : Option Nat → Nat → Nat → Cls) (iter : Nat → List Nat) (U : List Nat)

/-- number of universe nodes not yet explored, plus the queue length -/
def meas (s : St) : Nat := U.countP (fun x => decide (x ∉ s.explored)) + s.queue.length

variable {cls U}

theorem inner_meas (this : Nat) (prev : Option Nat) : ∀ (l : List Nat) (s : St), (∀ x ∈ l, x ∈ U) →
    meas U (inner cls this prev l s) ≤ meas U s := by
  intro l
  induction l with
  | nil => intro s _; simp [inner]
  | cons next rest ih =>
    intro s hU
    have hU' : ∀ x ∈ rest, x ∈ U := fun x hx => hU x (List.mem_cons_of_mem _ hx)
    by_cases hex : next ∈ s.explored
    · rw [inner_cons_explored hex]; exact ih s hU'
    · have hlt : U.countP (fun x => decide (x ∉ next :: s.explored)) <
          U.countP (fun x => decide (x ∉ s.explored)) := by
        refine Closure.countP_lt' _ _ ?_ U next (hU next (by simp)) (by simpa using hex) (by simp)
        intro a; simp
      cases hc : cls prev this next with
      | skip => rw [inner_cons_skip hex hc]; exact ih s hU'
      | fin => rw [inner_cons_fin hex hc]; simp only [meas]; omega
      | push =>
        rw [inner_cons_push hex hc]
        refine Nat.le_trans (ih _ hU') ?_
        simp only [meas, List.length_append, List.length_cons, List.length_nil]
        omega

theorem loop_no_limit_aux (cont : Bool) (hiter : ∀ x y, y ∈ iter x → y ∈ U) : ∀ (fuel : Nat) (s : St),
    s.limit = false → meas U s < fuel → (loop iter cls cont fuel s).limit = false := by
  intro fuel
  induction fuel with
  | zero => intro s _ h; omega
  | succ n ih =>
    intro s hl hm
    cases hq : s.queue with
    | nil => rw [loop_succ_nil hq]; exact hl
    | cons this q =>
      rw [loop_succ_cons hq]
      have h0 : meas U { s with queue := q } + 1 = meas U s := by simp [meas, hq]; omega
      have h1 := inner_meas (cls := cls) (U := U) this (s.desc.lookup this) (iter this) { s with queue := q }
        (fun x hx => hiter this x hx)
      have hl1 : (inner cls this (s.desc.lookup this) (iter this) { s with queue := q }).limit = false := by
        rw [inner_limit]; exact hl
      split
      · exact hl1
      · exact ih _ hl1 (by omega)

theorem loop_no_limit (cont : Bool) (hiter : ∀ x y, y ∈ iter x → y ∈ U) {fuel : Nat} {s : St}
    (hl : s.limit = false) {x : Nat} (hxU : x ∈ U) (hxe : x ∈ s.explored) (hq : s.queue.length ≤ 1)
    (hlen : U.length < fuel) : (loop iter cls cont fuel s).limit = false := by
  refine loop_no_limit_aux iter cont hiter fuel s hl ?_
  have : U.countP (fun y => decide (y ∉ s.explored)) < U.countP (fun _ => true) :=
    Closure.countP_lt' _ _ (fun _ _ => rfl) U x hxU rfl (by simpa using hxe)
  rw [List.countP_true] at this
  simp only [meas]
  omega

/-- A search below the pop limit that starts with the single queued node `start`, everything else
    explored being in `init`: it does not hit the limit, and ends with `found` or closed with an empty queue. -/
theorem loop_found_or_closed {init : List Nat} {start : Nat} (cont : Bool)
    (hiter : ∀ x y, y ∈ iter x → y ∈ U) {fuel : Nat} (hlen : U.length < fuel) {s : St} (hq : s.queue = [start])
    (hl : s.limit = false) (hprov : ∀ x ∈ s.explored, x ∈ init ∨ x = start) (hse : start ∈ s.explored)
    (hsU : start ∈ U) :
    (loop iter cls cont fuel s).limit = false ∧ ((loop iter cls cont fuel s).found = true ∨
      ∃ D, InvC cls iter init [start] D (loop iter cls cont fuel s) ∧ (loop iter cls cont fuel s).queue = []) := by
  have hlim := loop_no_limit (cls := cls) iter cont hiter hl hsU hse (by simp [hq]) hlen
  have h0 : InvC cls iter init [start] [] s := by
    refine ⟨fun x hx => (hprov x hx).imp_right fun e => ?_, nofun, fun x hx => .inl ?_, fun x hx => ?_⟩
    · rw [hq, e]; exact .inl (List.mem_singleton_self _)
    · simpa [hq] using hx
    · simp [hq] at hx; rw [hx]; exact hse
  refine ⟨hlim, ?_⟩
  rcases loop_invC cont fuel s [] h0 with h | ⟨D, hD⟩
  · exact Or.inl h
  · rcases loop_end (cls := cls) (iter := iter) cont fuel s with h | h | h
    · rw [hlim] at h; cases h
    · exact Or.inr ⟨D, hD, h⟩
    · exact Or.inl h.2

end
end C18
