import Pw.C18.Model

/-! # C18: the `has_edge` tests of the code (`hD`, `hB`, `hU`, `hC`) against the marks of the
specification (`mark`, `pdEdge`, `headAt`, `parentOf`): on the domain `Simple` the two agree. -/
namespace C18

theorem hB_comm (G : MG) (a b : Nat) : hB G a b = hB G b a := Bool.or_comm _ _
theorem hU_comm (G : MG) (a b : Nat) : hU G a b = hU G b a := Bool.or_comm _ _

theorem adj_iff {G : MG} {a b : Nat} : adj G a b = true ↔ hD G a b = true ∨ hD G b a = true ∨
    hB G a b = true ∨ hU G a b = true ∨ hC G a b = true ∨ hC G b a = true := by
  simp only [adj, Bool.or_eq_true, or_assoc]

theorem adj_comm (G : MG) (a b : Nat) : adj G a b = adj G b a := by
  simp only [adj, hB_comm G b a, hU_comm G b a, Bool.or_assoc, Bool.or_comm, Bool.or_left_comm]

def both (p : Bool → Bool) : Bool := p false && p true

theorem both_spec {p : Bool → Bool} (h : both p = true) : ∀ b, p b = true := by
  simpa [both, and_comm] using h

/-- Truth table in six Booleans.  (`decide` on the `∀` statement itself fails at instance synthesis:
    the size of the nested instances doubles with every `∀ b : Bool` and every hypothesis.) -/
theorem forall6 {p : Bool → Bool → Bool → Bool → Bool → Bool → Prop}
    [∀ a b c d e f, Decidable (p a b c d e f)]
    (h : (both fun a => both fun b => both fun c => both fun d => both fun e => both fun f =>
      decide (p a b c d e f)) = true) : ∀ a b c d e f, p a b c d e f :=
  fun a b c d e f => of_decide_eq_true
    (both_spec (both_spec (both_spec (both_spec (both_spec (both_spec h a) b) c) d) e) f)

/-- `Simple` at one pair, as a `Bool` -/
def simpleAt (G : MG) (a b : Nat) : Bool :=
  (!hB G a b || (!hD G a b && !hD G b a && !hU G a b && !hC G a b && !hC G b a)) &&
  (!hU G a b || (!hD G a b && !hD G b a && !hC G a b && !hC G b a)) &&
  (!hD G a b || (!hD G b a && !hC G a b)) && !adj G a a

theorem simple_iff {G : MG} : Simple G ↔ ∀ a b, simpleAt G a b = true := by
  simp only [Simple, simpleAt, Bool.and_eq_true, Bool.or_eq_true, Bool.not_eq_true', Decidable.imp_iff_not_or,
    Bool.not_eq_true, and_assoc]

theorem Simple.irrefl {G : MG} (hS : Simple G) (a : Nat) : adj G a a = false := (hS a a).2.2.2

theorem Simple.of_hB {G : MG} (hS : Simple G) {a b : Nat} (h : hB G a b = true) :
    hD G a b = false ∧ hD G b a = false ∧ hU G a b = false ∧ hC G a b = false ∧ hC G b a = false :=
  (hS a b).1 h

theorem Simple.of_hU {G : MG} (hS : Simple G) {a b : Nat} (h : hU G a b = true) :
    hD G a b = false ∧ hD G b a = false ∧ hC G a b = false ∧ hC G b a = false :=
  (hS a b).2.1 h

theorem Simple.of_hD {G : MG} (hS : Simple G) {a b : Nat} (h : hD G a b = true) :
    hD G b a = false ∧ hC G a b = false :=
  (hS a b).2.2.1 h

/-- the clauses of `Simple` for the pair `x, y` read in both directions, as one Boolean equation in the six
    tests `x -> y`, `y -> x`, `x <-> y`, `x -- y`, circle at `y`, circle at `x` (for the truth tables below) -/
theorem Simple.pair {G : MG} (hS : Simple G) (x y : Nat) :
    ((!hB G x y || (!hD G x y && !hD G y x && !hU G x y && !hC G x y && !hC G y x)) &&
     (!hU G x y || (!hD G x y && !hD G y x && !hC G x y && !hC G y x)) &&
     (!hD G x y || (!hD G y x && !hC G x y)) && (!hD G y x || (!hD G x y && !hC G y x))) = true := by
  have h1 := simple_iff.mp hS x y
  have h2 := simple_iff.mp hS y x
  simp only [simpleAt, hS.irrefl, Bool.not_false, Bool.and_true, Bool.and_eq_true] at h1 h2 ⊢
  exact ⟨h1, h2.2⟩

theorem pdCode_eq_pdEdge {G : MG} (hS : Simple G) (fc : Bool) (x y : Nat) :
    pdCode G fc x y = pdEdge G fc x y := by
  have h := hS.pair x y
  unfold pdCode pdEdge mark adj
  rw [hB_comm G y x, hU_comm G y x]
  generalize hD G x y = d, hD G y x = d', hB G x y = b, hU G x y = u, hC G x y = c, hC G y x = c' at h ⊢
  revert d d' b u c c'
  cases fc <;> exact forall6 (by decide +kernel)

theorem pdCode_adj {G : MG} {fc : Bool} {x y : Nat} (h : pdCode G fc x y = true) : adj G x y = true := by
  have : hC G x y = true ∨ hD G x y = true := by
    cases fc <;> simp only [pdCode, Bool.false_eq_true, if_false, if_true, Bool.or_eq_true, Bool.and_eq_true] at h
    · exact h.imp_left And.left
    · exact Or.inl h.1
  exact adj_iff.mpr (this.elim (fun h => .inr (.inr (.inr (.inr (.inl h))))) .inl)

theorem pdCode_irrefl {G : MG} (hS : Simple G) {fc : Bool} {x : Nat} : pdCode G fc x x = false := by
  have := hS.irrefl x
  cases hp : pdCode G fc x x with
  | false => rfl
  | true => rw [pdCode_adj hp] at this; cases this

theorem mark_eq_head_iff {G : MG} {x y : Nat} :
    mark G x y = some .head ↔ (hD G x y || hB G x y) = true := by
  unfold mark
  generalize (hD G x y || hB G x y) = h, hC G x y = c, (hD G y x || hU G x y || hC G y x) = t
  cases h <;> cases c <;> cases t <;> decide

theorem mark_eq_circle_iff {G : MG} {x y : Nat} :
    mark G x y = some .circle ↔ (hD G x y || hB G x y) = false ∧ hC G x y = true := by
  unfold mark
  generalize (hD G x y || hB G x y) = h, hC G x y = c, (hD G y x || hU G x y || hC G y x) = t
  cases h <;> cases c <;> cases t <;> decide

theorem pdEdge_adj {G : MG} {fc : Bool} {x y : Nat} (h : pdEdge G fc x y = true) : adj G x y = true := by
  cases fc <;> simp only [pdEdge, Bool.false_eq_true, if_false, if_true, Bool.and_eq_true, beq_iff_eq] at h
  · exact h.1.1
  · exact adj_iff.mpr (.inr (.inr (.inr (.inr (.inl (mark_eq_circle_iff.mp h.2).2)))))

theorem headAt_eq (G : MG) (x y : Nat) : headAt G x y = (hD G x y || hB G x y) :=
  Bool.eq_iff_iff.mpr (beq_iff_eq.trans mark_eq_head_iff)

theorem headAt_adj {G : MG} {x y : Nat} (h : headAt G x y = true) : adj G x y = true := by
  rw [headAt_eq, Bool.or_eq_true] at h
  exact adj_iff.mpr (h.elim .inl fun h => .inr (.inr (.inl h)))

theorem Simple.ne_of_adj {G : MG} (hS : Simple G) {a b : Nat} (h : adj G a b = true) : a ≠ b := by
  intro e; subst e; rw [hS.irrefl a] at h; cases h

theorem hB_of_heads {G : MG} (hS : Simple G) {y z : Nat} (h1 : headAt G z y = true)
    (h2 : headAt G y z = true) : hB G z y = true := by
  rw [headAt_eq, Bool.or_eq_true] at h1 h2
  rcases h1 with h1 | h1
  · rcases h2 with h2 | h2
    · rw [(hS.of_hD h1).1] at h2; cases h2
    · exact hB_comm G z y ▸ h2
  · exact h1

theorem parentOf_eq_isParent {G : MG} (hS : Simple G) (y c : Nat) : parentOf G y c = isParent G c y := by
  have h := hS.pair y c
  unfold parentOf mark isParent possParent
  rw [hB_comm G c y, hU_comm G c y]
  generalize hD G y c = d, hD G c y = d', hB G y c = b, hU G y c = u, hC G y c = c1, hC G c y = c2 at h ⊢
  revert d d' b u c1 c2
  exact forall6 (by decide +kernel)

theorem possParent_of_hD {G : MG} (hS : Simple G) {w v : Nat} (h : hD G v w = true) :
    possParent G w v = true := by
  have hb : hB G v w = false := by
    cases hb : hB G v w with
    | false => rfl
    | true => rw [(hS.of_hB hb).1] at h; cases h
  have hu : hU G v w = false := by
    cases hu : hU G v w with
    | false => rfl
    | true => rw [(hS.of_hU hu).1] at h; cases h
  simp [possParent, (hS.of_hD h).1, hb, hu]

theorem isParent_adj {G : MG} {c w : Nat} (h : isParent G c w = true) : adj G w c = true := by
  simp only [isParent, Bool.and_eq_true] at h
  exact adj_iff.mpr (Or.inl h.2)

end C18
