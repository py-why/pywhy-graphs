import Pw.C18.Model

/-! # C18: the shared BFS skeleton: its equations and the invariant of the soundness direction

`Tr desc stop x l`: following the back-pointers from `x` reaches `stop`, and `l` is the visited node
list in forward order (`stop … x`).  The loop invariant says that every queued node has such a trace
which satisfies a predicate `P` of "valid partial paths", and that the recorded end node (if any) has
a trace satisfying `Pfin`.  `P`/`Pfin` only need to be closed under the extensions the classification
function admits (`hpush`, `hfin`).  No ordering argument is needed: traces consist of explored nodes
and a newly entered node is not explored, so traces stay duplicate free and are not disturbed by new
back-pointers. -/
namespace C18

theorem lookup_cons_ne {desc : List (Nat × Nat)} {x k v : Nat} (h : x ≠ k) :
    List.lookup x ((k, v) :: desc) = List.lookup x desc := by
  rw [List.lookup_cons, beq_false_of_ne h]

section
variable {iter : Nat → List Nat} {cls : Option Nat → Nat → Nat → Cls} {cont : Bool} {this next : Nat}
  {prev : Option Nat} {rest q : List Nat} {fuel : Nat} {s : St}

theorem inner_cons_explored (h : next ∈ s.explored) :
    inner cls this prev (next :: rest) s = inner cls this prev rest s := by
  rw [inner, if_pos h]

theorem inner_cons_skip (h : next ∉ s.explored) (hc : cls prev this next = .skip) :
    inner cls this prev (next :: rest) s = inner cls this prev rest s := by
  rw [inner, if_neg h, hc]

theorem inner_cons_fin (h : next ∉ s.explored) (hc : cls prev this next = .fin) :
    inner cls this prev (next :: rest) s =
      { s with explored := next :: s.explored, desc := (next, this) :: s.desc, found := true,
               last := some next } := by
  rw [inner, if_neg h, hc]

theorem inner_cons_push (h : next ∉ s.explored) (hc : cls prev this next = .push) :
    inner cls this prev (next :: rest) s =
      inner cls this prev rest
        { s with explored := next :: s.explored, desc := (next, this) :: s.desc,
                 queue := s.queue ++ [next] } := by
  rw [inner, if_neg h, hc]

theorem inner_all_skip (h : ∀ next ∈ rest, next ∈ s.explored ∨ cls prev this next = .skip) :
    inner cls this prev rest s = s := by
  induction rest with
  | nil => rfl
  | cons next rest ih =>
    have hr : inner cls this prev rest s = s := ih fun n hn => h n (List.mem_cons_of_mem _ hn)
    rcases h next (List.mem_cons_self ..) with h1 | h1
    · rw [inner_cons_explored h1, hr]
    · by_cases hex : next ∈ s.explored
      · rw [inner_cons_explored hex, hr]
      · rw [inner_cons_skip hex h1, hr]

theorem loop_zero : loop iter cls cont 0 s = if s.queue.isEmpty then s else { s with limit := true } := rfl

theorem loop_succ_nil (hq : s.queue = []) : loop iter cls cont (fuel + 1) s = s := by
  rw [loop, hq]

theorem loop_succ_cons (hq : s.queue = this :: q) :
    loop iter cls cont (fuel + 1) s =
      if (inner cls this (s.desc.lookup this) (iter this) { s with queue := q }).found && !cont
      then inner cls this (s.desc.lookup this) (iter this) { s with queue := q }
      else loop iter cls cont fuel (inner cls this (s.desc.lookup this) (iter this) { s with queue := q }) := by
  rw [loop, hq]

end

def penult (l : List Nat) : Option Nat := l.dropLast.getLast?

inductive Tr (desc : List (Nat × Nat)) (stop : Nat) : Nat → List Nat → Prop
  | base : Tr desc stop stop [stop]
  | step {x y : Nat} {l : List Nat} : x ≠ stop → desc.lookup x = some y → Tr desc stop y l →
      Tr desc stop x (l ++ [x])

theorem Tr.last {desc stop x l} (h : Tr desc stop x l) : l.getLast? = some x := by
  cases h <;> simp

theorem Tr.ne_nil {desc stop x l} (h : Tr desc stop x l) : l ≠ [] := by
  cases h <;> simp

theorem Tr.head {desc stop x l} (h : Tr desc stop x l) : l.head? = some stop := by
  induction h with
  | base => rfl
  | @step x y l _ _ ht ih =>
    cases l with
    | nil => exact absurd rfl ht.ne_nil
    | cons a t => simpa using ih

theorem Tr.stop_mem {desc stop x l} (h : Tr desc stop x l) : stop ∈ l := by
  have := h.head
  cases l with
  | nil => cases this
  | cons a t => simp at this; simp [this]

theorem Tr.self_mem {desc stop x l} (h : Tr desc stop x l) : x ∈ l := by
  cases h <;> simp

theorem Tr.cons_fresh {desc stop x l} (h : Tr desc stop x l) (k v : Nat) (hk : k ∉ l) :
    Tr ((k, v) :: desc) stop x l := by
  induction h with
  | base => exact Tr.base
  | @step x y l hne hl _ ih =>
    have hxk : x ≠ k := by intro e; apply hk; simp [e]
    have hkl : k ∉ l := by intro e; apply hk; simp [e]
    exact Tr.step hne (by rw [lookup_cons_ne hxk]; exact hl) (ih hkl)

theorem penult_append_singleton (l : List Nat) (x : Nat) : penult (l ++ [x]) = l.getLast? := by
  simp [penult]

theorem Tr.penult_eq_lookup {desc stop x l} (h : Tr desc stop x l) (hs : desc.lookup stop = none) :
    penult l = desc.lookup x := by
  cases h with
  | base => simp [penult, hs]
  | step _ hl ht => rw [penult_append_singleton, ht.last, hl]

theorem recon_of_Tr {desc stop x l} (h : Tr desc stop x l) :
    ∀ (fuel : Nat) (acc : List Nat), l.length ≤ fuel → recon desc stop fuel (x :: acc) = some (l ++ acc) := by
  induction h with
  | base =>
    intro fuel acc hf
    cases fuel with
    | zero => simp at hf
    | succ n => simp [recon]
  | @step x y l hne hl _ ih =>
    intro fuel acc hf
    cases fuel with
    | zero => simp at hf
    | succ n =>
      have : (x == stop) = false := by simp [hne]
      simp only [recon, this, hl]
      rw [ih n (x :: acc) (by simp at hf; omega)]
      simp

section
variable (cls : Option Nat → Nat → Nat → Cls) (stop : Nat) (P Pfin : List Nat → Prop)

/-- `x` has a trace back to `stop` that satisfies `Q` and runs through explored nodes only; the bound
    on the length is what the fuel `explored.length + 1` of `recon` needs -/
def Traced (Q : List Nat → Prop) (s : St) (x : Nat) : Prop :=
  ∃ l, Tr s.desc stop x l ∧ Q l ∧ (∀ z ∈ l, z ∈ s.explored) ∧ l.length ≤ s.explored.length

structure Inv (s : St) : Prop where
  queue : ∀ x ∈ s.queue, Traced stop P s x
  fin : s.found = true → ∃ e, s.last = some e ∧ Traced stop Pfin s e
  stopNone : s.desc.lookup stop = none
  stopMem : stop ∈ s.explored

variable {cls stop P Pfin}

theorem Traced.add {Q : List Nat → Prop} {s : St} {x : Nat} (h : Traced stop Q s x) (next this : Nat)
    (hn : next ∉ s.explored) (q : List Nat) (f : Bool) (la : Option Nat) :
    Traced stop Q { s with explored := next :: s.explored, desc := (next, this) :: s.desc, queue := q,
                           found := f, last := la } x := by
  obtain ⟨l, ht, hq, hsub, hlen⟩ := h
  refine ⟨l, ht.cons_fresh next this (fun e => hn (hsub _ e)), hq, ?_, ?_⟩
  · intro z hz; exact List.mem_cons_of_mem _ (hsub z hz)
  · simp; omega

theorem Traced.extend {s : St} {this : Nat} {lt : List Nat} (ht : Tr s.desc stop this lt)
    (hsub : ∀ z ∈ lt, z ∈ s.explored) (hlen : lt.length ≤ s.explored.length)
    (next : Nat) (hn : next ∉ s.explored) {Q : List Nat → Prop} (hQ : Q (lt ++ [next]))
    (q : List Nat) (f : Bool) (la : Option Nat) :
    Traced stop Q { s with explored := next :: s.explored, desc := (next, this) :: s.desc, queue := q,
                           found := f, last := la } next := by
  have hnl : next ∉ lt := fun e => hn (hsub _ e)
  have hns : next ≠ stop := fun e => hnl (e ▸ ht.stop_mem)
  refine ⟨lt ++ [next], Tr.step hns List.lookup_cons_self (ht.cons_fresh next this hnl), hQ, ?_, ?_⟩
  · intro z hz
    rcases List.mem_append.mp hz with hz | hz
    · exact List.mem_cons_of_mem _ (hsub z hz)
    · simp at hz; simp [hz]
  · simp; omega

variable
  (hpush : ∀ l this next, P l → l.getLast? = some this → next ∉ l →
      cls (penult l) this next = .push → P (l ++ [next]))
  (hfin : ∀ l this next, P l → l.getLast? = some this → next ∉ l →
      cls (penult l) this next = .fin → Pfin (l ++ [next]))

include hpush hfin in
theorem inner_inv (this : Nat) (lt : List Nat) (hP : P lt) (iter : List Nat) :
    ∀ s : St, Inv stop P Pfin s → Tr s.desc stop this lt → (∀ z ∈ lt, z ∈ s.explored) →
      lt.length ≤ s.explored.length →
      Inv stop P Pfin (inner cls this (s.desc.lookup this) iter s) := by
  induction iter with
  | nil => intro s hi _ _ _; simpa [inner] using hi
  | cons next rest ih =>
    intro s hi ht hsub hlen
    have hprev : s.desc.lookup this = penult lt := (ht.penult_eq_lookup hi.stopNone).symm
    by_cases hex : next ∈ s.explored
    · rw [inner_cons_explored hex]; exact ih s hi ht hsub hlen
    · have hnl : next ∉ lt := fun e => hex (hsub _ e)
      cases hc : cls (s.desc.lookup this) this next with
      | skip => rw [inner_cons_skip hex hc]; exact ih s hi ht hsub hlen
      | fin =>
        rw [inner_cons_fin hex hc]
        have hQ : Pfin (lt ++ [next]) := hfin lt this next hP ht.last hnl (hprev ▸ hc)
        refine ⟨?_, ?_, ?_, ?_⟩
        · intro x hx; exact (hi.queue x hx).add next this hex _ _ _
        · intro _; exact ⟨next, rfl, Traced.extend ht hsub hlen next hex hQ _ _ _⟩
        · exact (lookup_cons_ne fun e : stop = next => hex (e ▸ hi.stopMem)).trans hi.stopNone
        · exact List.mem_cons_of_mem _ hi.stopMem
      | push =>
        rw [inner_cons_push hex hc]
        have hQ : P (lt ++ [next]) := hpush lt this next hP ht.last hnl (hprev ▸ hc)
        have hlk : List.lookup this ((next, this) :: s.desc) = s.desc.lookup this :=
          lookup_cons_ne fun e => hnl (e ▸ ht.self_mem)
        let s' : St := { s with explored := next :: s.explored, desc := (next, this) :: s.desc,
                                queue := s.queue ++ [next] }
        have hi' : Inv stop P Pfin s' := by
          refine ⟨?_, ?_, ?_, ?_⟩
          · intro x hx
            rcases List.mem_append.mp hx with hx | hx
            · exact (hi.queue x hx).add next this hex _ _ _
            · obtain rfl := List.mem_singleton.mp hx
              exact Traced.extend ht hsub hlen x hex hQ _ _ _
          · intro hf
            obtain ⟨e, he, htr⟩ := hi.fin hf
            exact ⟨e, he, htr.add next this hex _ _ _⟩
          · exact (lookup_cons_ne fun e : stop = next => hex (e ▸ hi.stopMem)).trans hi.stopNone
          · exact List.mem_cons_of_mem _ hi.stopMem
        have hres := ih s' hi' (ht.cons_fresh next this hnl)
          (fun z hz => List.mem_cons_of_mem _ (hsub z hz)) (by simp [s']; omega)
        simp only [s'] at hres
        rw [hlk] at hres
        exact hres

include hpush hfin in
theorem loop_inv (iter : Nat → List Nat) (cont : Bool) :
    ∀ (fuel : Nat) (s : St), Inv stop P Pfin s → Inv stop P Pfin (loop iter cls cont fuel s) := by
  intro fuel
  induction fuel with
  | zero =>
    intro s hi
    rw [loop_zero]
    split
    · exact hi
    · exact ⟨hi.queue, hi.fin, hi.stopNone, hi.stopMem⟩
  | succ n ih =>
    intro s hi
    cases hq : s.queue with
    | nil => rw [loop_succ_nil hq]; exact hi
    | cons this q =>
      rw [loop_succ_cons hq]
      obtain ⟨lt, ht, hP, hsub, hlen⟩ := hi.queue this (by simp [hq])
      have hi0 : Inv stop P Pfin { s with queue := q } :=
        ⟨fun x hx => hi.queue x (by simp [hq, hx]), hi.fin, hi.stopNone, hi.stopMem⟩
      have h1 := inner_inv hpush hfin this lt hP (iter this) { s with queue := q } hi0 ht hsub hlen
      split
      · exact h1
      · exact ih _ h1

theorem Inv.recon {s : St} (hi : Inv stop P Pfin s) (hf : s.found = true) :
    ∃ e l, s.last = some e ∧ Pfin l ∧ l ≠ [] ∧ l.getLast? = some e ∧
      recon s.desc stop (s.explored.length + 1) [e] = some l := by
  obtain ⟨e, he, l, htr, hQ, _, hlen⟩ := hi.fin hf
  exact ⟨e, l, he, hQ, htr.ne_nil, htr.last, by simpa using recon_of_Tr htr _ [] (by omega)⟩

end

end C18
