import Pw.C18.UncovSound

/-! # C18: soundness of `discriminating_path` — whenever `found` is True the returned list
`(v, …, a, u, c)` satisfies `DiscPathWeak` (every clause of the property, with the parent test for
the node `a` weakened to "arrowhead at c": the known finding), hence `DiscPath` whenever the edge
between `a` and `c` carries no circle at `a`. -/
namespace C18

/-- the reversed BFS trace `[w_k, …, w_1, a, u, c]`: consecutive `w`s joined by bidirected edges, all
    parents of `c` -/
inductive DChain (G : MG) (u a c : Nat) : List Nat → Prop
  | base : DChain G u a c [a, u, c]
  | cons {x y : Nat} {t : List Nat} : DChain G u a c (y :: t) → hB G y x = true →
      isParent G c x = true → DChain G u a c (x :: y :: t)

theorem DChain.form {G : MG} {u a c : Nat} {r : List Nat} (h : DChain G u a c r) :
    ∃ ws, r = ws ++ [a, u, c] := by
  induction h with
  | base => exact ⟨[], rfl⟩
  | @cons x y t _ _ _ ih =>
    obtain ⟨ws, hws⟩ := ih
    exact ⟨x :: ws, by rw [hws]; rfl⟩

/-- the weakened parent test of the code -/
def parWeak (G : MG) (a c : Nat) (y : Nat) : Bool := parentOf G y c || (y == a && hD G y c)

theorem parWeak_iff {G : MG} {a c y : Nat} :
    parWeak G a c y = true ↔ parentOf G y c = true ∨ (y = a ∧ hD G y c = true) := by
  simp only [parWeak, Bool.or_eq_true, Bool.and_eq_true, beq_iff_eq]

theorem discPathWeak_iff {G : MG} {u a c : Nat} {p : List Nat} :
    DiscPathWeak G u a c p ↔ DiscPathP G (parWeak G a c) u a c p := Iff.rfl

theorem DChain.inner {G : MG} (hS : Simple G) {u a c : Nat} (hua : headAt G u a = true) (hac : hD G a c = true)
    {r : List Nat} (h : DChain G u a c r) :
    ∀ x, (∀ y, r.head? = some y → headAt G x y = true) → innerColl G (parWeak G a c) (x :: r.dropLast) = true := by
  induction h with
  | base =>
    intro x hx
    have hxa := hx a rfl
    show innerColl G (parWeak G a c) [x, a, u] = true
    simp [innerColl, hxa, hua, parWeak, hac]
  | @cons x' y t hd hb hp ih =>
    intro x hx
    have hx' := hx x' rfl
    cases t with
    | nil => rfl
    | cons z t' =>
      have e1 : (x' :: y :: z :: t').dropLast = x' :: y :: (z :: t').dropLast := by simp [List.dropLast]
      have e2 : (y :: z :: t').dropLast = y :: (z :: t').dropLast := by simp [List.dropLast]
      rw [e1, innerColl]
      have hyx : headAt G y x' = true := by rw [headAt_eq, hb]; simp
      have hxy : headAt G x' y = true := by rw [headAt_eq, hB_comm, hb]; simp
      have := ih x' (by intro y' hy'; simp at hy'; subst hy'; exact hxy)
      rw [e2] at this
      simp [hx', hyx, parWeak, parentOf_eq_isParent hS, hp, this]

theorem DChain.chain {G : MG} {u a c : Nat} (hau : adj G a u = true) (huc : adj G u c = true)
    {r : List Nat} (h : DChain G u a c r) :
    ∀ x, (∀ y, r.head? = some y → adj G x y = true) → chainB (adj G) (x :: r) = true := by
  induction h with
  | base =>
    intro x hx
    simp [chainB, hx a rfl, hau, huc]
  | @cons x' y t _ hb _ ih =>
    intro x hx
    have hadj : adj G x' y = true := adj_iff.mpr (.inr (.inr (.inl (hB_comm G y x' ▸ hb))))
    have := ih x' (by intro y' hy'; simp at hy'; subst hy'; exact hadj)
    rw [chainB, hx x' rfl, this]; rfl

/-- valid partial traces `[c, u, a, w_1, …, w_k]` of the search -/
def DPre (G : MG) (u a c : Nat) (l : List Nat) : Prop := DChain G u a c l.reverse ∧ l.Nodup

/-- complete traces `[c, u, a, w_1, …, w_k, v]` -/
def DFin (G : MG) (u a c : Nat) (l : List Nat) : Prop :=
  ∃ v t, l.reverse = v :: t ∧ DChain G u a c t ∧ l.Nodup ∧ adj G v c = false ∧
    (∀ y, t.head? = some y → headAt G v y = true)

/-- The outcome of the tests on a candidate, read off the table of the five Boolean tests (a parent
    of `c` is adjacent to `c`, so a candidate that can be pushed is not an end of the path). -/
theorem discCls_spec {G : MG} {c : Nat} {prev : Option Nat} {this next : Nat} :
    (discCls G c prev this next = .fin ↔ headAt G next this = true ∧ adj G next c = false ∧ next ≠ c) ∧
    (discCls G c prev this next = .push ↔ hB G this next = true ∧ isParent G c next = true) := by
  have h := @isParent_adj G c next
  have h4 : next ≠ c ↔ (next != c) = true := by simp
  rw [headAt_eq, hB_comm G next this, h4]
  unfold discCls
  -- `bif` carries no `Decidable` instance, so the tests can be replaced by variables
  simp only [← Bool.cond_eq_ite]
  generalize hD G next this = b1, hB G this next = b2, adj G next c = b3, (next != c) = b4,
    isParent G c next = b5 at h ⊢
  revert b1 b2 b3 b4 b5
  decide

theorem disc_hpush (G : MG) (u a c : Nat) :
    ∀ l this next, DPre G u a c l → l.getLast? = some this → next ∉ l →
      discCls G c (penult l) this next = .push → DPre G u a c (l ++ [next]) := by
  intro l this next ⟨hd, hn⟩ hlast hnl hc
  obtain ⟨hb, hpar⟩ := discCls_spec.2.mp hc
  have hrev : l.reverse.head? = some this := by rw [List.head?_reverse]; exact hlast
  refine ⟨?_, ?_⟩
  · rw [List.reverse_append]
    cases hr : l.reverse with
    | nil => rw [hr] at hrev; cases hrev
    | cons y t =>
      rw [hr] at hrev hd; simp at hrev; subst hrev
      exact DChain.cons hd hb hpar
  · exact nodup_append_singleton hn hnl

theorem disc_hfin (G : MG) (u a c : Nat) :
    ∀ l this next, DPre G u a c l → l.getLast? = some this → next ∉ l →
      discCls G c (penult l) this next = .fin → DFin G u a c (l ++ [next]) := by
  intro l this next ⟨hd, hn⟩ hlast hnl hc
  obtain ⟨hh, hnadj, _⟩ := discCls_spec.1.mp hc
  have hrev : l.reverse.head? = some this := by rw [List.head?_reverse]; exact hlast
  refine ⟨next, l.reverse, by simp, hd, ?_, hnadj, ?_⟩
  · exact nodup_append_singleton hn hnl
  · intro y hy; rw [hrev] at hy; injection hy with hy; subst hy
    exact hh

theorem innerColl_mono (G : MG) {p1 p2 : Nat → Bool} (h : ∀ y, p1 y = true → p2 y = true) :
    ∀ l, innerColl G p1 l = true → innerColl G p2 l = true
  | [] => fun _ => rfl
  | [_] => fun _ => rfl
  | [_, _] => fun _ => rfl
  | x :: y :: z :: t => by
    intro hl
    simp only [innerColl, Bool.and_eq_true] at hl ⊢
    exact ⟨⟨⟨hl.1.1.1, hl.1.1.2⟩, h y hl.1.2⟩, innerColl_mono G h (y :: z :: t) hl.2⟩

theorem discEntry_iff {G : MG} {u a c : Nat} : discEntry G u a c = true ↔
    adj G u c = true ∧ hD G a c = true ∧ headAt G u a = true := by
  rw [headAt_eq, hB_comm G u a, Bool.or_comm]
  simp only [discEntry, Bool.and_eq_true, and_assoc]

/-- the shape of a list that satisfies `DiscPathP`, and what the other clauses say on that shape -/
theorem discPathP_iff_form {G : MG} {par : Nat → Bool} {u a c : Nat} {p : List Nat} :
    DiscPathP G par u a c p ↔ ∃ v ws, p = v :: ws ++ [a] ++ [u] ++ [c] ∧ p.Nodup ∧ chainB (adj G) p = true ∧
      innerColl G par (v :: ws ++ [a] ++ [u]) = true ∧ adj G v c = false := by
  constructor
  · rintro ⟨h4, hnd, hlast, hlast2, hlast3, hch, hin, hvc⟩
    obtain ⟨p1, rfl⟩ := List.getLast?_eq_some_iff.mp hlast
    rw [List.dropLast_concat] at hlast2 hlast3 hin
    obtain ⟨p2, rfl⟩ := List.getLast?_eq_some_iff.mp hlast2
    rw [List.dropLast_concat] at hlast3
    obtain ⟨p3, rfl⟩ := List.getLast?_eq_some_iff.mp hlast3
    cases p3 with
    | nil => simp at h4
    | cons v ws => exact ⟨v, ws, rfl, hnd, hch, hin, hvc v rfl⟩
  · rintro ⟨v, ws, rfl, hnd, hch, hin, hvc⟩
    refine ⟨by simp, hnd, List.getLast?_concat, ?_, ?_, hch, ?_, ?_⟩
    · rw [List.dropLast_concat]; exact List.getLast?_concat
    · rw [List.dropLast_concat, List.dropLast_concat]; exact List.getLast?_concat
    · rw [List.dropLast_concat]; exact hin
    · intro v' hv'
      obtain rfl : v = v' := Option.some.inj hv'
      exact hvc

theorem DFin.discPathWeak {G : MG} {u a c : Nat} (hS : Simple G) (he : discEntry G u a c = true)
    {l : List Nat} (h : DFin G u a c l) : DiscPathWeak G u a c l.reverse := by
  obtain ⟨v, t, hl, hd, hn, hvc, hvhead⟩ := h
  obtain ⟨huc, hac, hua⟩ := discEntry_iff.mp he
  obtain ⟨ws, hws⟩ := hd.form
  have hinner := hd.inner hS hua hac v hvhead
  have hchain := hd.chain (adj_comm G u a ▸ headAt_adj hua) huc v fun y hy => headAt_adj (hvhead y hy)
  rw [hl, discPathWeak_iff]
  have hnr : (v :: t).Nodup := by rw [← hl]; exact (List.reverse_perm l).nodup_iff.mpr hn
  subst hws
  have hform : ws ++ [a, u, c] = ws ++ [a] ++ [u] ++ [c] := by simp
  rw [hform, List.dropLast_concat] at hinner
  exact discPathP_iff_form.mpr ⟨v, ws, congrArg (v :: ·) hform, hnr, hchain, hinner, hvc⟩

theorem discInit_inv {G : MG} (hS : Simple G) {u a c : Nat} (he : discEntry G u a c = true) :
    Inv c (DPre G u a c) (DFin G u a c) (discInit u a c) := by
  obtain ⟨huc, hac, hua⟩ := discEntry_iff.mp he
  have huc' : u ≠ c := hS.ne_of_adj huc
  have hac' : a ≠ c := hS.ne_of_adj (adj_iff.mpr (.inl hac))
  have hau' : a ≠ u := (hS.ne_of_adj (headAt_adj hua)).symm
  unfold discInit
  refine ⟨?_, by simp, ?_, by simp⟩
  · intro x hx
    obtain rfl := List.mem_singleton.mp hx
    have hlu : List.lookup u [(x, u), (u, c)] = some c :=
      (lookup_cons_ne hau'.symm).trans List.lookup_cons_self
    have t1 : Tr [(x, u), (u, c)] c u ([c] ++ [u]) := Tr.step huc' hlu Tr.base
    have t2 : Tr [(x, u), (u, c)] c x (([c] ++ [u]) ++ [x]) :=
      Tr.step hac' List.lookup_cons_self t1
    refine ⟨_, t2, ⟨?_, ?_⟩, by simp, by simp⟩
    · simpa using DChain.base
    · simp; exact ⟨⟨fun e => huc' e.symm, fun e => hac' e.symm⟩, fun e => hau' e.symm⟩
  · rw [lookup_cons_ne hac'.symm, lookup_cons_ne huc'.symm]; rfl

theorem discFinish_cases {G : MG} {u a c : Nat} {s : St} (hi : Inv c (DPre G u a c) (DFin G u a c) s) :
    (s.limit = true ∧ discFinish c s = .ok (s.found, [], s.explored)) ∨
    (s.limit = false ∧ s.found = false ∧ discFinish c s = .ok (false, [], s.explored)) ∨
    (s.limit = false ∧ s.found = true ∧ ∃ l, DFin G u a c l ∧ l ≠ [] ∧
      discFinish c s = .ok (true, l.reverse, s.explored)) := by
  unfold discFinish
  cases hl : s.limit with
  | true => exact Or.inl ⟨rfl, rfl⟩
  | false =>
    cases hf : s.found with
    | false => exact Or.inr (Or.inl ⟨rfl, rfl, rfl⟩)
    | true =>
      obtain ⟨e, l, he, hQ, hne, _, hrec⟩ := hi.recon hf
      refine Or.inr (Or.inr ⟨rfl, rfl, l, hQ, hne, ?_⟩)
      simp only [Bool.false_eq_true, if_false, if_true, he, hrec]

theorem discPath_eq_loop {G : MG} {u a c : Nat} (he : discEntry G u a c = true) (nb bnb : Nat → List Nat)
    (maxLen : Nat) : discPath G nb bnb u a c maxLen =
      discFinish c (loop (discIter G nb bnb) (discCls G c) false maxLen (discInit u a c)) := by
  simp [discPath, he]

/-- **Everything `discriminating_path` can return**: not found; found with a non-empty list
    `(v, …, a, u, c)` satisfying `DiscPathWeak`; or found with the empty list when the pop limit was hit. -/
theorem discPath_cases {G : MG} (hS : Simple G) (nb bnb : Nat → List Nat) (u a c maxLen : Nat) :
    (∃ ex, discPath G nb bnb u a c maxLen = .ok (false, [], ex)) ∨
    (discEntry G u a c = true ∧ ∃ p ex, p ≠ [] ∧ DiscPathWeak G u a c p ∧
      discPath G nb bnb u a c maxLen = .ok (true, p, ex)) ∨
    (discEntry G u a c = true ∧ (∃ ex, discPath G nb bnb u a c maxLen = .ok (true, [], ex)) ∧
      (loop (discIter G nb bnb) (discCls G c) false maxLen (discInit u a c)).limit = true) := by
  cases he : discEntry G u a c with
  | false => exact Or.inl ⟨[a, u, c], by simp [discPath, he]⟩
  | true =>
    rw [discPath_eq_loop he]
    rcases discFinish_cases (loop_inv (disc_hpush G u a c) (disc_hfin G u a c) (discIter G nb bnb) false
      maxLen _ (discInit_inv hS he)) with ⟨hl, h⟩ | ⟨_, _, h⟩ | ⟨_, _, l, hQ, hne, h⟩
    · rw [h]
      cases (loop (discIter G nb bnb) (discCls G c) false maxLen (discInit u a c)).found with
      | false => exact Or.inl ⟨_, rfl⟩
      | true => exact Or.inr (Or.inr ⟨rfl, ⟨_, rfl⟩, hl⟩)
    · exact Or.inl ⟨_, h⟩
    · exact Or.inr (Or.inl ⟨rfl, _, _, by simpa using hne, hQ.discPathWeak hS he, h⟩)

/-- **Soundness of `discriminating_path`.**  If the model returns `found = True` with a non-empty
    list, the list is a discriminating path `(v, …, a, u, c)` in the weak sense. -/
theorem discPath_sound_weak (G : MG) (hS : Simple G) (nb bnb : Nat → List Nat) (u a c maxLen : Nat)
    (p ex : List Nat) (h : discPath G nb bnb u a c maxLen = .ok (true, p, ex)) (hp : p ≠ []) :
    DiscPathWeak G u a c p := by
  rcases discPath_cases hS nb bnb u a c maxLen with ⟨_, h'⟩ | ⟨_, _, _, _, hw, h'⟩ | ⟨_, ⟨_, h'⟩, _⟩ <;>
    rw [h] at h' <;> cases h'
  · exact hw
  · exact absurd rfl hp

theorem DiscPathWeak.strong {G : MG} (hS : Simple G) {u a c : Nat} {p : List Nat}
    (hw : DiscPathWeak G u a c p) (hcirc : hC G c a = false) : DiscPath G u a c p := by
  obtain ⟨h1, h2, h3, h4, h5, h6, h7, h8⟩ := discPathWeak_iff.mp hw
  refine ⟨h1, h2, h3, h4, h5, h6, innerColl_mono G ?_ _ h7, h8⟩
  intro y hy
  rcases parWeak_iff.mp hy with hp | ⟨rfl, hd⟩
  · exact hp
  · rw [parentOf_eq_isParent hS]
    simp [isParent, possParent_of_hD hS hd, hcirc, hd]

/-- **Soundness of `discriminating_path`, full specification.**  If moreover the edge between `a` and
    `c` has no circle mark at `a` (i.e. it is `a -> c`, not `a o-> c`), the returned list is a
    discriminating path in the sense of the property (`DiscPath`). -/
theorem discPath_sound (G : MG) (hS : Simple G) (nb bnb : Nat → List Nat) (u a c maxLen : Nat)
    (p ex : List Nat) (h : discPath G nb bnb u a c maxLen = .ok (true, p, ex)) (hp : p ≠ [])
    (hcirc : hC G c a = false) : DiscPath G u a c p :=
  (discPath_sound_weak G hS nb bnb u a c maxLen p ex h hp).strong hS hcirc

end C18
