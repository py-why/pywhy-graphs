import Pw.C18.DiscComplete

/-! # C18: completeness of `uncovered_pd_path` on triangle-free skeletons (partial result)

The search explores each node once although the admissibility of a step `this → next` depends on the
node `this` was entered from (the triple `prev, this, next` must be unshielded), so completeness fails
in general (`uncovPdPath_incomplete`).  If the skeleton has no triangle, a triple of consecutive
adjacent nodes is never shielded, the dependence on `prev` disappears (except for `first_node`, which
only concerns the start node) and the search is complete. -/
namespace C18

def TriangleFree (G : MG) : Prop :=
  ∀ x y z, adj G x y = true → adj G y z = true → adj G x z = true → False

/-- every potentially directed two-edge path `x → y → z` is unshielded (weaker than triangle-freeness) -/
def NoShieldedPd (G : MG) (fc : Bool) : Prop :=
  ∀ x y z, pdEdge G fc x y = true → pdEdge G fc y z = true → adj G x z = false

theorem noShieldedPd_of_triangleFree {G : MG} (hT : TriangleFree G) (fc : Bool) : NoShieldedPd G fc := by
  intro x y z h1 h2
  cases h3 : adj G x z with
  | false => rfl
  | true => exact (hT x y z (pdEdge_adj h1) (pdEdge_adj h2) h3).elim

def triFreeB (G : MG) : Bool :=
  (verts G).all fun x => (verts G).all fun y => (verts G).all fun z => !(adj G x y && adj G y z && adj G x z)

theorem triangleFree_of_all {G : MG} {vs : List Nat} (hvs : ∀ a b, adj G a b = true → a ∈ vs ∧ b ∈ vs)
    (h : ∀ x ∈ vs, ∀ y ∈ vs, ∀ z ∈ vs, (!(adj G x y && adj G y z && adj G x z)) = true) : TriangleFree G := by
  intro x y z h1 h2 h3
  have := h x (hvs x y h1).1 y (hvs x y h1).2 z (hvs y z h2).2
  rw [h1, h2, h3] at this
  cases this

theorem triangleFree_of_triFreeB {G : MG} (h : triFreeB G = true) : TriangleFree G :=
  triangleFree_of_all (fun _ _ => adj_verts) (by simpa only [triFreeB, List.all_eq_true] using h)

/-- nodes explored from the beginning that are never processed -/
def uInit (q : Query) : List Nat :=
  optList q.first ++ (match q.second with | some _ => [q.u] | none => [])

theorem pdEdge_irrefl {G : MG} (hS : Simple G) {fc : Bool} {x : Nat} : pdEdge G fc x x = false := by
  rw [← pdCode_eq_pdEdge hS]; exact pdCode_irrefl hS

/-- An uncovered pd path `x :: l` to `c` cannot start at a processed node `x` when the search has ended
    without result: every node of it would be processed, also `c`, which never is.  A step from `y` is
    not skipped because the node `y` was entered from has a pd edge into `y`: by `hN` it does not shield. -/
theorem uncov_walk {G : MG} (hS : Simple G) {q : Query} (hN : NoShieldedPd G q.fc) {nb : Nat → List Nat}
    (hnb : ∀ x y, y ∈ nb x ↔ adj G x y = true) {start : Nat} {D : List Nat} {s : St}
    (hDv : InvC (uncovCls G q) nb (uInit q) [start] D s) (hq0 : s.queue = []) (hcs : q.c ≠ start) :
    ∀ (l : List Nat) (x : Nat), x ∈ D →
      (∀ y, l.head? = some y → ∀ pv, s.desc.lookup x = some pv → adj G pv y = false) →
      (x = q.u → ∀ y, l.head? = some y → q.forbid ≠ some y) →
      chainB (pdEdge G q.fc) (x :: l) = true →
      (∀ y ∈ l, y ∉ uInit q ∧ y ≠ start ∧ y ≠ q.u) → (x :: l).getLast? = some q.c → False := by
  intro l
  induction l with
  | nil =>
    intro x hxD _ _ _ _ hlast
    simp at hlast; subst hlast
    rcases hDv.pushP _ (Or.inr hxD) with h | ⟨y, _, _, hy⟩
    · simp at h; exact hcs h
    · exact uncovCls_spec.2.2 hy rfl
  | cons y t ih =>
    intro x hxD hsh hfb hchain hrest hlast
    simp only [chainB, Bool.and_eq_true] at hchain
    obtain ⟨hpd, hchain'⟩ := hchain
    have hyr := hrest y (by simp)
    have hyD : y ∈ D := hDv.step hq0 hxD ((hnb x y).mpr (pdEdge_adj hpd))
      (uncovCls_spec.1.mpr ⟨fun h => hfb h.1 y rfl h.2, fun pv hpv => hsh y rfl pv hpv,
        by rw [pdCode_eq_pdEdge hS]; exact hpd⟩) hyr.1
    refine ih y hyD ?_ (fun e => absurd e hyr.2.2) hchain'
      (fun z hz => hrest z (List.mem_cons_of_mem _ hz))
      (by rw [List.getLast?_cons_cons] at hlast; exact hlast)
    intro z hz pv hpv
    rcases hDv.pushP y (Or.inr hyD) with h | ⟨w, _, hw, hcw⟩
    · simp at h; exact absurd h hyr.2.1
    · rw [hpv] at hw; injection hw with hw; subst hw
      have hpy := (uncovCls_spec.1.mp (by rw [hcw]; nofun)).2.2
      refine hN pv y z (by rw [← pdCode_eq_pdEdge hS]; exact hpy) ?_
      cases t with
      | nil => cases hz
      | cons z' t' =>
        simp at hz; subst hz
        simp only [chainB, Bool.and_eq_true] at hchain'
        exact hchain'.1

/-- The search started in a state `s0` with the single queued node `start` finds `c` (below the pop
    limit) if a pd chain `start :: l` leads to `c` outside what `s0` has explored, and neither the node
    `start` was entered from nor `forbid_node` stands in the way of its first step. -/
theorem uncov_found {G : MG} (hS : Simple G) (hW : WFG G) {q : Query} (hN : NoShieldedPd G q.fc)
    {nb : Nat → List Nat} (hnb : ∀ x y, y ∈ nb x ↔ adj G x y = true) {maxLen : Nat}
    (hlen : G.nodes.length < maxLen) {start : Nat} {l : List Nat} {s0 : St} (hq : s0.queue = [start])
    (hlim0 : s0.limit = false) (hprov : ∀ x ∈ s0.explored, x ∈ uInit q ∨ x = start)
    (hse : start ∈ s0.explored) (hsU : start ∈ G.nodes) (hsi : start ∉ uInit q)
    (hsh : ∀ y, l.head? = some y → ∀ pv, s0.desc.lookup start = some pv → adj G pv y = false)
    (hfb : start = q.u → ∀ y, l.head? = some y → q.forbid ≠ some y)
    (hch : chainB (pdEdge G q.fc) (start :: l) = true)
    (hav : ∀ y ∈ l, y ∉ uInit q ∧ y ≠ start ∧ y ≠ q.u) (hlast : (start :: l).getLast? = some q.c)
    (hcs : q.c ≠ start) :
    (loop nb (uncovCls G q) true maxLen s0).found = true ∧
      (loop nb (uncovCls G q) true maxLen s0).limit = false := by
  obtain ⟨hlim, hcl⟩ := loop_found_or_closed (cls := uncovCls G q) (init := uInit q) nb true
    (fun x y h => (hW x y ((hnb x y).mp h)).2) hlen hq hlim0 hprov hse hsU
  have hle := loop_le (cls := uncovCls G q) (iter := nb) true maxLen s0
  refine ⟨?_, hlim⟩
  rcases hcl with h | ⟨D, hDv, hq0⟩
  · exact h
  · refine (uncov_walk hS hN hnb hDv hq0 hcs l start (hDv.done hq0 (hle.explored _ hse) hsi) ?_ hfb hch hav
      hlast).elim
    intro y hy pv hpv
    exact hsh y hy pv (by rw [← hle.lookup _ hse]; exact hpv)

/-- **Completeness of `uncovered_pd_path` when no potentially-directed two-edge path is shielded**
    (partial result; the general statement is false, see `uncovPdPath_complete_false`).  For every
    graph of the domain in which `x → y → z` potentially directed implies x, z non-adjacent, every
    faithful neighbour iteration order, every admissible query (arguments are nodes, not both first
    and second node, `first_node ≠ u`): if an uncovered pd path for the query exists, the model returns
    `found = True` with such a path. -/
theorem uncovPdPath_complete_noShield (G : MG) (hS : Simple G) (hW : WFG G)
    (q : Query) (hN : NoShieldedPd G q.fc) (nb : Nat → List Nat) (hnb : ∀ x y, y ∈ nb x ↔ adj G x y = true)
    (hfu : q.first ≠ some q.u) (hg : uncovGuard G q = false) (maxLen : Nat)
    (hlen : G.nodes.length < maxLen) (hex : ∃ p, UncovPd G q p) :
    ∃ p, uncovPdPath G nb q maxLen = .ok (p, true) ∧ UncovPd G q p := by
  obtain ⟨p0, hp0⟩ := hex
  obtain ⟨⟨core, rfl, hhead, hnd, hch, hun, hsec, hforb⟩, hclast, h2⟩ := uncovPd_iff.mp hp0
  obtain ⟨x1, rest, rfl⟩ : ∃ x1 rest, core = q.u :: x1 :: rest := by
    cases core with
    | nil => cases hhead
    | cons a t =>
      cases t with
      | nil => simp at h2
      | cons b t' => simp at hhead; subst hhead; exact ⟨b, t', rfl⟩
  replace hclast : (x1 :: rest).getLast? = some q.c := by
    rw [List.getLast?_append, List.getLast?_cons_cons, List.getLast?_cons, Option.some_or] at hclast
    rw [List.getLast?_cons]; exact hclast
  simp only [chainB, Bool.and_eq_true] at hch
  obtain ⟨hpd01, hchrest⟩ := hch
  simp only [List.getElem?_cons_succ, List.getElem?_cons_zero] at hsec hforb
  obtain ⟨-, hnd_core, hfirst_ne⟩ := List.nodup_append.mp hnd
  have hu_notin : q.u ∉ x1 :: rest := (List.nodup_cons.mp hnd_core).1
  have hne_u : ∀ y ∈ x1 :: rest, y ≠ q.u := fun y hy e => hu_notin (e ▸ hy)
  have hbad : secondBad G q = false := by
    cases hs : q.second with
    | none => simp [secondBad, hs]
    | some s =>
      cases hsec s hs
      have hfb : q.forbid ≠ some x1 := fun hf => hforb x1 hf rfl
      simp [secondBad, hs, pdCode_eq_pdEdge hS, hpd01, hfb]
  by_cases hsc : q.second = some q.c
  · exact ⟨[q.u, q.c], by simp [uncovPdPath, hg, hbad, hsc], uncovPd_second_eq_c hS hg hbad hsc⟩
  rw [uncovPdPath_eq_loop hg hbad hsc]
  have hi := loop_inv (uncov_hpush hS q) (uncov_hfin hS q) nb true maxLen _ (uncovInit_inv hS hfu hg hbad)
  obtain ⟨hfound, hlim⟩ : (loop nb (uncovCls G q) true maxLen (uncovInit q)).found = true ∧
      (loop nb (uncovCls G q) true maxLen (uncovInit q)).limit = false := by
    have huU : q.u ∈ G.nodes := uncovGuard_u_mem hg
    cases hs : q.second with
    | none =>
      -- the remaining path starts at `u`, entered from `first_node` if there is one
      have hq : (uncovInit q).queue = [q.u] := by simp [uncovInit, hs]
      have hprov : ∀ x ∈ (uncovInit q).explored, x ∈ uInit q ∨ x = q.u := by
        simp [uncovInit, uInit, optList, hs]
      have hse : q.u ∈ (uncovInit q).explored := by simp [uncovInit]
      have hsi : q.u ∉ uInit q := by simpa [uInit, optList, hs] using hfu
      have hch : chainB (pdEdge G q.fc) (q.u :: x1 :: rest) = true := by simp [chainB, hpd01, hchrest]
      have hlast : (q.u :: x1 :: rest).getLast? = some q.c := by rw [List.getLast?_cons_cons]; exact hclast
      have hcs : q.c ≠ q.u := fun e => hu_notin (e ▸ List.mem_of_getLast? hclast)
      refine uncov_found hS hW hN hnb hlen hq rfl hprov hse huU hsi ?_ ?_ hch ?_ hlast hcs
      · intro y hy pv hpv
        cases hy
        cases hf : q.first with
        | none => simp [uncovInit, hs, hf] at hpv
        | some f =>
          simp [uncovInit, hs, hf] at hpv
          rw [hf, hpv] at hun
          simp [unsh] at hun
          exact hun.1
      · intro _ y hy hfy
        cases hy
        exact hforb _ hfy rfl
      · exact fun y hy => ⟨by simpa [uInit, optList, hs] using fun hm => hfirst_ne y hm y (List.mem_cons_of_mem _ hy) rfl,
          hne_u y hy, hne_u y hy⟩
    | some s' =>
      -- the remaining path starts at second_node, entered from `u`
      cases hsec s' hs
      have hf : q.first = none := (uncovGuard_not_both hg).resolve_right (by simp [hs])
      have hx1u : x1 ≠ q.u := hne_u x1 (List.mem_cons_self ..)
      have hx1_notin : x1 ∉ rest := (List.nodup_cons.mp (List.nodup_cons.mp hnd_core).2).1
      have hy' := fun y (hy : y ∈ rest) => hne_u y (List.mem_cons_of_mem _ hy)
      have hui : uInit q = [q.u] := by simp [uInit, optList, hs, hf]
      have hsi : x1 ∉ uInit q := by rw [hui, List.mem_singleton]; exact hx1u
      have hav : ∀ y ∈ rest, y ∉ uInit q ∧ y ≠ x1 ∧ y ≠ q.u := fun y hy =>
        ⟨by rw [hui, List.mem_singleton]; exact hy' y hy, fun e => hx1_notin (e ▸ hy), hy' y hy⟩
      rw [uncovInit_second hf hs]
      refine uncov_found hS hW hN hnb hlen (start := x1) (l := rest) rfl rfl ?_ List.mem_cons_self
        (hW _ _ (pdEdge_adj hpd01)).2 hsi ?_ (fun e => absurd e hx1u) hchrest hav hclast
        (fun e => hsc (by rw [hs, e]))
      · intro x hx
        rw [hui]
        rcases List.mem_cons.mp hx with rfl | hx
        · exact Or.inr rfl
        · exact Or.inl hx
      intro y hy pv hpv
      obtain rfl : q.u = pv := Option.some.inj (List.lookup_cons_self (k := x1) ▸ hpv)
      cases rest with
      | nil => cases hy
      | cons z t =>
        cases hy
        rw [hf] at hun
        simp [unsh] at hun
        exact hun.1
  rcases uncovFinish_cases hi with ⟨h, _⟩ | ⟨_, h, _⟩ | ⟨_, _, p, hv, hp⟩
  · rw [hlim] at h; cases h
  · rw [hfound] at h; cases h
  · exact ⟨p, hp, hv⟩

/-- **Completeness of `uncovered_pd_path` on triangle-free skeletons** -/
theorem uncovPdPath_complete_partial (G : MG) (hS : Simple G) (hW : WFG G) (hT : TriangleFree G)
    (nb : Nat → List Nat) (hnb : ∀ x y, y ∈ nb x ↔ adj G x y = true) (q : Query)
    (hfu : q.first ≠ some q.u) (hg : uncovGuard G q = false) (maxLen : Nat)
    (hlen : G.nodes.length < maxLen) (hex : ∃ p, UncovPd G q p) :
    ∃ p, uncovPdPath G nb q maxLen = .ok (p, true) ∧ UncovPd G q p :=
  uncovPdPath_complete_noShield G hS hW q (noShieldedPd_of_triangleFree hT q.fc) nb hnb hfu hg maxLen hlen hex

end C18
