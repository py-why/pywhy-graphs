import Pw.Core.Graph

/-! # C18 specification: uncovered potentially-directed paths and discriminating paths in a PAG

The graph is an `MG` (`dir`: `(a,b)` = arrowhead at b coming from a; `circ`: `(a,b)` = circle mark at
b; `bi`, `un` unordered).  The PAG docstring table (classes/pag.py):

  a -> b : dir (a,b)              a <-> b : bi {a,b}          a -- b : un {a,b}
  a o-o b : circ (a,b),(b,a)      a o-> b : dir (a,b) + circ (b,a)
  (a -o b : circ (a,b) only — tail at a; outside the property's quantifier but given a meaning)

Everything here is `Bool`-valued and structurally recursive so that the specification is its own
decision procedure (`decide (UncovPd G q p)`), which the driver uses to validate the paths returned
by the implementation. -/
namespace C18

def hD (G : MG) (a b : Nat) : Bool := decide ((a, b) ∈ G.dir)
def hC (G : MG) (a b : Nat) : Bool := decide ((a, b) ∈ G.circ)
def hB (G : MG) (a b : Nat) : Bool := decide ((a, b) ∈ G.bi) || decide ((b, a) ∈ G.bi)
def hU (G : MG) (a b : Nat) : Bool := decide ((a, b) ∈ G.un) || decide ((b, a) ∈ G.un)

/-- a and b are adjacent (some edge of some kind joins them) -/
def adj (G : MG) (a b : Nat) : Bool :=
  hD G a b || hD G b a || hB G a b || hU G a b || hC G a b || hC G b a

inductive Mk | tail | head | circle
deriving DecidableEq, Repr

/-- the mark at `b` of the edge between `a` and `b` (`none`: not adjacent) -/
def mark (G : MG) (a b : Nat) : Option Mk :=
  if hD G a b || hB G a b then some .head
  else if hC G a b then some .circle
  else if hD G b a || hU G a b || hC G b a then some .tail
  else none

/-- the property's domain: at most one edge kind per pair (the kinds of the table above) and no
    self loops -/
def Simple (G : MG) : Prop := ∀ a b : Nat,
  (hB G a b = true → hD G a b = false ∧ hD G b a = false ∧ hU G a b = false ∧ hC G a b = false ∧ hC G b a = false) ∧
  (hU G a b = true → hD G a b = false ∧ hD G b a = false ∧ hC G a b = false ∧ hC G b a = false) ∧
  (hD G a b = true → hD G b a = false ∧ hC G a b = false) ∧
  adj G a a = false

/-- consecutive elements are related by `r` -/
def chainB (r : Nat → Nat → Bool) : List Nat → Bool
  | a :: b :: t => r a b && chainB r (b :: t)
  | _ => true

/-- every consecutive triple `x, y, z` of the list is unshielded: x and z are not adjacent -/
def unsh (G : MG) : List Nat → Bool
  | x :: y :: z :: t => !adj G x z && unsh G (y :: z :: t)
  | _ => true

/-! ## uncovered potentially directed path -/

/-- query of `uncovered_pd_path(graph, u, c, None, first_node, second_node, force_circle, forbid_node)` -/
structure Query where
  u : Nat
  c : Nat
  first : Option Nat := none
  second : Option Nat := none
  forbid : Option Nat := none
  fc : Bool := false
deriving Repr, DecidableEq

/-- the edge between the earlier node `x` and the later node `y` of a pd path: adjacent, not into
    `x` (no arrowhead at x), not out of `y` (no tail at y); with `force_circle`: circle marks only -/
def pdEdge (G : MG) (fc : Bool) (x y : Nat) : Bool :=
  if fc then mark G y x == some .circle && mark G x y == some .circle
  else adj G x y && mark G y x != some .head && mark G x y != some .tail

/-- `p` is an admissible return value of a successful `uncovered_pd_path` call:
    `p = [first_node] ++ core` (just `core` without `first_node`) where `core` is a path from u to c
    with at least one edge, every edge potentially directed (circle-only under `force_circle`),
    no repeated node in `p`, every consecutive triple of `p` unshielded (this includes the triple
    `first_node, u, core[1]`), `core[1] = second_node` if given, `core[1] ≠ forbid_node` if given. -/
def UncovPd (G : MG) (q : Query) (p : List Nat) : Prop :=
  let k := q.first.toList.length
  let core := p.drop k
  p.take k = q.first.toList ∧
  core.head? = some q.u ∧ core.getLast? = some q.c ∧ 2 ≤ core.length ∧
  p.Nodup ∧
  chainB (pdEdge G q.fc) core = true ∧
  unsh G p = true ∧
  (∀ s, q.second = some s → core[1]? = some s) ∧
  (∀ f, q.forbid = some f → core[1]? ≠ some f)

/-- the specification as a `Bool` function (its own decision procedure) -/
def uncovPdB (G : MG) (q : Query) (p : List Nat) : Bool :=
  let k := q.first.toList.length
  let core := p.drop k
  (p.take k == q.first.toList) && (core.head? == some q.u) && (core.getLast? == some q.c) &&
  decide (2 ≤ core.length) && decide p.Nodup && chainB (pdEdge G q.fc) core && unsh G p &&
  (match q.second with | some s => core[1]? == some s | none => true) &&
  (match q.forbid with | some f => core[1]? != some f | none => true)

theorem uncovPdB_iff (G : MG) (q : Query) (p : List Nat) : uncovPdB G q p = true ↔ UncovPd G q p := by
  unfold uncovPdB UncovPd
  cases q.second <;> cases q.forbid <;>
    simp only [Bool.and_eq_true, beq_iff_eq, decide_eq_true_eq, bne_iff_ne, and_assoc, and_true, true_and,
      reduceCtorEq, false_imp_iff, implies_true, Option.some.injEq, forall_eq', ne_eq]

instance (G : MG) (q : Query) (p : List Nat) : Decidable (UncovPd G q p) :=
  decidable_of_iff _ (uncovPdB_iff G q p)

/-! ## discriminating path -/

/-- arrowhead at `y` on the edge between `x` and `y` -/
def headAt (G : MG) (x y : Nat) : Bool := mark G x y == some .head
/-- `y` is a (definite) parent of `c`: `y -> c` -/
def parentOf (G : MG) (y c : Nat) : Bool := mark G y c == some .head && mark G c y == some .tail

/-- every inner node of the list is a collider on it and satisfies the parent test `par` -/
def innerColl (G : MG) (par : Nat → Bool) : List Nat → Bool
  | x :: y :: z :: t => headAt G x y && headAt G z y && par y && innerColl G par (y :: z :: t)
  | _ => true

/-- `p = (v, …, a, u, c)`: at least three edges, no repeated node, consecutive nodes adjacent, every
    node strictly between `v` and `u` is a collider on the path and passes `par`, and `v` is not
    adjacent to `c`.  (The inner nodes of `p.dropLast = (v,…,a,u)` are exactly the nodes between v
    and u.) -/
def DiscPathP (G : MG) (par : Nat → Bool) (u a c : Nat) (p : List Nat) : Prop :=
  4 ≤ p.length ∧ p.Nodup ∧
  p.getLast? = some c ∧ p.dropLast.getLast? = some u ∧ p.dropLast.dropLast.getLast? = some a ∧
  chainB (adj G) p = true ∧
  innerColl G par p.dropLast = true ∧
  (∀ v, p.head? = some v → adj G v c = false)

def discPathPB (G : MG) (par : Nat → Bool) (u a c : Nat) (p : List Nat) : Bool :=
  decide (4 ≤ p.length) && decide p.Nodup && (p.getLast? == some c) && (p.dropLast.getLast? == some u) &&
  (p.dropLast.dropLast.getLast? == some a) && chainB (adj G) p && innerColl G par p.dropLast &&
  (match p.head? with | some v => !adj G v c | none => true)

theorem discPathPB_iff (G : MG) (par : Nat → Bool) (u a c : Nat) (p : List Nat) :
    discPathPB G par u a c p = true ↔ DiscPathP G par u a c p := by
  unfold discPathPB DiscPathP
  cases p.head? <;>
    simp only [Bool.and_eq_true, beq_iff_eq, decide_eq_true_eq, and_assoc, and_true, reduceCtorEq,
      false_imp_iff, implies_true, Option.some.injEq, forall_eq', Bool.not_eq_true']

instance (G : MG) (par : Nat → Bool) (u a c : Nat) (p : List Nat) : Decidable (DiscPathP G par u a c p) :=
  decidable_of_iff _ (discPathPB_iff G par u a c p)

/-- **discriminating path for `u`**: every node between `v` and `u` is a collider on the path and a
    parent of `c` -/
def DiscPath (G : MG) (u a c : Nat) (p : List Nat) : Prop :=
  DiscPathP G (fun y => parentOf G y c) u a c p

instance (G : MG) (u a c : Nat) (p : List Nat) : Decidable (DiscPath G u a c p) := by
  unfold DiscPath; infer_instance

/-- what the code guarantees (known finding `C18-disc-a-possible-parent`): for the node `a` itself only
    an arrowhead at `c` is tested, so `a o-> c` passes -/
def DiscPathWeak (G : MG) (u a c : Nat) (p : List Nat) : Prop :=
  DiscPathP G (fun y => parentOf G y c || (y == a && hD G y c)) u a c p

instance (G : MG) (u a c : Nat) (p : List Nat) : Decidable (DiscPathWeak G u a c p) := by
  unfold DiscPathWeak; infer_instance

/-! ## brute-force deciders (oracles): enumerate the simple paths of the skeleton -/

/-- all lists `x :: …` with consecutive nodes adjacent, no repeated node, avoiding `avoid`, with at
    most `fuel` edges -/
def pathsFrom (G : MG) : Nat → List Nat → Nat → List (List Nat)
  | 0, _, x => [[x]]
  | fuel + 1, avoid, x =>
    [x] :: ((G.nodes.filter fun y => adj G x y && !decide (y ∈ x :: avoid)).flatMap fun y =>
      (pathsFrom G fuel (x :: avoid) y).map (x :: ·))

/-- does an uncovered pd path for the query exist? -/
def uncovExists (G : MG) (q : Query) : Bool :=
  (pathsFrom G G.nodes.length [] q.u).any fun core => decide (UncovPd G q (q.first.toList ++ core))

/-- does a discriminating path `(v,…,a,u,c)` exist?  (enumerated backwards from c) -/
def discExists (G : MG) (u a c : Nat) : Bool :=
  (pathsFrom G G.nodes.length [] c).any fun l => decide (DiscPath G u a c l.reverse)

end C18
