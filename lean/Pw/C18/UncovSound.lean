import Pw.C18.Bfs
import Pw.C18.Marks

/-! # C18: soundness of `uncovered_pd_path` — whenever `found` is True the returned list is an
uncovered potentially-directed path for the query (`UncovPd`), for every graph of the domain, every
neighbour iteration order and every option combination. -/
namespace C18

theorem chainB_append_singleton (r : Nat → Nat → Bool) (l : List Nat) (x : Nat) :
    chainB r (l ++ [x]) = (chainB r l && match l.getLast? with | some y => r y x | none => true) := by
  induction l with
  | nil => simp [chainB]
  | cons a t ih =>
    cases t with
    | nil => simp [chainB]
    | cons b t' =>
      have : (a :: b :: t') ++ [x] = a :: b :: (t' ++ [x]) := rfl
      rw [this, chainB, chainB]
      have ih' : chainB r (b :: (t' ++ [x])) = _ := ih
      rw [ih', Bool.and_assoc]
      simp [List.getLast?_cons_cons]

theorem unsh_append_singleton (G : MG) (l : List Nat) (x : Nat) :
    unsh G (l ++ [x]) = (unsh G l && match penult l with | some p => !adj G p x | none => true) := by
  induction l with
  | nil => simp [unsh, penult]
  | cons a t ih =>
    cases t with
    | nil => simp [unsh, penult]
    | cons b t' =>
      cases t' with
      | nil => simp [unsh, penult]
      | cons c t'' =>
        have e : (a :: b :: c :: t'') ++ [x] = a :: b :: c :: (t'' ++ [x]) := rfl
        rw [e, unsh, unsh]
        have ih' : unsh G (b :: c :: (t'' ++ [x])) = _ := ih
        rw [ih', Bool.and_assoc]
        have : penult (a :: b :: c :: t'') = penult (b :: c :: t'') := by
          simp [penult, List.dropLast, List.getLast?_cons_cons]
        rw [this]

theorem nodup_append_singleton {l : List Nat} {x : Nat} (hn : l.Nodup) (hx : x ∉ l) : (l ++ [x]).Nodup := by
  rw [List.nodup_append]
  refine ⟨hn, by simp, ?_⟩
  intro a ha b hb; obtain rfl := List.mem_singleton.mp hb; intro e; exact hx (e ▸ ha)

/-- `l = [first_node] ++ core` is a valid beginning of an uncovered pd path for the query -/
def UPre (G : MG) (q : Query) (l : List Nat) : Prop :=
  ∃ core, l = q.first.toList ++ core ∧ core.head? = some q.u ∧ l.Nodup ∧
    chainB (pdEdge G q.fc) core = true ∧ unsh G l = true ∧
    (∀ s, q.second = some s → core[1]? = some s) ∧
    (∀ f, q.forbid = some f → core[1]? ≠ some f)

/-- an uncovered pd path for the query is a valid beginning that has reached `c` over at least one edge -/
theorem uncovPd_iff {G : MG} {q : Query} {l : List Nat} :
    UncovPd G q l ↔ UPre G q l ∧ l.getLast? = some q.c ∧ q.first.toList.length + 2 ≤ l.length := by
  constructor
  · intro ⟨ht, hh, hc, h2, hn, hch, hu, hs, hf⟩
    rw [List.length_drop] at h2
    have h2' : q.first.toList.length + 2 ≤ l.length := by omega
    refine ⟨⟨_, ?_, hh, hn, hch, hu, hs, hf⟩, ?_, h2'⟩
    · exact (List.take_append_drop _ l).symm.trans (congrArg (· ++ _) ht)
    · rw [← hc, List.getLast?_drop, if_neg (Nat.not_le.mpr (Nat.lt_of_succ_lt (Nat.lt_of_succ_le h2')))]
  · intro ⟨⟨core, hl, hh, hn, hch, hu, hs, hf⟩, hc, h2⟩
    subst hl
    have h2' : 2 ≤ core.length := by rw [List.length_append] at h2; exact Nat.le_of_add_le_add_left h2
    have hc' : core.getLast? = some q.c := by
      cases core with
      | nil => cases h2'
      | cons a t => rw [List.getLast?_append, List.getLast?_cons, Option.some_or] at hc; rw [List.getLast?_cons, hc]
    unfold UncovPd
    simp only [List.drop_left', List.take_left']
    exact ⟨trivial, hh, hc', h2', hn, hch, hu, hs, hf⟩

/-- The outcome of the tests on a candidate, read off the table of the four Boolean tests. -/
theorem uncovCls_spec {G : MG} {q : Query} {prev : Option Nat} {this next : Nat} :
    (uncovCls G q prev this next ≠ .skip ↔
      ¬ (this = q.u ∧ q.forbid = some next) ∧ (∀ p, prev = some p → adj G p next = false) ∧
        pdCode G q.fc this next = true) ∧
    (uncovCls G q prev this next = .fin → next = q.c) ∧
    (uncovCls G q prev this next = .push → next ≠ q.c) := by
  have h1 : (this = q.u ∧ q.forbid = some next) ↔ (this == q.u && q.forbid == some next) = true := by simp
  have h4 : next = q.c ↔ (next == q.c) = true := by simp
  rw [h1, ne_eq (a := next), h4]
  unfold uncovCls
  -- `bif` carries no `Decidable` instance, so the tests can be replaced by variables
  simp only [← Bool.cond_eq_ite]
  generalize (this == q.u && q.forbid == some next) = b1, pdCode G q.fc this next = b3, (next == q.c) = b4
  cases prev with
  | none =>
    simp only [reduceCtorEq, false_imp_iff, implies_true, true_and]
    revert b1 b3 b4
    decide
  | some p =>
    simp only [Option.some.injEq, forall_eq']
    generalize adj G p next = b2
    revert b1 b2 b3 b4
    decide

theorem UPre.extend {G : MG} (hS : Simple G) {q : Query} {l : List Nat} {this next : Nat}
    (hP : UPre G q l) (hlast : l.getLast? = some this) (hnl : next ∉ l)
    (h1 : ¬ (this = q.u ∧ q.forbid = some next)) (h2 : ∀ p, penult l = some p → adj G p next = false)
    (h3 : pdCode G q.fc this next = true) :
    UPre G q (l ++ [next]) ∧ q.first.toList.length + 2 ≤ (l ++ [next]).length := by
  obtain ⟨core, hl, hh, hn, hch, hu, hs, hf⟩ := hP
  obtain ⟨t, rfl⟩ : ∃ t, core = q.u :: t := by
    cases core with
    | nil => cases hh
    | cons a t => simp at hh; exact ⟨t, by rw [hh]⟩
  have hclast : (q.u :: t).getLast? = some this := by
    rw [hl, List.getLast?_append] at hlast; simpa using hlast
  refine ⟨⟨q.u :: t ++ [next], by rw [hl, List.append_assoc], rfl, ?_, ?_, ?_, ?_, ?_⟩, by simp [hl]⟩
  · exact nodup_append_singleton hn hnl
  · rw [chainB_append_singleton, hch, hclast]
    simp [← pdCode_eq_pdEdge hS, h3]
  · rw [unsh_append_singleton, hu]
    cases hp : penult l with
    | none => simp
    | some p => simp [h2 p hp]
  -- the node after `u` is `next` if the path so far is just `u`, and is unchanged otherwise
  · cases t with
    | nil => intro s hs'; cases hs s hs'
    | cons b t' => exact hs
  · cases t with
    | nil =>
      intro f hf' e
      simp at hclast e
      exact h1 ⟨hclast.symm, by rw [hf', e]⟩
    | cons b t' => exact hf

theorem uncov_hpush {G : MG} (hS : Simple G) (q : Query) :
    ∀ l this next, UPre G q l → l.getLast? = some this → next ∉ l →
      uncovCls G q (penult l) this next = .push → UPre G q (l ++ [next]) := by
  intro l this next hP hlast hnl hc
  obtain ⟨h1, h2, h3⟩ := uncovCls_spec.1.mp (by rw [hc]; nofun)
  exact (hP.extend hS hlast hnl h1 h2 h3).1

theorem uncov_hfin {G : MG} (hS : Simple G) (q : Query) :
    ∀ l this next, UPre G q l → l.getLast? = some this → next ∉ l →
      uncovCls G q (penult l) this next = .fin → UncovPd G q (l ++ [next]) := by
  intro l this next hP hlast hnl hc
  obtain ⟨h1, h2, h3⟩ := uncovCls_spec.1.mp (by rw [hc]; nofun)
  obtain ⟨hpre, hlen⟩ := hP.extend hS hlast hnl h1 h2 h3
  exact uncovPd_iff.mpr ⟨hpre, by rw [List.getLast?_concat, uncovCls_spec.2.1 hc], hlen⟩

theorem uncovGuard_not_both {G : MG} {q : Query} (hg : uncovGuard G q = false) :
    q.first = none ∨ q.second = none := by
  cases hf : q.first with
  | none => exact Or.inl rfl
  | some f =>
    cases hs : q.second with
    | none => exact Or.inr rfl
    | some s => simp [uncovGuard, hf, hs] at hg

theorem uncovGuard_u_mem {G : MG} {q : Query} (hg : uncovGuard G q = false) : q.u ∈ G.nodes := by
  simp only [uncovGuard, Bool.or_eq_false_iff, Bool.not_eq_false', Bool.and_eq_true, decide_eq_true_eq] at hg
  exact hg.2.1.1.1

/-- without `second_node` the search starts from `u`, after `first_node` if there is one -/
theorem UPre.first {G : MG} {q : Query} (hfu : q.first ≠ some q.u) (hs : q.second = none) :
    UPre G q (q.first.toList ++ [q.u]) := by
  refine ⟨[q.u], rfl, rfl, ?_, rfl, ?_, fun s hs' => ?_, fun _ _ => by simp⟩
  · cases hf : q.first with
    | none => simp
    | some f => simpa using fun e => hfu (by rw [hf, e])
  · cases q.first <;> rfl
  · rw [hs] at hs'; cases hs'

/-- with `second_node = s` that passes the entry tests, the search starts from the path `u, s` -/
theorem UPre.second {G : MG} (hS : Simple G) {q : Query} {s : Nat} (hg : uncovGuard G q = false)
    (hs : q.second = some s) (hb : secondBad G q = false) : q.u ≠ s ∧ UPre G q [q.u, s] := by
  have hf : q.first = none := (uncovGuard_not_both hg).resolve_right (by simp [hs])
  simp only [secondBad, hs, Bool.or_eq_false_iff, Bool.not_eq_false'] at hb
  have hne : q.u ≠ s := by
    intro e; rw [← e, pdCode_irrefl hS] at hb; cases hb.1
  refine ⟨hne, [q.u, s], by simp [hf], rfl, by simp [hne], ?_, by simp [unsh], ?_, ?_⟩
  · simp [chainB, ← pdCode_eq_pdEdge hS, hb.1]
  · intro s' hs'; rw [hs] at hs'; injection hs' with hs'; simp [hs']
  · intro f hf' e; simp at e; rw [hf', e] at hb; simp at hb

theorem uncovInit_first {q : Query} {f : Nat} (hf : q.first = some f) (hs : q.second = none) :
    uncovInit q = { explored := [f, q.u], desc := [(q.u, f)], queue := [q.u] } := by
  unfold uncovInit; rw [hf, hs]; rfl

theorem uncovInit_plain {q : Query} (hf : q.first = none) (hs : q.second = none) :
    uncovInit q = { explored := [q.u], desc := [], queue := [q.u] } := by
  unfold uncovInit; rw [hf, hs]; rfl

theorem uncovInit_second {q : Query} {s : Nat} (hf : q.first = none) (hs : q.second = some s) :
    uncovInit q = { explored := [s, q.u], desc := [(s, q.u)], queue := [s] } := by
  unfold uncovInit; rw [hf, hs]; rfl

theorem uncovInit_inv {G : MG} (hS : Simple G) {q : Query} (hfu : q.first ≠ some q.u)
    (hg : uncovGuard G q = false) (hb : secondBad G q = false) :
    Inv (q.first.getD q.u) (UPre G q) (UncovPd G q) (uncovInit q) := by
  cases hf : q.first with
  | some f =>
    have hsn : q.second = none := (uncovGuard_not_both hg).resolve_left (by simp [hf])
    have hfne : f ≠ q.u := fun e => hfu (by rw [hf, e])
    have hune : q.u ≠ f := fun e => hfne e.symm
    rw [uncovInit_first hf hsn, Option.getD_some]
    refine ⟨?_, nofun, ?_, by simp⟩
    · intro x hx
      obtain rfl := List.mem_singleton.mp hx
      exact ⟨[f] ++ [q.u], Tr.step hune List.lookup_cons_self Tr.base, by simpa [hf] using UPre.first hfu hsn,
        by simp, by simp⟩
    · exact lookup_cons_ne hfne
  | none =>
    rw [Option.getD_none]
    cases hs : q.second with
    | none =>
      rw [uncovInit_plain hf hs]
      refine ⟨?_, nofun, rfl, by simp⟩
      intro x hx
      obtain rfl := List.mem_singleton.mp hx
      exact ⟨[q.u], Tr.base, by simpa [hf] using UPre.first hfu hs, by simp, by simp⟩
    | some s =>
      obtain ⟨hune, hpre⟩ := UPre.second hS hg hs hb
      rw [uncovInit_second hf hs]
      refine ⟨?_, nofun, lookup_cons_ne hune, by simp⟩
      intro x hx
      obtain rfl := List.mem_singleton.mp hx
      exact ⟨[q.u] ++ [x], Tr.step hune.symm List.lookup_cons_self Tr.base, hpre, by simp, by simp⟩

theorem uncovFinish_not_found {q : Query} {s : St} (h : s.found = false) : uncovFinish q s = .ok ([], false) := by
  unfold uncovFinish
  rw [h]
  cases s.limit <;> rfl

theorem uncovFinish_cases {G : MG} {q : Query} {s : St}
    (hi : Inv (q.first.getD q.u) (UPre G q) (UncovPd G q) s) :
    (s.limit = true ∧ uncovFinish q s = .ok ([], s.found)) ∨
    (s.limit = false ∧ s.found = false ∧ uncovFinish q s = .ok ([], false)) ∨
    (s.limit = false ∧ s.found = true ∧ ∃ p, UncovPd G q p ∧ uncovFinish q s = .ok (p, true)) := by
  unfold uncovFinish
  cases hl : s.limit with
  | true => exact Or.inl ⟨rfl, rfl⟩
  | false =>
    cases hf : s.found with
    | false => exact Or.inr (Or.inl ⟨rfl, rfl, rfl⟩)
    | true =>
      obtain ⟨e, l, _, hQ, _, hlast, hrec⟩ := hi.recon hf
      -- the trace ends in `c`
      have he : e = q.c := by rw [(uncovPd_iff.mp hQ).2.1] at hlast; injection hlast with hlast; exact hlast.symm
      subst he
      refine Or.inr (Or.inr ⟨rfl, rfl, l, hQ, ?_⟩)
      simp only [Bool.false_eq_true, if_false, if_true, hrec]

theorem uncovPd_second_eq_c {G : MG} (hS : Simple G) {q : Query} (hg : uncovGuard G q = false)
    (hb : secondBad G q = false) (hsec : q.second = some q.c) : UncovPd G q [q.u, q.c] :=
  uncovPd_iff.mpr ⟨(UPre.second hS hg hsec hb).2, rfl,
    by simp [(uncovGuard_not_both hg).resolve_right (by simp [hsec])]⟩

theorem uncovPdPath_eq_loop {G : MG} {q : Query} (hg : uncovGuard G q = false) (hb : secondBad G q = false)
    (hsc : q.second ≠ some q.c) (nb : Nat → List Nat) (maxLen : Nat) :
    uncovPdPath G nb q maxLen = uncovFinish q (loop nb (uncovCls G q) true maxLen (uncovInit q)) := by
  simp [uncovPdPath, hg, hb, hsc]

/-- **Everything `uncovered_pd_path` can return** (`nb` is not even assumed to list the neighbours):
    the `RuntimeError` of the argument guards; not found; found with an uncovered pd path for the
    query; or found with the empty list when the pop limit was hit. -/
theorem uncovPdPath_cases {G : MG} (hS : Simple G) (nb : Nat → List Nat) {q : Query}
    (hfu : q.first ≠ some q.u) (maxLen : Nat) :
    (uncovGuard G q = true ∧ uncovPdPath G nb q maxLen = .error "RuntimeError") ∨
    (uncovGuard G q = false ∧ (uncovPdPath G nb q maxLen = .ok ([], false) ∨
      (∃ p, UncovPd G q p ∧ uncovPdPath G nb q maxLen = .ok (p, true)) ∨
      (uncovPdPath G nb q maxLen = .ok ([], true) ∧
        (loop nb (uncovCls G q) true maxLen (uncovInit q)).limit = true))) := by
  cases hg : uncovGuard G q with
  | true => exact Or.inl ⟨rfl, by simp [uncovPdPath, hg]⟩
  | false =>
    refine Or.inr ⟨rfl, ?_⟩
    cases hb : secondBad G q with
    | true => exact Or.inl (by simp [uncovPdPath, hg, hb])
    | false =>
      by_cases hsc : q.second = some q.c
      · exact Or.inr (Or.inl ⟨_, uncovPd_second_eq_c hS hg hb hsc, by simp [uncovPdPath, hg, hb, hsc]⟩)
      · rw [uncovPdPath_eq_loop hg hb hsc]
        rcases uncovFinish_cases
          (loop_inv (uncov_hpush hS q) (uncov_hfin hS q) nb true maxLen _ (uncovInit_inv hS hfu hg hb))
          with ⟨hl, h⟩ | ⟨_, _, h⟩ | ⟨_, _, p, hp, h⟩
        · rw [h]
          cases (loop nb (uncovCls G q) true maxLen (uncovInit q)).found with
          | false => exact Or.inl rfl
          | true => exact Or.inr (Or.inr ⟨rfl, hl⟩)
        · exact Or.inl h
        · exact Or.inr (Or.inl ⟨p, hp, h⟩)

/-- **Soundness of `uncovered_pd_path`.**  If the model returns `found = True` with a non-empty list
    (the list is empty only if the 1000-pop limit was hit), the list is an uncovered pd path for the
    query in the sense of `UncovPd`. -/
theorem uncovPdPath_sound (G : MG) (hS : Simple G) (nb : Nat → List Nat) (q : Query)
    (hfu : q.first ≠ some q.u) (maxLen : Nat) (p : List Nat)
    (h : uncovPdPath G nb q maxLen = .ok (p, true)) (hp : p ≠ []) : UncovPd G q p := by
  rcases uncovPdPath_cases hS nb hfu maxLen with ⟨_, h'⟩ | ⟨_, h' | ⟨p', hp', h'⟩ | ⟨h', _⟩⟩ <;>
    rw [h] at h'
  · cases h'
  · cases h'
  · cases h'; exact hp'
  · cases h'; exact absurd rfl hp

end C18
