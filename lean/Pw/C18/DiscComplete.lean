import Pw.C18.Complete

/-! # C18: completeness of `discriminating_path` (after the fixes) — if a discriminating path
`(v,…,a,u,c)` exists, the search reports one, for every iteration order.  Together with
`discPath_sound` this is `found = True ↔ a discriminating path exists` for the model. -/
namespace C18

theorem innerColl_last (G : MG) (par : Nat → Bool) (a u : Nat) : ∀ (l : List Nat) (x : Nat),
    l.getLast? = some a → innerColl G par (x :: l ++ [u]) = true → par a = true ∧ headAt G u a = true := by
  intro l
  induction l with
  | nil => intro x h; cases h
  | cons y t ih =>
    intro x hl hic
    cases t with
    | nil =>
      simp at hl; subst hl
      simp only [List.cons_append, List.nil_append, innerColl, Bool.and_eq_true] at hic
      exact ⟨hic.1.2, hic.1.1.2⟩
    | cons z t' =>
      have hl' : (z :: t').getLast? = some a := by rw [List.getLast?_cons_cons] at hl; exact hl
      simp only [List.cons_append, innerColl, Bool.and_eq_true] at hic
      exact ih y hl' (by simpa using hic.2)

theorem hD_of_parentOf {G : MG} (hS : Simple G) {y c : Nat} (h : parentOf G y c = true) :
    hD G y c = true ∧ hC G c y = false := by
  simp only [parentOf_eq_isParent hS, isParent, Bool.and_eq_true, Bool.not_eq_true'] at h
  exact ⟨h.2, h.1.2⟩

/-- the candidates of a node: its possible parents and its bidirected neighbours (the parents, chained in
    between, are possible parents) -/
theorem mem_discIter {G : MG} {nb bnb : Nat → List Nat} {x y : Nat} :
    y ∈ discIter G nb bnb x ↔ (y ∈ nb x ∧ possParent G x y = true) ∨ y ∈ bnb x := by
  simp only [discIter, List.mem_append, List.mem_filter]
  exact ⟨fun h => h.imp_left fun h => h.elim id And.left, fun h => h.imp_left .inl⟩

theorem discIter_nodes {G : MG} (hW : WFG G) {nb bnb : Nat → List Nat}
    (hnb : ∀ x y, y ∈ nb x ↔ adj G x y = true) (hbnb : ∀ x y, y ∈ bnb x ↔ hB G x y = true)
    (x y : Nat) (h : y ∈ discIter G nb bnb x) : y ∈ G.nodes := by
  rcases mem_discIter.mp h with h | h
  · exact (hW x y ((hnb x y).mp h.1)).2
  · exact (hW x y (adj_iff.mpr (.inr (.inr (.inl ((hbnb x y).mp h)))))).2

/-- The colliders `l = (w_k, …, w_1, a)` of a discriminating path (`x`: the node before `l`) have all
    been processed when the search ends without result: each is pushed from its successor. -/
theorem disc_walk {G : MG} (hS : Simple G) {nb bnb : Nat → List Nat}
    (hbnb : ∀ x y, y ∈ bnb x ↔ hB G x y = true) {u a c : Nat} {par : Nat → Bool}
    (hpar : ∀ y, y ≠ a → par y = true → parentOf G y c = true) {D : List Nat} {s : St}
    (hi : InvC (discCls G c) (discIter G nb bnb) [u, c] [a] D s) (hq0 : s.queue = []) (hae : a ∈ s.explored) :
    ∀ (l : List Nat) (x : Nat), l.getLast? = some a → l.Nodup → innerColl G par (x :: l ++ [u]) = true →
      (∀ w ∈ l, w ∉ [u, c]) → (∀ w ∈ l, w ∈ D) ∧ (∀ w, l.head? = some w → headAt G x w = true) := by
  intro l
  induction l with
  | nil => intro x h; cases h
  | cons y t ih =>
    intro x hl hlnd hic hne
    cases t with
    | nil =>
      simp at hl; subst hl
      simp only [List.cons_append, List.nil_append, innerColl, Bool.and_eq_true] at hic
      refine ⟨?_, fun w hw => by simp at hw; subst hw; exact hic.1.1.1⟩
      intro w hw; simp at hw; subst hw
      exact hi.done hq0 hae (hne w (by simp))
    | cons z t' =>
      have hl' : (z :: t').getLast? = some a := by rw [List.getLast?_cons_cons] at hl; exact hl
      simp only [List.cons_append, innerColl, Bool.and_eq_true] at hic
      obtain ⟨⟨⟨hxy, hzy⟩, hpy⟩, hrest⟩ := hic
      obtain ⟨hD', hhead⟩ := ih y hl' (List.nodup_cons.mp hlnd).2 (by simpa using hrest)
        (fun w hw => hne w (List.mem_cons_of_mem _ hw))
      have hya : y ≠ a := fun e => (List.nodup_cons.mp hlnd).1 (e ▸ List.mem_of_getLast? hl')
      have hb : hB G z y = true := hB_of_heads hS hzy (hhead z rfl)
      have hp : isParent G c y = true := parentOf_eq_isParent hS y c ▸ hpar y hya hpy
      have hcls : discCls G c (s.desc.lookup z) z y = .push := discCls_spec.2.mpr ⟨hb, hp⟩
      have hyD : y ∈ D := hi.step hq0 (hD' z (by simp)) (mem_discIter.mpr (.inr ((hbnb z y).mpr hb)))
        (by rw [hcls]; simp) (hne y (by simp))
      refine ⟨fun w hw => ?_, fun w hw => by simp at hw; subst hw; exact hxy⟩
      rcases List.mem_cons.mp hw with rfl | hw
      · exact hyD
      · exact hD' w hw

/-- completeness for a general parent test `par` that implies "parent of c" away from `a` and
    "arrowhead at c" at `a` (instances: the specification's test and the code's weaker one) -/
theorem discPath_complete_gen (G : MG) (hS : Simple G) (hW : WFG G) (nb bnb : Nat → List Nat)
    (hnb : ∀ x y, y ∈ nb x ↔ adj G x y = true) (hbnb : ∀ x y, y ∈ bnb x ↔ hB G x y = true)
    (u a c maxLen : Nat) (hlen : G.nodes.length < maxLen) (par : Nat → Bool)
    (hpar : ∀ y, y ≠ a → par y = true → parentOf G y c = true) (hpara : par a = true → hD G a c = true)
    (hex : ∃ p, DiscPathP G par u a c p) :
    par a = true ∧ ∃ p ex, p ≠ [] ∧ discPath G nb bnb u a c maxLen = .ok (true, p, ex) := by
  obtain ⟨p0, hp0⟩ := hex
  obtain ⟨v, ws, rfl, hnd, hch, hin, hvc'⟩ := discPathP_iff_form.mp hp0
  have huc : adj G u c = true := by
    rw [chainB_append_singleton, List.getLast?_concat, Bool.and_eq_true] at hch
    exact hch.2
  obtain ⟨hn1, _, hc_ne⟩ := List.nodup_append.mp hnd
  obtain ⟨hn2, _, hu_ne⟩ := List.nodup_append.mp hn1
  rw [List.cons_append, List.nodup_cons] at hn2
  have hne_l : ∀ w ∈ ws ++ [a], w ∉ [u, c] := by
    intro w hw hm
    have hwA : w ∈ v :: ws ++ [a] := List.mem_cons_of_mem _ hw
    simp only [List.mem_cons, List.mem_nil_iff, or_false] at hm
    rcases hm with rfl | rfl
    · exact hu_ne w hwA w (by simp) rfl
    · exact hc_ne w (List.mem_append_left _ hwA) w (by simp) rfl
  have hvu : v ≠ u := hu_ne v (by simp) u (by simp)
  have hvc_ne : v ≠ c := hc_ne v (by simp) c (by simp)
  have hin' : innerColl G par (v :: (ws ++ [a]) ++ [u]) = true := by simpa using hin
  obtain ⟨hpa, hua⟩ := innerColl_last G _ a u (ws ++ [a]) v List.getLast?_concat hin'
  have hac : hD G a c = true := hpara hpa
  refine ⟨hpa, ?_⟩
  have hentry : discEntry G u a c = true := discEntry_iff.mpr ⟨huc, hac, hua⟩
  have hi := loop_inv (disc_hpush G u a c) (disc_hfin G u a c) (discIter G nb bnb) false maxLen _
    (discInit_inv hS hentry)
  obtain ⟨hlim, hcl⟩ := loop_found_or_closed (cls := discCls G c) (init := [u, c]) _ false
    (discIter_nodes hW hnb hbnb) hlen (s := discInit u a c) rfl rfl (by simp [discInit]) (by simp [discInit])
    (hW a c (adj_iff.mpr (.inl hac))).1
  have hae := (loop_le (cls := discCls G c) (iter := discIter G nb bnb) false maxLen (discInit u a c)).explored
    a (by simp [discInit])
  rw [discPath_eq_loop hentry]
  generalize loop (discIter G nb bnb) (discCls G c) false maxLen (discInit u a c) = s at hi hlim hcl hae
  have hfound : s.found = true := by
    rcases hcl with h | ⟨D, hDv, hq0⟩
    · exact h
    · exfalso
      obtain ⟨hallD, hhead⟩ := disc_walk hS hbnb hpar hDv hq0 hae (ws ++ [a]) v List.getLast?_concat
        hn2.2 hin' hne_l
      -- the first collider `w` is done and classifies the far end `v` as the end of the path
      cases hw : (ws ++ [a]).head? with
      | none => simp at hw
      | some w =>
        have hvw : headAt G v w = true := hhead w hw
        rw [headAt_eq] at hvw
        have hvit : v ∈ discIter G nb bnb w := by
          rw [mem_discIter]
          cases hd : hD G v w with
          | true => exact .inl ⟨(hnb w v).mpr (adj_iff.mpr (.inr (.inl hd))), possParent_of_hD hS hd⟩
          | false => exact .inr ((hbnb w v).mpr (by rw [hB_comm]; simpa [hd] using hvw))
        have hcls : discCls G c (s.desc.lookup w) w v = .fin := discCls_spec.1.mpr ⟨hhead w hw, hvc', hvc_ne⟩
        have hvD : v ∈ D := hDv.step hq0 (hallD w (List.mem_of_mem_head? hw)) hvit (by rw [hcls]; simp)
          (by simp [hvu, hvc_ne])
        -- but `v` is not `a` and, not adjacent to `c`, was never pushed
        rcases hDv.pushP v (Or.inr hvD) with h | ⟨y, _, _, hy⟩
        · simp at h; exact hn2.1 (by simp [h])
        · have := isParent_adj (discCls_spec.2.mp hy).2
          rw [hvc'] at this; cases this
  rcases discFinish_cases hi with ⟨h, _⟩ | ⟨_, h, _⟩ | ⟨_, _, l, _, hne, hp⟩
  · rw [hlim] at h; cases h
  · rw [hfound] at h; cases h
  · exact ⟨_, _, by simpa using hne, hp⟩

/-- **Completeness of `discriminating_path`.**  On every graph of the domain (one edge kind per
    pair, edges join nodes, fewer nodes than the pop limit), for every iteration order of the
    neighbour sets and of the bidirected layer, and all u, a, c: if a discriminating path
    `(v,…,a,u,c)` exists, the model returns `found = True` together with a discriminating path. -/
theorem discPath_complete (G : MG) (hS : Simple G) (hW : WFG G) (nb bnb : Nat → List Nat)
    (hnb : ∀ x y, y ∈ nb x ↔ adj G x y = true) (hbnb : ∀ x y, y ∈ bnb x ↔ hB G x y = true)
    (u a c maxLen : Nat) (hlen : G.nodes.length < maxLen) (hex : ∃ p, DiscPath G u a c p) :
    ∃ p ex, discPath G nb bnb u a c maxLen = .ok (true, p, ex) ∧ DiscPath G u a c p := by
  obtain ⟨hpa, p, ex, hpne, hp⟩ := discPath_complete_gen G hS hW nb bnb hnb hbnb u a c maxLen hlen
    (fun y => parentOf G y c) (fun _ _ h => h) (fun h => (hD_of_parentOf hS h).1) hex
  exact ⟨p, ex, hp, discPath_sound G hS nb bnb u a c maxLen p ex hp hpne (hD_of_parentOf hS hpa).2⟩

/-- **the model of `discriminating_path` decides exactly the weak specification** (no side
    condition): found ⇔ a path exists that satisfies every clause of the property with "a is a parent
    of c" weakened to "the edge a *-* c has an arrowhead at c".  This is the precise content of the
    known finding `C18-disc-a-possible-parent`. -/
theorem discPath_found_iff_weak (G : MG) (hS : Simple G) (hW : WFG G) (nb bnb : Nat → List Nat)
    (hnb : ∀ x y, y ∈ nb x ↔ adj G x y = true) (hbnb : ∀ x y, y ∈ bnb x ↔ hB G x y = true)
    (u a c maxLen : Nat) (hlen : G.nodes.length < maxLen) :
    (∃ p ex, p ≠ [] ∧ discPath G nb bnb u a c maxLen = .ok (true, p, ex)) ↔ ∃ p, DiscPathWeak G u a c p := by
  constructor
  · rintro ⟨p, ex, hp, h⟩
    exact ⟨p, discPath_sound_weak G hS nb bnb u a c maxLen p ex h hp⟩
  · intro hex
    refine (discPath_complete_gen G hS hW nb bnb hnb hbnb u a c maxLen hlen
      (parWeak G a c) ?_ ?_ hex).2
    · intro y hya h
      rcases parWeak_iff.mp h with h | ⟨h, _⟩
      · exact h
      · exact absurd h hya
    · intro h
      rcases parWeak_iff.mp h with h | ⟨_, h⟩
      · exact (hD_of_parentOf hS h).1
      · exact h

/-- **`discriminating_path`: found ⇔ a discriminating path exists** (model = spec), outside the known
    finding (`a o-> c`): for every graph of the domain, all iteration orders and all node triples. -/
theorem discPath_found_iff (G : MG) (hS : Simple G) (hW : WFG G) (nb bnb : Nat → List Nat)
    (hnb : ∀ x y, y ∈ nb x ↔ adj G x y = true) (hbnb : ∀ x y, y ∈ bnb x ↔ hB G x y = true)
    (u a c maxLen : Nat) (hlen : G.nodes.length < maxLen) (hcirc : hC G c a = false) :
    (∃ p ex, p ≠ [] ∧ discPath G nb bnb u a c maxLen = .ok (true, p, ex)) ↔ ∃ p, DiscPath G u a c p := by
  constructor
  · rintro ⟨p, ex, hp, h⟩
    exact ⟨p, discPath_sound G hS nb bnb u a c maxLen p ex h hp hcirc⟩
  · intro hex
    obtain ⟨p, ex, h, hd⟩ := discPath_complete G hS hW nb bnb hnb hbnb u a c maxLen hlen hex
    refine ⟨p, ex, ?_, h⟩
    intro e; subst e; have := hd.1; simp at this

end C18
