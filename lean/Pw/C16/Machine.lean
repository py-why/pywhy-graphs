import Pw.C16.Proofs

/-! # C16: the `while stack:` loop of `_all_semi_directed_paths_graph`, literally, and its refinement to
the recursive model `dfs`

`run` is the loop as a state machine, one iteration per unit of fuel: the state is the stack of
neighbour iterators (each the list of neighbours not yet consumed), and `visited` (reversed, so its
head is `prev_nodes[-1]`).  Output = the yielded paths in order. -/
namespace C16

/-- yields of the `len(visited) == cutoff` branch when the iterator still holds `l` (current `nbr` first) -/
def sweep (G : MG) (T : List Nat) (vis : List Nat) (prev : Nat) (l : List Nat) : List (List Nat) :=
  (l.filter fun t => decide (t ∈ T) && decide (t ∉ vis) && !decide (Arrow G t prev)).map fun t => (t :: vis).reverse

/-- the loop; `vis = prev :: before` is never empty while the stack is non-empty -/
def run (G : MG) (T : List Nat) (cutoff : Nat) : Nat → List (List Nat) → List Nat → List (List Nat)
  | 0, _, _ => []
  | _ + 1, [], _ => []                                            -- `while stack:` ends
  | fuel + 1, [] :: rest, vis => run G T cutoff fuel rest vis.tail   -- `nbr is None`: pop
  | fuel + 1, (nbr :: nbrs') :: rest, vis =>
    let prev := vis.headD 0
    if skip G vis prev nbr then run G T cutoff fuel (nbrs' :: rest) vis          -- `continue`
    else if vis.length < cutoff then
      if nbr ∈ vis then run G T cutoff fuel (nbrs' :: rest) vis                  -- `continue`
      else
        (if nbr ∈ T then [(nbr :: vis).reverse] else []) ++                       -- `yield`
        (if T.any (fun t => decide (t ∉ nbr :: vis)) then
            run G T cutoff fuel (nbrs G nbr :: nbrs' :: rest) (nbr :: vis)       -- push
          else run G T cutoff fuel (nbrs' :: rest) vis)                          -- `visited.popitem()`
    else
      sweep G T vis prev (nbr :: nbrs') ++ run G T cutoff fuel rest vis.tail     -- final sweep, pop

theorem run_pop {G : MG} {T : List Nat} {cutoff fuel : Nat} {rest : List (List Nat)} (vis : List Nat) :
    run G T cutoff (fuel + 1) ([] :: rest) vis = run G T cutoff fuel rest vis.tail := by
  rw [run]

theorem run_cons {G : MG} {T : List Nat} {cutoff fuel prev nbr : Nat} {before nbrs' : List Nat}
    {rest : List (List Nat)} :
    run G T cutoff (fuel + 1) ((nbr :: nbrs') :: rest) (prev :: before) =
      if skip G (prev :: before) prev nbr then run G T cutoff fuel (nbrs' :: rest) (prev :: before)
      else if (prev :: before).length < cutoff then
        if nbr ∈ prev :: before then run G T cutoff fuel (nbrs' :: rest) (prev :: before)
        else
          (if nbr ∈ T then [(nbr :: prev :: before).reverse] else []) ++
          (if T.any (fun t => decide (t ∉ nbr :: prev :: before)) then
              run G T cutoff fuel (nbrs G nbr :: nbrs' :: rest) (nbr :: prev :: before)
            else run G T cutoff fuel (nbrs' :: rest) (prev :: before))
      else sweep G T (prev :: before) prev (nbr :: nbrs') ++ run G T cutoff fuel rest before := by
  rw [run]; rfl

/-- `dfs` run on what is left of the neighbour iterator of `prev` -/
def body (G : MG) (T : List Nat) : Nat → Nat → List Nat → List Nat → List (List Nat)
  | 0, _, _, _ => []
  | 1, prev, before, frame =>
    match frame.dropWhile (skip G (prev :: before) prev) with
    | [] => []
    | nbr :: rest => sweep G T (prev :: before) prev (nbr :: rest)
  | rem + 2, prev, before, frame => frame.flatMap (piece G T (rem + 1) prev before)

theorem body_nbrs (G : MG) (T : List Nat) (rem prev : Nat) (before : List Nat) (hrem : 1 ≤ rem) :
    body G T rem prev before (nbrs G prev) = dfs G T rem prev before := by
  match rem, hrem with
  | 1, _ => rw [dfs]; rfl
  | rem + 2, _ => exact (dfs_succ G T rem prev before).symm

/-- **frame lemma**: on a stack whose top frame is an unconsumed suffix of the neighbours of `prev`, with
    `len(visited) + rem = cutoff + 1`, the loop yields `body frame`, pops the frame after `k` iterations
    and continues with the rest of the stack -/
theorem run_frame (G : MG) (T : List Nat) (cutoff : Nat) :
    ∀ (rem : Nat), 1 ≤ rem → ∀ (frame : List Nat) (prev : Nat) (before : List Nat) (rest : List (List Nat)),
      before.length + 1 + rem = cutoff + 1 →
      ∃ k, ∀ fuel, run G T cutoff (fuel + k) (frame :: rest) (prev :: before) =
        body G T rem prev before frame ++ run G T cutoff fuel rest before := by
  intro rem
  induction rem with
  | zero => exact fun h => absurd h (Nat.not_succ_le_zero 0)
  | succ rem ihrem =>
    intro _ frame prev before rest hlen
    cases rem with
    | zero =>
      -- `len(visited) == cutoff`
      have hlt : ¬ (prev :: before).length < cutoff := Nat.not_lt.mpr (Nat.le_of_eq (Nat.succ.inj hlen).symm)
      induction frame with
      | nil => exact ⟨1, fun fuel => run_pop _⟩
      | cons nbr nbrs' ih =>
        by_cases hs : skip G (prev :: before) prev nbr = true
        · obtain ⟨k, hk⟩ := ih
          refine ⟨k + 1, fun fuel => ?_⟩
          rw [← Nat.add_assoc, run_cons, if_pos hs, hk, body, body, List.dropWhile_cons, if_pos hs]
        · refine ⟨1, fun fuel => ?_⟩
          rw [run_cons, if_neg hs, if_neg hlt, body, List.dropWhile_cons, if_neg hs]
    | succ rem =>
      -- `len(visited) < cutoff`
      have hlt : (prev :: before).length < cutoff :=
        Nat.lt_of_lt_of_eq (Nat.lt_add_of_pos_right (Nat.succ_pos rem)) (Nat.succ.inj hlen)
      induction frame with
      | nil => exact ⟨1, fun fuel => run_pop _⟩
      | cons nbr nbrs' ih =>
        obtain ⟨k, hk⟩ := ih
        rw [body, List.flatMap_cons, piece]
        by_cases hs : skip G (prev :: before) prev nbr = true
        · exact ⟨k + 1, fun fuel => by rw [← Nat.add_assoc, run_cons, if_pos hs, hk, if_pos hs, body]; rfl⟩
        · rw [if_neg hs]
          by_cases hv : nbr ∈ prev :: before
          · refine ⟨k + 1, fun fuel => ?_⟩
            rw [← Nat.add_assoc, run_cons, if_neg hs, if_pos hlt, if_pos hv, hk, if_pos hv, body]; rfl
          · rw [if_neg hv]
            by_cases ha : (T.any fun t => decide (t ∉ nbr :: prev :: before)) = true
            · -- push the frame of `nbr`; by the induction hypothesis it is processed and popped
              obtain ⟨k', hk'⟩ := ihrem (Nat.le_add_left 1 rem) (nbrs G nbr) nbr (prev :: before) (nbrs' :: rest)
                ((Nat.succ_add _ _).trans hlen)
              refine ⟨k + k' + 1, fun fuel => ?_⟩
              rw [← Nat.add_assoc, run_cons, if_neg hs, if_pos hlt, if_neg hv, if_pos ha, if_pos ha, ← Nat.add_assoc,
                hk', hk, body_nbrs G T (rem + 1) nbr (prev :: before) (Nat.le_add_left 1 rem), body]
              simp only [List.append_assoc]
            · refine ⟨k + 1, fun fuel => ?_⟩
              rw [← Nat.add_assoc, run_cons, if_neg hs, if_pos hlt, if_neg hv, if_neg ha, if_neg ha, hk, body,
                List.append_nil, List.append_assoc]

/-- ★ **the loop is the recursive model**: started as in the code (`visited = {source}`,
    `stack = [iter(G.neighbors(source))]`) it ends with an empty stack, having yielded exactly `dfs`, in order -/
theorem run_refines_dfs (G : MG) (T : List Nat) (cutoff : Nat) (hc : 1 ≤ cutoff) (s : Nat) :
    ∃ k, ∀ fuel, run G T cutoff (fuel + 1 + k) [nbrs G s] [s] = dfs G T cutoff s [] := by
  obtain ⟨k, hk⟩ := run_frame G T cutoff cutoff hc (nbrs G s) s [] [] (Nat.add_comm _ _)
  refine ⟨k, fun fuel => ?_⟩
  rw [hk (fuel + 1), body_nbrs G T cutoff s [] hc, run, List.append_nil]

end C16

namespace C16
/-- the loop run on a concrete graph (`0 o-> 1 <-> 2 -- 3`, `0 o-o 3`, `1 <- 3`; source 0, targets {2,3},
    cutoff 3): 30 iterations suffice, the yields are those of `dfs` -/
example : run ⟨[0, 1, 2, 3], [(0, 1), (3, 1)], [(1, 2)], [(2, 3)], [(1, 0), (0, 3), (3, 0)]⟩ [2, 3] 3 30
    [nbrs ⟨[0, 1, 2, 3], [(0, 1), (3, 1)], [(1, 2)], [(2, 3)], [(1, 0), (0, 3), (3, 0)]⟩ 0] [0] = [[0, 3], [0, 3, 2]] := by
  decide +kernel
end C16
