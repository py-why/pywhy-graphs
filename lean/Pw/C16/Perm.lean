import Pw.C16.Proofs

/-! # C16: the yielded list is a permutation of the specification's list ("once each and nothing else") -/
namespace C16

theorem nodup_wantedDec {G : MG} (hn : G.nodes.Nodup) (s : Nat) (T : List Nat) (cutoff : Option Nat) :
    (wantedDec G s T cutoff).Nodup :=
  List.Pairwise.filter _ (nodup_simplePaths hn s)

/-- ★ **C16, first sentence, as one statement**: the list yielded by the model is a permutation of the
    duplicate-free list of all wanted paths – each wanted path once, nothing else -/
theorem allSemiDirectedPaths_perm_wantedDec {G : MG} (hn : G.nodes.Nodup) {s : Nat} {T : List Nat}
    {cutoff : Option Nat} {l : List (List Nat)} (hs : s ∈ G.nodes) (hsT : s ∉ T)
    (h : allSemiDirectedPaths G s T cutoff = some l) : l.Perm (wantedDec G s T cutoff) :=
  (List.perm_ext_iff_of_nodup (nodup_allSemiDirectedPaths hn h) (nodup_wantedDec hn s T cutoff)).mpr
    (allSemiDirectedPaths_eq_wantedDec hs hsT h)

/-- ★ "exactly the paths for which `is_semi_directed_path` is True": the yielded paths are the node lists
    accepted by the model of `is_semi_directed_path` that start at `s`, end in `T` and respect the cutoff -/
theorem mem_allSemiDirectedPaths_iff_isSemiDirectedPath {G : MG} (hc : CircOK G) {s : Nat} {T : List Nat}
    {cutoff : Option Nat} {l : List (List Nat)} (hs : s ∈ G.nodes) (hsT : s ∉ T)
    (h : allSemiDirectedPaths G s T cutoff = some l) (p : List Nat) :
    p ∈ l ↔ isSemiDirectedPath G p = true ∧ p.head? = some s ∧ (∃ t ∈ T, p.getLast? = some t) ∧
      2 ≤ p.length ∧ p.length ≤ effCutoff G cutoff + 1 := by
  rw [mem_allSemiDirectedPaths hs hsT h, isSemiDirectedPath_iff hc]
  rfl

end C16
