import Pw.C16.Possible

/-! # C16: non-vacuity examples (the hypotheses of the theorems are satisfiable by a non-trivial input) and
the witness of the repaired defect -/
namespace C16

/-- `0 o-> 1 <-> 2 -- 3`, `0 o-o 3`, `1 <- 3` -/
def exG : MG := { nodes := [0, 1, 2, 3], dir := [(0, 1), (3, 1)], bi := [(1, 2)], un := [(2, 3)],
                  circ := [(1, 0), (0, 3), (3, 0)] }

example : WF exG ∧ CircOK exG ∧ exG.nodes.Nodup ∧ 0 ∈ exG.nodes ∧ 0 ∉ [2, 3] := by decide +kernel

/-- the model on a concrete query: two semi-directed paths, one of them ends in the cutoff branch -/
example : allSemiDirectedPaths exG 0 [2, 3] none = some [[0, 3], [0, 3, 2]] := by decide +kernel
example : allSemiDirectedPaths exG 0 [2, 3] (some 1) = some [[0, 3]] := by decide +kernel

/-- `mem_allSemiDirectedPaths` applied: `[0,3,2]` is wanted, `[0,1,2]` is not (arrowhead at 1 on `1 <-> 2`) -/
example : Wanted exG 0 [2, 3] (effCutoff exG none) [0, 3, 2] :=
  (mem_allSemiDirectedPaths (G := exG) (l := [[0, 3], [0, 3, 2]]) (by decide) (by decide) (by decide +kernel) _).mp
    (by decide)
example : ¬ Wanted exG 0 [2, 3] (effCutoff exG none) [0, 1, 2] := by decide +kernel

example : isSemiDirectedPath exG [0, 3, 2] = true ∧ isSemiDirectedPath exG [0, 1, 2] = false ∧
    isSemiDirectedPath exG [0, 3, 0] = false := by decide +kernel

/-- `mem_possibleDescendants` / `mem_possibleAncestors` applied with their hypotheses discharged -/
example : 2 ∈ possibleDescendants exG 0 :=
  (mem_possibleDescendants (G := exG) (by decide +kernel) (by decide) 2).mpr
    (Or.inr ⟨[0, 3, 2], by decide +kernel, rfl, rfl⟩)
example : 0 ∈ possibleAncestors exG 2 :=
  (mem_possibleAncestors (G := exG) (by decide +kernel) (by decide) 0).mpr
    (Or.inr ⟨[0, 3, 2], by decide +kernel, rfl, rfl⟩)
example : 1 ∉ possibleAncestors exG 0 := by
  rw [mem_possibleAncestors (G := exG) (by decide +kernel) (by decide), ← mem_possAncDec (by decide)]
  decide +kernel

/-- witness of the repaired defect (`0 -> 2 <- 1`, source 0, target 1): the specification has no
    path, and neither has the model of the repaired code; the unrepaired code yielded `[0, 2, 1]` -/
def witG : MG := { nodes := [0, 1, 2], dir := [(0, 2), (1, 2)] }
example : allSemiDirectedPaths witG 0 [1] none = some [] := by decide +kernel
example : ¬ SemiDirected witG [0, 2, 1] := by decide +kernel

end C16
