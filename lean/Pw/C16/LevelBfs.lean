import Pw.C17.Bfs
import Pw.C16.Model
open Closure

/-! # C16: the level-synchronous loop of `_single_shortest_path_early_stop`, literally, and its refinement
to the worklist closure used by `possibleDescendants` / `possibleAncestors`

```
while nextlevel and cutoff > level:          # cutoff = inf
    thislevel = nextlevel; nextlevel = {}
    for v in thislevel:
        for w in G.neighbors(v):
            if w not in paths and valid_path(G, v, w):
                paths[w] = …; nextlevel[w] = 1
```
`levelStep` is the `for v in thislevel` loop (`C17.pushNew` is its inner loop: append the successors that are
not yet keys of `paths`), `levelRun` the `while` loop (one level per unit of fuel), result = the keys of
`paths`. -/
namespace C16
open C17
variable {α : Type} [DecidableEq α]

def levelStep (step : α → List α) : List α → List α → List α → List α × List α
  | [], next, seen => (next, seen)
  | v :: level, next, seen =>
    levelStep step level (pushNew (step v) next seen).1 (pushNew (step v) next seen).2

def levelRun (step : α → List α) : Nat → List α → List α → List α
  | 0, _, seen => seen
  | _ + 1, [], seen => seen
  | fuel + 1, v :: level, seen =>
    levelRun step fuel (levelStep step (v :: level) [] seen).1 (levelStep step (v :: level) [] seen).2

/-- the pending nodes of the `for v in thislevel` loop are the rest of this level and the next level -/
theorem levelStep_inv {U : List α} {step : α → List α} {init : List α} (hstep : ∀ a ∈ U, ∀ b ∈ step a, b ∈ U)
    (level next seen : List α) (h : Inv U step init (level ++ next) seen) :
    Inv U step init (levelStep step level next seen).1 (levelStep step level next seen).2 ∧
      work U (levelStep step level next seen).1 (levelStep step level next seen).2 ≤ work U next seen := by
  induction level generalizing next seen with
  | nil => exact ⟨h, Nat.le_refl _⟩
  | cons v level ih =>
    rw [levelStep]
    obtain ⟨h', hw'⟩ := ih _ _
      (h.pop hstep (pend := level ++ next) (pend' := level ++ (pushNew (step v) next seen).1)
        (fun a => by rw [List.mem_append, List.mem_append, mem_pushNew_queue, or_assoc]) mem_pushNew_seen)
    exact ⟨h', Nat.le_trans hw'
      (work_pushNew U (step v) next seen (hstep v (h.seen_U v (h.pend_seen v List.mem_cons_self))))⟩

theorem levelRun_inv {U : List α} {step : α → List α} {init : List α} (hstep : ∀ a ∈ U, ∀ b ∈ step a, b ∈ U)
    (fuel : Nat) (level seen : List α) (hf : level = [] ∨ work U [] seen < fuel) (h : Inv U step init level seen) :
    Inv U step init [] (levelRun step fuel level seen) := by
  induction fuel generalizing level seen with
  | zero =>
    rcases hf with rfl | hf
    · exact h
    · exact absurd hf (Nat.not_lt_zero _)
  | succ fuel ih =>
    cases level with
    | nil => exact h
    | cons v level =>
      rw [levelRun]
      obtain ⟨h', hw'⟩ := levelStep_inv hstep (v :: level) [] seen (by rwa [List.append_nil])
      refine ih _ _ ?_ h'
      -- a non-empty next level `c :: q`: as many unseen nodes were marked, so
      -- `work [] seen' ≤ work q seen' < work [] seen ≤ fuel`
      cases hq : (levelStep step (v :: level) [] seen).1 with
      | nil => exact Or.inl rfl
      | cons c q =>
        rw [hq, work_cons] at hw'
        exact Or.inr (Nat.lt_of_lt_of_le
          (Nat.lt_of_le_of_lt (Nat.add_le_add_right (Nat.zero_le q.length) _) (Nat.lt_of_succ_le hw'))
          (Nat.le_of_lt_succ (hf.resolve_left (List.cons_ne_nil _ _))))

/-- ★ with `|U| + 1` levels of fuel the loop ends with `paths.keys()` = the set reachable from the source -/
theorem mem_levelRun (U : List α) (step : α → List α) (s : α) (hs : s ∈ U)
    (hstep : ∀ a ∈ U, ∀ b ∈ step a, b ∈ U) (r : α) :
    r ∈ levelRun step (U.length + 1) [s] [s] ↔ r ∈ closure U step [s] := by
  rw [mem_closure]
  have hu : work U [] [s] < U.length + 1 := Nat.lt_succ_of_le (Nat.zero_add U.length ▸ work_le U [] [s])
  exact (levelRun_inv hstep _ [s] [s] (Or.inr hu)
    (Inv.start fun a ha => List.mem_singleton.mp ha ▸ hs)).mem_iff r

theorem pdStep_nodes (G : MG) (rev : Bool) : ∀ a ∈ G.nodes, ∀ b ∈ pdStep G rev a, b ∈ G.nodes := by
  intro a _ b hb
  unfold pdStep at hb
  exact (mem_nbrs.mp (List.mem_filter.mp hb).1).1

/-- `possible_descendants` / `possible_ancestors` with the literal loop of `single_source_shortest_mixed_path` -/
def possibleLoop (G : MG) (rev : Bool) (s : Nat) : List Nat :=
  levelRun (pdStep G rev) (G.nodes.length + 1) [s] [s]

/-- ★ the closure model of `possible_descendants` is the literal level-by-level BFS -/
theorem mem_possibleLoop_desc {G : MG} {s : Nat} (hs : s ∈ G.nodes) (v : Nat) :
    v ∈ possibleLoop G false s ↔ v ∈ possibleDescendants G s :=
  mem_levelRun G.nodes (pdStep G false) s hs (pdStep_nodes G false) v

theorem mem_possibleLoop_anc {G : MG} {s : Nat} (hs : s ∈ G.nodes) (v : Nat) :
    v ∈ possibleLoop G true s ↔ v ∈ possibleAncestors G s :=
  mem_levelRun G.nodes (pdStep G true) s hs (pdStep_nodes G true) v

end C16
