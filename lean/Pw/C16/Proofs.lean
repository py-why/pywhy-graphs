import Pw.C16.Model
import Pw.C16.Spec
open Closure

/-! # C16 theorems: model = specification, for every graph and every query -/
namespace C16

theorem SemiDirected.isPath {G : MG} {p : List Nat} (h : SemiDirected G p) : IsPath G p :=
  ⟨h.2.1, h.2.2.1, h.2.2.2.imp fun _ _ h => h.1⟩

theorem hasEdgeAny_iff_adj {G : MG} (hc : CircOK G) {u v : Nat} (hna : ¬ Arrow G v u) :
    HasEdgeAny G u v ↔ Adj G u v := by
  have h1 : (v, u) ∉ G.dir := fun h => hna (Or.inl h)
  have h2 : (v, u) ∉ G.bi := fun h => hna (Or.inr (Or.inl h))
  have h3 : (u, v) ∉ G.bi := fun h => hna (Or.inr (Or.inr h))
  simp only [HasEdgeAny, Adj, h1, h2, h3, false_or]
  constructor
  · rintro (h | h | h | h)
    · exact .inl h
    · exact .inr (.inr (.inr (.inl h)))
    · exact .inr (.inl h)
    · exact .inr (.inr (.inl h))
  · rintro (h | h | h | h | h)
    · exact .inl h
    · exact .inr (.inr (.inl h))
    · exact .inr (.inr (.inr h))
    · exact .inr (.inl h)
    · -- a circle mark at `u` comes with a circle or an arrowhead at `v`
      exact (hc _ h).elim (fun h' => .inr (.inl h')) .inl

theorem edgesOK_iff {G : MG} (hc : CircOK G) (p : List Nat) : edgesOK G p = true ↔ ChainP (Hop G) p := by
  induction p with
  | nil => exact ⟨fun _ => trivial, fun _ => rfl⟩
  | cons u p ih =>
    cases p with
    | nil => exact ⟨fun _ => trivial, fun _ => rfl⟩
    | cons v rest =>
      rw [edgesOK, chainP_cons_cons, Hop]
      by_cases ha : Arrow G v u
      · rw [if_pos ha]
        exact ⟨(fun h => nomatch h), fun h => absurd ha h.1.2⟩
      · rw [if_neg ha, ← hasEdgeAny_iff_adj hc ha]
        by_cases he : HasEdgeAny G u v
        · rw [if_neg fun h => h he, ih]
          exact ⟨fun h => ⟨⟨he, ha⟩, h⟩, fun h => h.2⟩
        · rw [if_pos he]
          exact ⟨(fun h => nomatch h), fun h => absurd h.1.1 he⟩

theorem ite_not_false {c : Prop} [Decidable c] {b : Bool} : (if ¬ c then false else b) = true ↔ c ∧ b = true := by
  by_cases h : c <;> simp [h]

/-- ★ `is_semi_directed_path(G, nodes)` is `True` exactly for the semi-directed paths of the
    specification (on graphs whose pairs carry one of the property's edge kinds) -/
theorem isSemiDirectedPath_iff {G : MG} (hc : CircOK G) (p : List Nat) :
    isSemiDirectedPath G p = true ↔ SemiDirected G p := by
  unfold isSemiDirectedPath SemiDirected
  match p with
  | [] => simp
  | [a] => simp
  | a :: b :: rest =>
    show (if ¬ (∀ n ∈ a :: b :: rest, n ∈ G.nodes) then false
          else if ¬ (a :: b :: rest).Nodup then false else edgesOK G (a :: b :: rest)) = true ↔ _
    rw [ite_not_false, ite_not_false, edgesOK_iff hc]
    exact ⟨fun h => ⟨List.cons_ne_nil _ _, h⟩, fun h => h.2⟩

/-- the paths the DFS still has to produce from the state `visited = (prev :: before).reverse` with
    `rem` edges left -/
def Ext (G : MG) (T : List Nat) (rem prev : Nat) (before p : List Nat) : Prop :=
  ∃ ext, p = (prev :: before).reverse ++ ext ∧ ext ≠ [] ∧ ext.length ≤ rem ∧
    Extends G (Hop G) prev before ext ∧ lastOf prev ext ∈ T

theorem filter_dropWhile {α} (sk f : α → Bool) (h : ∀ a, sk a = true → f a = false) (l : List α) :
    (l.dropWhile sk).filter f = l.filter f := by
  induction l with
  | nil => rfl
  | cons a l ih =>
    rw [List.dropWhile_cons]
    by_cases hs : sk a = true
    · rw [if_pos hs, ih, List.filter_cons_of_neg (by simp [h a hs])]
    · rw [if_neg hs]

/-- the neighbours dropped before the final sweep are no admissible targets -/
theorem dfs_one (G : MG) (T : List Nat) (prev : Nat) (before : List Nat) :
    dfs G T 1 prev before =
      ((nbrs G prev).filter fun t =>
          decide (t ∈ T) && decide (t ∉ prev :: before) && !decide (Arrow G t prev)).map
        fun t => (t :: prev :: before).reverse := by
  have hskip : ∀ t, skip G (prev :: before) prev t = true →
      (decide (t ∈ T) && decide (t ∉ prev :: before) && !decide (Arrow G t prev)) = false := by
    intro t h
    rw [skip, Bool.and_eq_true, decide_eq_true_eq] at h
    rw [decide_eq_true h.1, Bool.not_true, Bool.and_false]
  rw [dfs, ← filter_dropWhile _ _ hskip]
  cases List.dropWhile (skip G (prev :: before) prev) (nbrs G prev) <;> rfl

/-- what the neighbour `nbr` contributes in the `len(visited) < cutoff` branch -/
def piece (G : MG) (T : List Nat) (rem prev : Nat) (before : List Nat) (nbr : Nat) : List (List Nat) :=
  if skip G (prev :: before) prev nbr then []
  else if nbr ∈ prev :: before then []
  else
    (if nbr ∈ T then [(nbr :: prev :: before).reverse] else []) ++
    (if T.any (fun t => decide (t ∉ nbr :: prev :: before)) then dfs G T rem nbr (prev :: before) else [])

theorem dfs_succ (G : MG) (T : List Nat) (rem prev : Nat) (before : List Nat) :
    dfs G T (rem + 2) prev before = (nbrs G prev).flatMap (piece G T (rem + 1) prev before) := by
  rw [dfs]; rfl

theorem mem_piece {G : MG} {T : List Nat} {rem prev : Nat} {before : List Nat} {nbr : Nat} {p : List Nat} :
    p ∈ piece G T rem prev before nbr ↔
      nbr ∉ prev :: before ∧ ¬ Arrow G nbr prev ∧
        (nbr ∈ T ∧ p = (nbr :: prev :: before).reverse ∨
          (∃ t ∈ T, t ∉ nbr :: prev :: before) ∧ p ∈ dfs G T rem nbr (prev :: before)) := by
  unfold piece skip
  simp only [List.mem_ite_nil_left, List.mem_append, List.mem_ite_nil_right, List.mem_singleton, List.any_eq_true,
    Bool.and_eq_true, decide_eq_true_eq]
  exact ⟨fun ⟨hs, hv, h⟩ => ⟨hv, fun ha => hs ⟨ha, hv⟩, h⟩, fun ⟨hv, ha, h⟩ => ⟨fun hs => ha hs.1, hv, h⟩⟩

theorem mem_dfs_succ {G : MG} {T : List Nat} {prev : Nat} {before p : List Nat} {rem : Nat} :
    p ∈ dfs G T (rem + 1) prev before ↔ ∃ nbr ∈ nbrs G prev, p ∈ piece G T rem prev before nbr := by
  cases rem with
  | zero =>
    -- the final sweep yields what the general step yields when nothing may follow
    rw [dfs_one]
    simp only [List.mem_map, List.mem_filter, Bool.and_eq_true, decide_eq_true_eq, Bool.not_eq_eq_eq_not,
      Bool.not_true, decide_eq_false_iff_not, mem_piece]
    constructor
    · rintro ⟨t, ⟨ht, ⟨hT, hv⟩, ha⟩, rfl⟩
      exact ⟨t, ht, hv, ha, Or.inl ⟨hT, rfl⟩⟩
    · rintro ⟨t, ht, hv, ha, ⟨hT, rfl⟩ | ⟨-, h⟩⟩
      · exact ⟨t, ⟨ht, ⟨hT, hv⟩, ha⟩, rfl⟩
      · rw [dfs] at h; nomatch h
  | succ rem => rw [dfs_succ, List.mem_flatMap]

theorem mem_dfs (G : MG) (T : List Nat) (rem prev : Nat) (before p : List Nat) :
    p ∈ dfs G T rem prev before ↔ Ext G T rem prev before p := by
  induction rem generalizing prev before p with
  | zero =>
    rw [dfs]
    refine ⟨(fun h => nomatch h), ?_⟩
    rintro ⟨ext, -, hne, hlen, -⟩
    exact absurd (List.eq_nil_of_length_eq_zero (Nat.le_zero.mp hlen)) hne
  | succ rem ih =>
    simp only [mem_dfs_succ, mem_piece, mem_nbrs, ih]
    constructor
    · rintro ⟨nbr, ⟨hn, hadj⟩, hvis, hna, ⟨hT, rfl⟩ | ⟨-, ext, rfl, -, hlen, hext, hlast⟩⟩
      · exact ⟨[nbr], List.reverse_cons, List.cons_ne_nil _ _, Nat.le_add_left _ _,
          ⟨⟨hn, ⟨hadj, hna⟩, hvis⟩, trivial⟩, hT⟩
      · exact ⟨nbr :: ext, reverse_cons_append nbr _ ext, List.cons_ne_nil _ _, Nat.succ_le_succ hlen,
          ⟨⟨hn, ⟨hadj, hna⟩, hvis⟩, hext⟩, hlast⟩
    · rintro ⟨ext, rfl, hne, hlen, hext, hlast⟩
      cases ext with
      | nil => exact absurd rfl hne
      | cons nbr ext =>
        obtain ⟨⟨hn, hhop, hvis⟩, hext⟩ := hext
        refine ⟨nbr, ⟨hn, hhop.1⟩, hvis, hhop.2, ?_⟩
        cases ext with
        | nil => exact Or.inl ⟨hlast, List.reverse_cons.symm⟩
        | cons c ext =>
          -- the pruning test passes: the end of the path is an unvisited target
          have hfresh := hext.fresh (lastOf_mem_tail (a := nbr) (List.cons_ne_nil c ext))
          exact Or.inr ⟨⟨_, hlast, hfresh⟩, c :: ext, (reverse_cons_append nbr _ _).symm, List.cons_ne_nil _ _,
            Nat.le_of_succ_le_succ hlen, hext, hlast⟩

theorem cutoffOf_eq (G : MG) (c : Option Nat) : cutoffOf G c = effCutoff G c := by cases c <;> rfl

theorem allSemiDirectedPaths_eq {G : MG} {s : Nat} {T : List Nat} (hs : s ∈ G.nodes) (hsT : s ∉ T)
    (cutoff : Option Nat) : allSemiDirectedPaths G s T cutoff = some (dfs G T (effCutoff G cutoff) s []) := by
  unfold allSemiDirectedPaths
  rw [if_neg (fun h => h hs), if_neg hsT, cutoffOf_eq]
  dsimp only
  split
  · rename_i h; rw [Nat.lt_one_iff.mp h]; rfl
  · rfl

/-- ★ **main theorem**: the model of `all_semi_directed_paths(G, s, T, cutoff)` yields exactly the
    semi-directed simple paths from `s` to a member of `T` with 1 … cutoff edges -/
theorem mem_allSemiDirectedPaths {G : MG} {s : Nat} {T : List Nat} {cutoff : Option Nat} {l : List (List Nat)}
    (hs : s ∈ G.nodes) (hsT : s ∉ T) (h : allSemiDirectedPaths G s T cutoff = some l) (p : List Nat) :
    p ∈ l ↔ Wanted G s T (effCutoff G cutoff) p := by
  rw [allSemiDirectedPaths_eq hs hsT] at h
  cases h
  rw [mem_dfs]
  constructor
  · rintro ⟨ext, rfl, hne, hlen, hext, hlast⟩
    exact ⟨⟨List.cons_ne_nil _ _, (extends_root hs).mp hext⟩, rfl, ⟨_, hlast, getLast?_cons_eq_lastOf s ext⟩,
      Nat.succ_le_succ (List.length_pos_iff.mpr hne), Nat.succ_le_succ hlen⟩
  · rintro ⟨⟨-, hp⟩, hh, ⟨t, htT, hl⟩, h2, h3⟩
    obtain ⟨ext, rfl⟩ := List.head?_eq_some_iff.mp hh
    refine ⟨ext, rfl, ?_, Nat.le_of_succ_le_succ h3, (extends_root hs).mpr hp, ?_⟩
    · rintro rfl; exact Nat.not_succ_le_self 1 h2
    · exact Option.some.inj ((getLast?_cons_eq_lastOf s ext).symm.trans hl) ▸ htT

/-- ★ with `cutoff=None` the bound is no restriction: every simple path has at most `|V|-1` edges -/
theorem wanted_none_iff {G : MG} {s : Nat} {T : List Nat} (p : List Nat) :
    Wanted G s T (effCutoff G none) p ↔
      SemiDirected G p ∧ p.head? = some s ∧ (∃ t ∈ T, p.getLast? = some t) ∧ 2 ≤ p.length := by
  unfold Wanted
  show _ ∧ _ ∧ _ ∧ _ ∧ p.length ≤ (G.nodes.length - 1) + 1 ↔ _
  constructor
  · rintro ⟨h1, h2, h3, h4, -⟩; exact ⟨h1, h2, h3, h4⟩
  · rintro ⟨h1, h2, h3, h4⟩
    refine ⟨h1, h2, h3, h4, ?_⟩
    have := h1.isPath.length_le
    omega

theorem ite_sublist {α} {c : Prop} [Decidable c] {l l' m : List α} (h : l.Sublist m) (h' : l'.Sublist m) :
    (if c then l else l').Sublist m := by
  split
  · exact h
  · exact h'

theorem piece_sublist (G : MG) (T : List Nat) (rem prev : Nat) (before : List Nat) (nbr : Nat) :
    (piece G T rem prev before nbr).Sublist
      ((nbr :: prev :: before).reverse :: dfs G T rem nbr (prev :: before)) := by
  unfold piece
  refine ite_sublist (List.nil_sublist _) (ite_sublist (List.nil_sublist _) (List.Sublist.append (l₂ := [_]) ?_ ?_))
  · exact ite_sublist (List.Sublist.refl _) (List.nil_sublist _)
  · exact ite_sublist (List.Sublist.refl _) (List.nil_sublist _)

/-- ★ "once each": the model never yields a path twice -/
theorem nodup_dfs (G : MG) (hn : G.nodes.Nodup) (T : List Nat) (rem prev : Nat) (before : List Nat) :
    (dfs G T rem prev before).Nodup := by
  induction rem generalizing prev before with
  | zero => rw [dfs]; exact List.nodup_nil
  | succ rem ih =>
    cases rem with
    | zero =>
      rw [dfs_one]
      refine List.Pairwise.map _ ?_ (List.Pairwise.filter _ (nodup_nbrs hn prev))
      intro a b hab h
      exact hab (List.cons.inj (List.reverse_inj.mp h)).1
    | succ rem =>
      rw [dfs_succ]
      have hmem : ∀ nbr, ∀ x ∈ (nbr :: prev :: before).reverse :: dfs G T (rem + 1) nbr (prev :: before),
          ∃ ext, x = (prev :: before).reverse ++ nbr :: ext := by
        intro nbr x hx
        rcases List.mem_cons.mp hx with rfl | hx
        · exact ⟨[], List.reverse_cons⟩
        · obtain ⟨ext, rfl, -⟩ := (mem_dfs G T (rem + 1) nbr (prev :: before) x).mp hx
          exact ⟨ext, reverse_cons_append nbr _ ext⟩
      refine nodup_flatMap_of_prefix (nodup_nbrs hn prev) (prev :: before).reverse
        (fun nbr _ => (piece_sublist G T (rem + 1) prev before nbr).nodup
          (List.nodup_cons.mpr ⟨?_, ih nbr (prev :: before)⟩))
        (fun nbr x hx => hmem nbr x ((piece_sublist G T (rem + 1) prev before nbr).subset hx))
      -- the path that ends at `nbr` is shorter than those that go on from it
      intro h
      obtain ⟨ext, he, hne, -⟩ := (mem_dfs G T (rem + 1) nbr (prev :: before) _).mp h
      exact hne (List.append_cancel_left ((List.append_nil _).trans he)).symm

theorem nodup_allSemiDirectedPaths {G : MG} (hn : G.nodes.Nodup) {s : Nat} {T : List Nat}
    {cutoff : Option Nat} {l : List (List Nat)} (h : allSemiDirectedPaths G s T cutoff = some l) : l.Nodup := by
  by_cases hs : s ∈ G.nodes
  · by_cases hsT : s ∈ T
    · rw [allSemiDirectedPaths, if_neg (fun h => h hs), if_pos hsT] at h
      cases h; exact List.nodup_nil
    · rw [allSemiDirectedPaths_eq hs hsT] at h
      cases h; exact nodup_dfs G hn T _ _ _
  · rw [allSemiDirectedPaths, if_pos hs] at h
    cases h

/-- ★ the oracle used by the harness *is* the specification -/
theorem mem_wantedDec {G : MG} {s : Nat} {T : List Nat} {cutoff : Option Nat} (hs : s ∈ G.nodes) (p : List Nat) :
    p ∈ wantedDec G s T cutoff ↔ Wanted G s T (effCutoff G cutoff) p := by
  unfold wantedDec
  simp only [List.mem_filter, decide_eq_true_eq, mem_simplePaths hs]
  constructor
  · exact fun h => h.2
  · exact fun h => ⟨⟨h.1.isPath, h.2.1⟩, h⟩

theorem allSemiDirectedPaths_eq_wantedDec {G : MG} {s : Nat} {T : List Nat} {cutoff : Option Nat}
    {l : List (List Nat)} (hs : s ∈ G.nodes) (hsT : s ∉ T) (h : allSemiDirectedPaths G s T cutoff = some l)
    (p : List Nat) : p ∈ l ↔ p ∈ wantedDec G s T cutoff := by
  rw [mem_allSemiDirectedPaths hs hsT h, mem_wantedDec hs]

end C16
