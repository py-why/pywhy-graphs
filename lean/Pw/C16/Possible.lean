import Pw.C16.Proofs
open Closure

/-! # C16: `possible_descendants` / `possible_ancestors` = closure characterisation -/
namespace C16

theorem ite_false_true {b : Bool} : (if b = true then false else true) = true ↔ b = false := by
  cases b <;> decide

/-- `reverse` chooses the end of the edge at which an arrowhead forbids the step -/
theorem possiblyDirected_iff {G : MG} {rev : Bool} {i j : Nat} :
    possiblyDirected G rev i j = true ↔ i ∈ nbrs G j ∧ ¬ (if rev then Arrow G i j else Arrow G j i) := by
  unfold possiblyDirected Arrow
  by_cases h : i ∈ nbrs G j
  · rw [if_neg (fun hn => hn h), and_iff_right h]
    cases rev
    · simp only [Bool.false_eq_true, if_false, ite_false_true, Bool.or_eq_false_iff, decide_eq_false_iff_not, not_or]
      exact ⟨fun h => ⟨h.1, h.2.2, h.2.1⟩, fun h => ⟨h.1, h.2.2, h.2.1⟩⟩
    · simp only [if_true, ite_false_true, Bool.or_eq_false_iff, decide_eq_false_iff_not, not_or]
  · rw [if_pos h]
    exact ⟨(fun e => nomatch e), fun e => absurd e.1 h⟩

theorem step_pdStep {G : MG} (hw : WF G) (rev : Bool) {v w : Nat} :
    Step G.nodes (pdStep G rev) v w ↔ if rev then Hop G w v else Hop G v w := by
  unfold Step pdStep Hop
  rw [List.mem_filter, possiblyDirected_iff, mem_nbrs_wf hw, mem_nbrs_wf hw]
  cases rev
  · exact ⟨fun h => ⟨h.1.1, h.1.2.2⟩, fun h => ⟨⟨h.1, h.1.symm, h.2⟩, (h.1.mem_nodes hw).2⟩⟩
  · exact ⟨fun h => ⟨h.1.2.1, h.1.2.2⟩, fun h => ⟨⟨h.1.symm, h.1, h.2⟩, (h.1.mem_nodes hw).1⟩⟩

theorem semiDirected_iff_pathTo {G : MG} {a b : Nat} (hn : a ∈ G.nodes ∨ b ∈ G.nodes) :
    (a = b ∨ ∃ p, SemiDirected G p ∧ p.head? = some a ∧ p.getLast? = some b) ↔ PathTo G (Hop G) a b := by
  constructor
  · rintro (rfl | ⟨p, ⟨-, hp⟩, hh, hl⟩)
    · exact ⟨[a], fun x hx => List.mem_singleton.mp hx ▸ hn.elim id id, List.pairwise_singleton _ a, trivial,
        rfl, rfl⟩
    · exact ⟨p, hp.1, hp.2.1, hp.2.2, hh, hl⟩
  · rintro ⟨p, hn, hnd, hc, hh, hl⟩
    exact Or.inr ⟨p, ⟨(by rintro rfl; cases hh), hn, hnd, hc⟩, hh, hl⟩

theorem possDesc_iff_pathTo {G : MG} {s : Nat} (hs : s ∈ G.nodes) {v : Nat} :
    PossDesc G s v ↔ PathTo G (Hop G) s v :=
  (or_congr eq_comm Iff.rfl).trans (semiDirected_iff_pathTo (Or.inl hs))

theorem possAnc_iff_pathTo {G : MG} {s : Nat} (hs : s ∈ G.nodes) {v : Nat} :
    PossAnc G s v ↔ PathTo G (Hop G) v s :=
  semiDirected_iff_pathTo (Or.inr hs)

/-- ★ `possible_descendants(G, s)` = `s` together with the ends of semi-directed paths from `s` -/
theorem mem_possibleDescendants {G : MG} (hw : WF G) {s : Nat} (hs : s ∈ G.nodes) (v : Nat) :
    v ∈ possibleDescendants G s ↔ PossDesc G s v := by
  rw [possibleDescendants, mem_closure_singleton, and_iff_right hs, possDesc_iff_pathTo hs,
    ← joined_iff_pathTo (fun _ _ h => (h.1.mem_nodes hw).2) hs]
  exact Joined.congr fun _ _ => step_pdStep hw false

/-- ★ `possible_ancestors(G, s)` = `s` together with the starts of semi-directed paths to `s` -/
theorem mem_possibleAncestors {G : MG} (hw : WF G) {s : Nat} (hs : s ∈ G.nodes) (v : Nat) :
    v ∈ possibleAncestors G s ↔ PossAnc G s v := by
  -- the search runs along reversed hops from `s`; a path found that way, read backwards, leads to `s`
  rw [possibleAncestors, mem_closure_singleton, and_iff_right hs, possAnc_iff_pathTo hs]
  exact (Joined.congr fun _ _ => step_pdStep hw true).trans
    ((joined_iff_pathTo (R := fun a b => Hop G b a) (fun _ _ h => (h.1.mem_nodes hw).1) hs).trans
      ⟨PathTo.reverse, PathTo.reverse⟩)

/-- ★ the oracles of the harness are the specification -/
theorem mem_possDescDec {G : MG} {s : Nat} (hs : s ∈ G.nodes) (v : Nat) :
    v ∈ possDescDec G s ↔ PossDesc G s v := by
  rw [possDescDec, mem_filterMap_simplePaths (fun _ _ h => h.1) hs, possDesc_iff_pathTo hs]

theorem mem_possAncDec {G : MG} {s : Nat} (hs : s ∈ G.nodes) (v : Nat) :
    v ∈ possAncDec G s ↔ PossAnc G s v := by
  rw [possAncDec, mem_filterMap_simplePaths (fun _ _ h => h.1.symm) hs, possAnc_iff_pathTo hs]
  exact ⟨PathTo.reverse, PathTo.reverse⟩

end C16
