import Pw.C16.Possible

/-! # C16: the two halves of the property tied together -/
namespace C16

theorem exists_path_iff {G : MG} {a b : Nat} (ha : a ∈ G.nodes) (hab : a ≠ b) :
    (∃ l p, allSemiDirectedPaths G a [b] none = some l ∧ p ∈ l) ↔
      ∃ p, SemiDirected G p ∧ p.head? = some a ∧ p.getLast? = some b := by
  have hT : a ∉ [b] := fun h => hab (List.mem_singleton.mp h)
  constructor
  · rintro ⟨l, p, hl, hp⟩
    obtain ⟨hsd, hh, ⟨t, ht, hlast⟩, -⟩ := (mem_allSemiDirectedPaths ha hT hl p).mp hp
    exact ⟨p, hsd, hh, List.mem_singleton.mp ht ▸ hlast⟩
  · rintro ⟨p, hsd, hh, hl⟩
    refine ⟨_, p, allSemiDirectedPaths_eq ha hT none, (mem_allSemiDirectedPaths ha hT
      (allSemiDirectedPaths_eq ha hT none) p).mpr ((wanted_none_iff p).mpr
        ⟨hsd, hh, ⟨b, List.mem_singleton_self b, hl⟩, ?_⟩)⟩
    obtain ⟨q, rfl⟩ := List.head?_eq_some_iff.mp hh
    cases q with
    | nil => exact absurd (Option.some.inj hl) hab
    | cons _ _ => exact Nat.le_add_left 2 _

/-- ★ a node other than `s` is a possible descendant of `s` exactly when `all_semi_directed_paths(G, s, v)`
    (default cutoff) yields something -/
theorem mem_possibleDescendants_iff_paths {G : MG} (hw : WF G) {s : Nat} (hs : s ∈ G.nodes) {v : Nat} (hvs : v ≠ s) :
    v ∈ possibleDescendants G s ↔ ∃ l p, allSemiDirectedPaths G s [v] none = some l ∧ p ∈ l := by
  rw [mem_possibleDescendants hw hs, exists_path_iff hs (Ne.symm hvs)]
  exact ⟨fun h => h.resolve_left hvs, Or.inr⟩

/-- ★ dually for possible ancestors: `v` is a possible ancestor of `s` iff `all_semi_directed_paths(G, v, s)`
    yields something -/
theorem mem_possibleAncestors_iff_paths {G : MG} (hw : WF G) {s : Nat} (hs : s ∈ G.nodes) {v : Nat} (hvs : v ≠ s)
    (hv : v ∈ G.nodes) :
    v ∈ possibleAncestors G s ↔ ∃ l p, allSemiDirectedPaths G v [s] none = some l ∧ p ∈ l := by
  rw [mem_possibleAncestors hw hs, exists_path_iff hv hvs]
  exact ⟨fun h => h.resolve_left hvs, Or.inr⟩

end C16
