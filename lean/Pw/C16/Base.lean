import Pw.Core.Graph

/-! # Shared vocabulary of C16 / C17 (PAG path searches)

Adjacency in *any* layer (`MixedEdgeGraph.neighbors` = union over the layers of predecessors and
successors), arrowheads (`has_edge(u,v,directed) or has_edge(u,v,bidirected)`), chains of a binary
relation along a node list (`ChainP`; `Joined` = joined by a walk, `PathTo` = joined by a duplicate-free walk
through nodes of the graph, `joined_iff_pathTo`), and the brute-force enumeration of all simple paths from a
node (`simplePaths`, `mem_simplePaths`) – the oracle both properties are compared against.  `Extends` is the
way that enumeration and the DFS of C16 grow a path, one node per call. -/
namespace C16

def Adj (G : MG) (u v : Nat) : Prop :=
  (u, v) ∈ G.dir ∨ (v, u) ∈ G.dir ∨ (u, v) ∈ G.bi ∨ (v, u) ∈ G.bi ∨
  (u, v) ∈ G.un ∨ (v, u) ∈ G.un ∨ (u, v) ∈ G.circ ∨ (v, u) ∈ G.circ

instance (G : MG) (u v : Nat) : Decidable (Adj G u v) := by unfold Adj; infer_instance

theorem Adj.symm {G : MG} {u v : Nat} (h : Adj G u v) : Adj G v u := by
  rcases h with h | h | h | h | h | h | h | h
  · exact .inr (.inl h)
  · exact .inl h
  · exact .inr (.inr (.inr (.inl h)))
  · exact .inr (.inr (.inl h))
  · exact .inr (.inr (.inr (.inr (.inr (.inl h)))))
  · exact .inr (.inr (.inr (.inr (.inl h))))
  · exact .inr (.inr (.inr (.inr (.inr (.inr (.inr h))))))
  · exact .inr (.inr (.inr (.inr (.inr (.inr (.inl h))))))

/-- arrowhead at `v` on the edge between `u` and `v`:
    `G.has_edge(u, v, "directed") or G.has_edge(u, v, "bidirected")` -/
def Arrow (G : MG) (u v : Nat) : Prop := (u, v) ∈ G.dir ∨ (u, v) ∈ G.bi ∨ (v, u) ∈ G.bi

instance (G : MG) (u v : Nat) : Decidable (Arrow G u v) := by unfold Arrow; infer_instance

/-- `MG.WF` with the circle marks included -/
def WF (G : MG) : Prop :=
  (∀ e ∈ G.dir, e.1 ∈ G.nodes ∧ e.2 ∈ G.nodes) ∧ (∀ e ∈ G.bi, e.1 ∈ G.nodes ∧ e.2 ∈ G.nodes) ∧
  (∀ e ∈ G.un, e.1 ∈ G.nodes ∧ e.2 ∈ G.nodes) ∧ (∀ e ∈ G.circ, e.1 ∈ G.nodes ∧ e.2 ∈ G.nodes)

instance (G : MG) : Decidable (WF G) := by unfold WF; infer_instance

theorem Adj.mem_nodes {G : MG} (h : WF G) {u v : Nat} (ha : Adj G u v) : u ∈ G.nodes ∧ v ∈ G.nodes := by
  obtain ⟨hd, hb, hu, hc⟩ := h
  rcases ha with h | h | h | h | h | h | h | h
  · exact hd _ h
  · exact (hd _ h).symm
  · exact hb _ h
  · exact (hb _ h).symm
  · exact hu _ h
  · exact (hu _ h).symm
  · exact hc _ h
  · exact (hc _ h).symm

/-- `G.neighbors(v)`: a Python set, modelled as the duplicate-free sub-list of the node list -/
def nbrs (G : MG) (v : Nat) : List Nat := G.nodes.filter fun w => decide (Adj G v w)

theorem mem_nbrs {G : MG} {v w : Nat} : w ∈ nbrs G v ↔ w ∈ G.nodes ∧ Adj G v w := by
  simp [nbrs]

theorem mem_nbrs_wf {G : MG} (h : WF G) {v w : Nat} : w ∈ nbrs G v ↔ Adj G v w := by
  rw [mem_nbrs]; exact ⟨fun h => h.2, fun ha => ⟨(ha.mem_nodes h).2, ha⟩⟩

theorem nodup_nbrs {G : MG} (h : G.nodes.Nodup) (v : Nat) : (nbrs G v).Nodup :=
  List.Pairwise.filter _ h

def ChainP (R : Nat → Nat → Prop) : List Nat → Prop
  | a :: b :: l => R a b ∧ ChainP R (b :: l)
  | _ => True

@[simp] theorem chainP_nil {R} : ChainP R [] := trivial
@[simp] theorem chainP_single {R} {a : Nat} : ChainP R [a] := trivial
@[simp] theorem chainP_cons_cons {R} {a b : Nat} {l} : ChainP R (a :: b :: l) ↔ R a b ∧ ChainP R (b :: l) :=
  Iff.rfl

instance {R : Nat → Nat → Prop} [DecidableRel R] : ∀ l, Decidable (ChainP R l)
  | [] => isTrue trivial
  | [_] => isTrue trivial
  | a :: b :: l =>
    have := instDecidableChainPOfDecidableRelNat (R := R) (b :: l)
    by rw [chainP_cons_cons]; infer_instance

theorem ChainP.tail {R} {a : Nat} {l} (h : ChainP R (a :: l)) : ChainP R l := by
  cases l with
  | nil => trivial
  | cons b l => exact h.2

theorem chainP_append {R} {l₁ : List Nat} {a : Nat} {l₂ : List Nat} :
    ChainP R (l₁ ++ a :: l₂) ↔ ChainP R (l₁ ++ [a]) ∧ ChainP R (a :: l₂) := by
  induction l₁ with
  | nil => simp
  | cons c l ih =>
    cases l with
    | nil => simp
    | cons d l => simp only [List.cons_append, chainP_cons_cons] at *; rw [ih]; simp [and_assoc]

theorem chainP_reverse {R} {l : List Nat} : ChainP R l.reverse ↔ ChainP (fun a b => R b a) l := by
  induction l with
  | nil => simp
  | cons a l ih =>
    cases l with
    | nil => simp
    | cons b l =>
      rw [List.reverse_cons, List.reverse_cons, List.append_assoc, List.singleton_append, chainP_append,
        ← List.reverse_cons, ih]
      exact ⟨fun h => ⟨h.2.1, h.1⟩, fun h => ⟨h.2, h.1, trivial⟩⟩

theorem ChainP.imp {R S : Nat → Nat → Prop} (H : ∀ a b, R a b → S a b) {l} (h : ChainP R l) : ChainP S l := by
  induction l with
  | nil => trivial
  | cons a l ih =>
    cases l with
    | nil => trivial
    | cons b l => exact ⟨H _ _ h.1, ih h.2⟩

/-- last node of a non-empty walk written as head + tail -/
def lastOf (a : Nat) (l : List Nat) : Nat := (a :: l).getLast (by simp)

@[simp] theorem lastOf_nil {a : Nat} : lastOf a [] = a := rfl
@[simp] theorem lastOf_cons {a b : Nat} {l} : lastOf a (b :: l) = lastOf b l := by
  simp [lastOf, List.getLast_cons]

theorem lastOf_mem {a : Nat} {l} : lastOf a l ∈ a :: l := List.getLast_mem _

theorem lastOf_append {a b : Nat} {l₁ l₂} : lastOf a (l₁ ++ b :: l₂) = lastOf b l₂ := by
  induction l₁ generalizing a with
  | nil => simp
  | cons c l ih => simp [ih]

theorem lastOf_snoc {a : Nat} {l : List Nat} {b : Nat} : lastOf a (l ++ [b]) = b := lastOf_append

theorem lastOf_mem_tail {a : Nat} {l : List Nat} (hl : l ≠ []) : lastOf a l ∈ l := by
  cases l with
  | nil => exact absurd rfl hl
  | cons b l => rw [lastOf_cons]; exact lastOf_mem

theorem getLast?_cons_eq_lastOf (a : Nat) (l : List Nat) : (a :: l).getLast? = some (lastOf a l) :=
  List.getLast?_eq_some_getLast _

theorem chainP_snoc {R : Nat → Nat → Prop} {a : Nat} {l : List Nat} {c : Nat}
    (h : ChainP R (a :: l)) (hr : R (lastOf a l) c) : ChainP R (a :: (l ++ [c])) := by
  induction l generalizing a with
  | nil => exact ⟨hr, trivial⟩
  | cons b l ih => exact ⟨h.1, ih h.2 hr⟩

/-- **walk ⇒ path**: a chain from `a` to `v` contains a duplicate-free chain from `a` to `v`
    (the relation is between consecutive nodes only, so cutting loops is harmless) -/
theorem chain_to_path {R : Nat → Nat → Prop} (a : Nat) (l : List Nat) (h : ChainP R (a :: l)) :
    ∃ l', ChainP R (a :: l') ∧ (a :: l').Nodup ∧ lastOf a l' = lastOf a l ∧ l' ⊆ l := by
  induction l generalizing a with
  | nil => exact ⟨[], trivial, by simp, rfl, fun _ h => h⟩
  | cons b l ih =>
    obtain ⟨l', hc, hn, hl, hs⟩ := ih b h.2
    by_cases hab : a ∈ b :: l'
    · -- cut back to the occurrence of `a`
      obtain ⟨pre, post, hsplit⟩ := List.append_of_mem hab
      have hlast : lastOf b l' = lastOf a post := by
        cases pre with
        | nil => cases hsplit; rfl
        | cons c pre => cases hsplit; exact lastOf_append
      rw [hsplit] at hc hn
      exact ⟨post, (chainP_append.mp hc).2, (List.nodup_append.mp hn).2.1, by rw [lastOf_cons, ← hl, hlast],
        fun x hx => List.cons_subset_cons b hs (hsplit ▸ List.mem_append_right _ (List.mem_cons_of_mem _ hx))⟩
    · exact ⟨b :: l', ⟨h.1, hc⟩, List.nodup_cons.mpr ⟨hab, hn⟩, by rw [lastOf_cons, lastOf_cons, hl],
        List.cons_subset_cons b hs⟩

/-- a walk along `R` from `a` to `b`: the list of its nodes after `a` -/
def Joined (R : Nat → Nat → Prop) (a b : Nat) : Prop := ∃ l, ChainP R (a :: l) ∧ lastOf a l = b

section
variable {R S : Nat → Nat → Prop} {a b c : Nat} {U : List Nat} {step : Nat → List Nat}

theorem Joined.refl (R : Nat → Nat → Prop) (a : Nat) : Joined R a a := ⟨[], trivial, rfl⟩

theorem Joined.snoc (h : Joined R a b) (hbc : R b c) : Joined R a c := by
  obtain ⟨l, hc, rfl⟩ := h
  exact ⟨l ++ [c], chainP_snoc hc hbc, lastOf_snoc⟩

theorem Joined.cons (hab : R a b) (h : Joined R b c) : Joined R a c := by
  obtain ⟨l, hc, hl⟩ := h
  exact ⟨b :: l, ⟨hab, hc⟩, lastOf_cons.trans hl⟩

theorem Joined.head_induction (h : Joined R a b) {P : Nat → Prop} (refl : P b)
    (step : ∀ a c, R a c → P c → P a) : P a := by
  obtain ⟨l, hc, hl⟩ := h
  induction l generalizing a with
  | nil => exact (show a = b from hl) ▸ refl
  | cons c l ih => exact step a c hc.1 (ih hc.2 (lastOf_cons.symm.trans hl))

theorem Joined.trans (h1 : Joined R a b) (h2 : Joined R b c) : Joined R a c :=
  h1.head_induction (P := fun a => Joined R a c) h2 fun _ _ hr ih => Joined.cons hr ih

theorem Joined.reverse (h : Joined R a b) : Joined (fun u v => R v u) b a :=
  h.head_induction (P := fun a => Joined (fun u v => R v u) b a) (Joined.refl _ b) fun _ _ hr ih => ih.snoc hr

theorem Joined.imp (H : ∀ a b, R a b → S a b) (h : Joined R a b) : Joined S a b := by
  obtain ⟨l, hc, hl⟩ := h
  exact ⟨l, hc.imp H, hl⟩

theorem Joined.congr (H : ∀ a b, R a b ↔ S a b) : Joined R a b ↔ Joined S a b :=
  ⟨Joined.imp fun a b => (H a b).mp, Joined.imp fun a b => (H a b).mpr⟩

theorem reach_iff_chain :
    Closure.Reach U step a b ↔ Joined (Closure.Step U step) a b := by
  constructor
  · intro h
    induction h with
    | refl => exact Joined.refl _ _
    | tail _ hs ih => exact ih.snoc hs
  · exact fun h => h.head_induction (P := fun a => Closure.Reach U step a b) (Closure.Reach.refl b)
      fun _ _ hr ih => Closure.Reach.head hr ih

theorem mem_closure_singleton {s v : Nat} :
    v ∈ Closure.closure U step [s] ↔ s ∈ U ∧ Joined (Closure.Step U step) s v := by
  rw [Closure.mem_closure, ← reach_iff_chain]
  constructor
  · rintro ⟨_, hw, hU, hr⟩; exact List.mem_singleton.mp hw ▸ ⟨hU, hr⟩
  · rintro ⟨hU, hr⟩; exact ⟨s, List.mem_singleton_self s, hU, hr⟩

end

def PathTo (G : MG) (R : Nat → Nat → Prop) (s v : Nat) : Prop :=
  ∃ p, (∀ x ∈ p, x ∈ G.nodes) ∧ p.Nodup ∧ ChainP R p ∧ p.head? = some s ∧ p.getLast? = some v

theorem ChainP.nodes {G : MG} {R : Nat → Nat → Prop} (hR : ∀ a b, R a b → b ∈ G.nodes)
    {l : List Nat} {a : Nat} (ha : a ∈ G.nodes) (hc : ChainP R (a :: l)) : ∀ x ∈ a :: l, x ∈ G.nodes := by
  induction l generalizing a with
  | nil => exact fun _ hx => List.mem_singleton.mp hx ▸ ha
  | cons b l ih => exact List.forall_mem_cons.mpr ⟨ha, ih (hR _ _ hc.1) hc.2⟩

theorem joined_iff_pathTo {G : MG} {R : Nat → Nat → Prop} (hR : ∀ a b, R a b → b ∈ G.nodes)
    {s : Nat} (hs : s ∈ G.nodes) {v : Nat} : Joined R s v ↔ PathTo G R s v := by
  constructor
  · rintro ⟨l, hc, rfl⟩
    obtain ⟨l', hc', hnd, hlast, -⟩ := chain_to_path s l hc
    exact ⟨s :: l', hc'.nodes hR hs, hnd, hc', rfl, by rw [getLast?_cons_eq_lastOf, hlast]⟩
  · rintro ⟨p, -, -, hc, hh, hl⟩
    obtain ⟨l, rfl⟩ := List.head?_eq_some_iff.mp hh
    exact ⟨l, hc, Option.some.inj ((getLast?_cons_eq_lastOf s l).symm.trans hl)⟩

theorem PathTo.reverse {G : MG} {R : Nat → Nat → Prop} {s v : Nat} (h : PathTo G R s v) :
    PathTo G (fun a b => R b a) v s := by
  obtain ⟨p, hn, hnd, hc, hh, hl⟩ := h
  exact ⟨p.reverse, fun x hx => hn x (List.mem_reverse.mp hx), (List.reverse_perm p).nodup_iff.mpr hnd,
    (chainP_reverse (R := fun a b => R b a)).mpr hc, List.head?_reverse.trans hl, List.getLast?_reverse.trans hh⟩

/-- all duplicate-free adjacency paths that extend the reversed path `cur :: before` by at most
    `fuel` further nodes, each written in forward order -/
def extend (G : MG) : Nat → Nat → List Nat → List (List Nat)
  | 0, cur, before => [(cur :: before).reverse]
  | fuel + 1, cur, before =>
    (cur :: before).reverse ::
      ((nbrs G cur).filter fun w => decide (w ∉ cur :: before)).flatMap fun w =>
        extend G fuel w (cur :: before)

/-- every simple path of the adjacency graph that starts at `s` (including the one-node path) -/
def simplePaths (G : MG) (s : Nat) : List (List Nat) := extend G G.nodes.length s []

def IsPath (G : MG) (p : List Nat) : Prop := (∀ v ∈ p, v ∈ G.nodes) ∧ p.Nodup ∧ ChainP (Adj G) p

instance (G : MG) (p : List Nat) : Decidable (IsPath G p) := by unfold IsPath; infer_instance

theorem IsPath.length_le {G : MG} {p : List Nat} (h : IsPath G p) : p.length ≤ G.nodes.length :=
  List.Nodup.length_le_of_subset h.2.1 (fun v hv => h.1 v hv)

/-- `ext` continues the path `(cur :: before).reverse` the way the oracle and the DFS of
    `all_semi_directed_paths` grow theirs, one node per recursive call -/
def Extends (G : MG) (R : Nat → Nat → Prop) : Nat → List Nat → List Nat → Prop
  | _, _, [] => True
  | cur, before, w :: ext => (w ∈ G.nodes ∧ R cur w ∧ w ∉ cur :: before) ∧ Extends G R w (cur :: before) ext

theorem extends_iff {G : MG} {R : Nat → Nat → Prop} {ext : List Nat} {cur : Nat} {before : List Nat} :
    Extends G R cur before ext ↔
      (∀ v ∈ ext, v ∈ G.nodes) ∧ ChainP R (cur :: ext) ∧ ext.Nodup ∧ ∀ v ∈ ext, v ∉ cur :: before := by
  induction ext generalizing cur before with
  | nil => simp [Extends]
  | cons w ext ih =>
    rw [Extends, ih]
    simp only [List.forall_mem_cons, chainP_cons_cons, List.nodup_cons]
    constructor
    · rintro ⟨⟨hw, hr, hwv⟩, hn, hc, hnd, hd⟩
      exact ⟨⟨hw, hn⟩, ⟨hr, hc⟩, ⟨fun h => hd w h List.mem_cons_self, hnd⟩, hwv,
        fun v hv h => hd v hv (List.mem_cons_of_mem _ h)⟩
    · rintro ⟨⟨hw, hn⟩, ⟨hr, hc⟩, ⟨hwe, hnd⟩, hwv, hd⟩
      exact ⟨⟨hw, hr, hwv⟩, hn, hc, hnd,
        fun v hv h => (List.mem_cons.mp h).elim (fun e => hwe (e ▸ hv)) (hd v hv)⟩

theorem Extends.fresh {G : MG} {R : Nat → Nat → Prop} {ext : List Nat} {cur : Nat} {before : List Nat}
    (h : Extends G R cur before ext) {v : Nat} (hv : v ∈ ext) : v ∉ cur :: before :=
  (extends_iff.mp h).2.2.2 v hv

theorem extends_root {G : MG} {R : Nat → Nat → Prop} {s : Nat} (hs : s ∈ G.nodes) {ext : List Nat} :
    Extends G R s [] ext ↔ (∀ v ∈ s :: ext, v ∈ G.nodes) ∧ (s :: ext).Nodup ∧ ChainP R (s :: ext) := by
  rw [extends_iff]
  simp only [List.forall_mem_cons, List.nodup_cons, List.mem_singleton]
  constructor
  · rintro ⟨hn, hc, hnd, hd⟩
    exact ⟨⟨hs, hn⟩, ⟨fun h => hd s h rfl, hnd⟩, hc⟩
  · rintro ⟨⟨-, hn⟩, ⟨hse, hnd⟩, hc⟩
    exact ⟨hn, hc, hnd, fun v hv e => hse (e ▸ hv)⟩

theorem reverse_cons_append {α : Type} (w : α) (l ext : List α) :
    (w :: l).reverse ++ ext = l.reverse ++ w :: ext := by
  rw [List.reverse_cons, List.append_assoc, List.singleton_append]

theorem mem_extend {G : MG} {fuel cur : Nat} {before p : List Nat} :
    p ∈ extend G fuel cur before ↔
      ∃ ext, p = (cur :: before).reverse ++ ext ∧ ext.length ≤ fuel ∧ Extends G (Adj G) cur before ext := by
  induction fuel generalizing cur before p with
  | zero =>
    rw [extend, List.mem_singleton]
    constructor
    · rintro rfl; exact ⟨[], (List.append_nil _).symm, Nat.le_refl _, trivial⟩
    · rintro ⟨ext, rfl, hl, -⟩
      rw [List.eq_nil_of_length_eq_zero (Nat.le_zero.mp hl), List.append_nil]
  | succ fuel ih =>
    rw [extend, List.mem_cons]
    simp only [List.mem_flatMap, List.mem_filter, decide_eq_true_eq, mem_nbrs, ih]
    constructor
    · rintro (rfl | ⟨w, ⟨⟨hwn, hadj⟩, hwv⟩, ext, rfl, hl, hext⟩)
      · exact ⟨[], (List.append_nil _).symm, Nat.zero_le _, trivial⟩
      · exact ⟨w :: ext, reverse_cons_append w _ ext, Nat.succ_le_succ hl, ⟨hwn, hadj, hwv⟩, hext⟩
    · rintro ⟨ext, rfl, hl, hext⟩
      cases ext with
      | nil => exact Or.inl (List.append_nil _)
      | cons w ext =>
        obtain ⟨⟨hwn, hadj, hwv⟩, hext⟩ := hext
        exact Or.inr ⟨w, ⟨⟨hwn, hadj⟩, hwv⟩, ext, (reverse_cons_append w _ ext).symm,
          Nat.le_of_succ_le_succ hl, hext⟩

theorem mem_simplePaths {G : MG} {s : Nat} {p : List Nat} (hs : s ∈ G.nodes) :
    p ∈ simplePaths G s ↔ IsPath G p ∧ p.head? = some s := by
  rw [simplePaths, mem_extend, List.head?_eq_some_iff]
  constructor
  · rintro ⟨ext, rfl, -, hext⟩
    exact ⟨(extends_root hs).mp hext, ext, rfl⟩
  · rintro ⟨hp, ext, rfl⟩
    exact ⟨ext, rfl, Nat.le_of_succ_le hp.length_le, (extends_root hs).mpr hp⟩

theorem nodup_flatMap_of_prefix {l : List Nat} (hl : l.Nodup) (pre : List Nat) {f : Nat → List (List Nat)}
    (hf : ∀ a ∈ l, (f a).Nodup) (hpre : ∀ a, ∀ x ∈ f a, ∃ ext, x = pre ++ a :: ext) : (l.flatMap f).Nodup := by
  rw [List.Nodup, List.pairwise_flatMap]
  refine ⟨hf, List.Pairwise.imp ?_ hl⟩
  intro a b hab x hx y hy hxy
  obtain ⟨e1, rfl⟩ := hpre a x hx
  obtain ⟨e2, rfl⟩ := hpre b y hy
  exact hab (List.cons.inj (List.append_cancel_left hxy)).1

theorem nodup_extend {G : MG} (hn : G.nodes.Nodup) {fuel cur : Nat} {before : List Nat} :
    (extend G fuel cur before).Nodup := by
  induction fuel generalizing cur before with
  | zero => exact List.pairwise_singleton _ _
  | succ fuel ih =>
    rw [extend, List.nodup_cons]
    constructor
    · -- the current path is shorter than every extension
      intro hmem
      obtain ⟨w, -, hp⟩ := List.mem_flatMap.mp hmem
      obtain ⟨ext, he, -⟩ := mem_extend.mp hp
      simpa using congrArg List.length he
    · refine nodup_flatMap_of_prefix (List.Pairwise.filter _ (nodup_nbrs hn cur)) (cur :: before).reverse
        (fun _ _ => ih) ?_
      intro w x hx
      obtain ⟨ext, rfl, -⟩ := mem_extend.mp hx
      exact ⟨ext, reverse_cons_append w _ ext⟩

theorem nodup_simplePaths {G : MG} (hn : G.nodes.Nodup) (s : Nat) : (simplePaths G s).Nodup :=
  nodup_extend hn

theorem mem_filterMap_simplePaths {G : MG} {R : Nat → Nat → Prop} {d : ∀ p, Decidable (ChainP R p)}
    (hR : ∀ a b, R a b → Adj G a b) {s : Nat} (hs : s ∈ G.nodes) {v : Nat} :
    v ∈ (simplePaths G s).filterMap (fun p => if ChainP R p then p.getLast? else none) ↔ PathTo G R s v := by
  simp only [List.mem_filterMap, mem_simplePaths hs]
  constructor
  · rintro ⟨p, ⟨⟨hn, hnd, -⟩, hh⟩, hv⟩
    by_cases hc : ChainP R p
    · rw [if_pos hc] at hv; exact ⟨p, hn, hnd, hc, hh, hv⟩
    · rw [if_neg hc] at hv; cases hv
  · rintro ⟨p, hn, hnd, hc, hh, hl⟩
    exact ⟨p, ⟨⟨hn, hnd, hc.imp hR⟩, hh⟩, (if_pos hc).trans hl⟩

end C16
